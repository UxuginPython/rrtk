/-
C06 — motion-profile accessors agree at every instant.

Tier S (arbitrary scalar `F`, no algebraic law, every `t : Int`, every `MotionProfile` value unless a hypothesis is stated),
except `new_times_ordered`, which is tier L: it names the order facts about the scalar it uses (all true of every IEEE
binary32 value, NaN included).  Each accessor is a selection by piece (`getMode_eq`, … in `Thm/Lemmas/C06Profile.lean`,
`Rrtk.Thm.MpL`, opened here), so the statements below are case distinctions on `getPiece mp t`.  The examples at the end are over
a toy `Int` scalar and over `ℚ` (`Lemmas/Exact.lean`; `Rat.floor` for its cast to `Int`).
-/
import Rrtk.Thm.Lemmas.C06Profile
import Rrtk.Thm.Lemmas.Exact
import Mathlib.Data.Rat.Floor
set_option linter.unusedSectionVars false
namespace Rrtk.Thm.C06
open Rrtk Rrtk.Thm.MpL MotionProfile

section
variable {F : Type}

/-- the if-chain of `get_piece`, read off as conditions on `t` (any `t1, t2, t3`, in any order) -/
theorem piece_cases (mp : MotionProfile F) (t : Int) :
    (t < 0 ∧ getPiece mp t = .beforeStart) ∨
    (0 ≤ t ∧ t < mp.t1 ∧ getPiece mp t = .initialAcceleration) ∨
    (0 ≤ t ∧ mp.t1 ≤ t ∧ t < mp.t2 ∧ getPiece mp t = .constantVelocity) ∨
    (0 ≤ t ∧ mp.t1 ≤ t ∧ mp.t2 ≤ t ∧ t < mp.t3 ∧ getPiece mp t = .endAcceleration) ∨
    (0 ≤ t ∧ mp.t1 ≤ t ∧ mp.t2 ≤ t ∧ mp.t3 ≤ t ∧ getPiece mp t = .complete) := by
  unfold getPiece
  by_cases h0 : t < 0
  · rw [if_pos h0]; exact .inl ⟨h0, rfl⟩
  rw [if_neg h0]
  by_cases h1 : t < mp.t1
  · rw [if_pos h1]; exact .inr (.inl ⟨Int.not_lt.1 h0, h1, rfl⟩)
  rw [if_neg h1]
  by_cases h2 : t < mp.t2
  · rw [if_pos h2]; exact .inr (.inr (.inl ⟨Int.not_lt.1 h0, Int.not_lt.1 h1, h2, rfl⟩))
  rw [if_neg h2]
  by_cases h3 : t < mp.t3
  · rw [if_pos h3]; exact .inr (.inr (.inr (.inl ⟨Int.not_lt.1 h0, Int.not_lt.1 h1, Int.not_lt.1 h2, h3, rfl⟩)))
  · rw [if_neg h3]
    exact .inr (.inr (.inr (.inr ⟨Int.not_lt.1 h0, Int.not_lt.1 h1, Int.not_lt.1 h2, Int.not_lt.1 h3, rfl⟩)))

theorem piece_initial_iff (mp : MotionProfile F) (t : Int) :
    getPiece mp t = .initialAcceleration ↔ 0 ≤ t ∧ t < mp.t1 := by
  rcases piece_cases mp t with h | h | h | h | h <;> simp [h]
theorem piece_constant_iff (mp : MotionProfile F) (t : Int) :
    getPiece mp t = .constantVelocity ↔ 0 ≤ t ∧ mp.t1 ≤ t ∧ t < mp.t2 := by
  rcases piece_cases mp t with h | h | h | h | h <;> simp [h]
theorem piece_end_iff (mp : MotionProfile F) (t : Int) :
    getPiece mp t = .endAcceleration ↔ 0 ≤ t ∧ mp.t1 ≤ t ∧ mp.t2 ≤ t ∧ t < mp.t3 := by
  rcases piece_cases mp t with h | h | h | h | h <;> simp [h]
theorem piece_complete_iff (mp : MotionProfile F) (t : Int) :
    getPiece mp t = .complete ↔ 0 ≤ t ∧ mp.t1 ≤ t ∧ mp.t2 ≤ t ∧ mp.t3 ≤ t := by
  rcases piece_cases mp t with h | h | h | h | h <;> simp [h]
theorem piece_complete_iff_ordered (mp : MotionProfile F) (t : Int)
    (hord : 0 ≤ mp.t1 ∧ mp.t1 ≤ mp.t2 ∧ mp.t2 ≤ mp.t3) :
    getPiece mp t = .complete ↔ mp.t3 ≤ t := by
  rw [piece_complete_iff]; omega
end

section S
variable {F : Type} [Add F] [Sub F] [Mul F] [Div F] [Neg F] [LT F] [LE F] [BEq F]
  [DecidableLT F] [DecidableLE F] [FloatLike F]

theorem piece_moving_iff_ordered (mp : MotionProfile F) (t : Int)
    (hord : 0 ≤ mp.t1 ∧ mp.t1 ≤ mp.t2 ∧ mp.t2 ≤ mp.t3) :
    (getPiece mp t ≠ .beforeStart ∧ getPiece mp t ≠ .complete) ↔ (0 ≤ t ∧ t < mp.t3) := by
  rcases piece_cases mp t with h | h | h | h | h <;> simp [h] <;> omega

theorem before_start_iff (mp : MotionProfile F) (t : Int) : getPiece mp t = .beforeStart ↔ t < 0 := by
  rcases piece_cases mp t with h | h | h | h | h <;> simp [h]

theorem mode_none_iff (mp : MotionProfile F) (t : Int) : getMode mp t = none ↔ t < 0 := by
  rw [getMode_eq, MpPiece.pick_none_iff, before_start_iff]

theorem acc_none_iff (chk : Bool) (mp : MotionProfile F) (t : Int) : getAcceleration chk mp t = none ↔ t < 0 := by
  rw [getAcceleration_eq, MpPiece.pick_none_iff, before_start_iff]

theorem acc_present_iff (chk : Bool) (mp : MotionProfile F) (t : Int) :
    (∃ q, getAcceleration chk mp t = some q) ↔ 0 ≤ t := by
  rw [← Int.not_lt, ← acc_none_iff chk mp t]
  cases getAcceleration chk mp t <;> simp

/-- for EVERY profile value: the other branches of `History::get` end in `Some` or in a panic, never in `None` -/
theorem hist_none_iff (chk : Bool) (mp : MotionProfile F) (t : Int) : historyGet chk mp t = .ok none ↔ t < 0 := by
  rw [← mode_none_iff mp t]
  unfold historyGet
  cases getMode mp t with
  | none => simp
  | some mode =>
    simp only [reduceCtorEq, iff_false]
    split <;> exact fun h => nomatch h

theorem all_absent_before_start (chk : Bool) (mp : MotionProfile F) (t : Int) (h : t < 0) :
    getPiece mp t = .beforeStart ∧ getMode mp t = none ∧ getAcceleration chk mp t = none ∧
    getVelocity chk mp t = .ok none ∧ getPosition chk mp t = .ok none ∧ historyGet chk mp t = .ok none := by
  refine ⟨(before_start_iff mp t).2 h, (mode_none_iff mp t).2 h, (acc_none_iff chk mp t).2 h, ?_, ?_,
    (hist_none_iff chk mp t).2 h⟩
  · simp [getVelocity, h]
  · simp [getPosition, h]

/-- monotone for ANY `t1, t2, t3` (ordered or not): a property of the if-chain -/
theorem piece_rank_mono (mp : MotionProfile F) (t t' : Int) (h : t ≤ t') :
    (getPiece mp t).rank ≤ (getPiece mp t').rank := by
  -- each of the 25 pairs of cases fixes both ranks and places `t`, `t'` among the same `0, t1, t2, t3`; a falling rank contradicts `t ≤ t'`
  rcases piece_cases mp t with a | a | a | a | a <;> rcases piece_cases mp t' with b | b | b | b | b <;>
    simp only [a, b, MpPiece.rank] <;> omega

theorem complete_forever (mp : MotionProfile F) (t t' : Int) (h : t ≤ t') (hc : getPiece mp t = .complete) :
    getPiece mp t' = .complete := by
  rw [piece_complete_iff] at hc ⊢
  omega

theorem pieces_in_order (mp : MotionProfile F) (h1 : 0 < mp.t1) (h2 : mp.t1 < mp.t2) (h3 : mp.t2 < mp.t3) :
    getPiece mp (-1) = .beforeStart ∧ getPiece mp 0 = .initialAcceleration ∧
    getPiece mp mp.t1 = .constantVelocity ∧ getPiece mp mp.t2 = .endAcceleration ∧ getPiece mp mp.t3 = .complete := by
  refine ⟨(before_start_iff _ _).2 (by omega), (piece_initial_iff _ _).2 (by omega),
    (piece_constant_iff _ _).2 (by omega), (piece_end_iff _ _).2 (by omega), (piece_complete_iff _ _).2 (by omega)⟩

theorem mode_matches_piece (mp : MotionProfile F) (t : Int) :
    getMode mp t =
      match getPiece mp t with
      | .beforeStart => none
      | .initialAcceleration => some .acceleration
      | .constantVelocity => some .velocity
      | .endAcceleration => some .acceleration
      | .complete => some mp.endCommand.kind := by
  rw [getMode_eq]
  cases getPiece mp t <;> rfl

/-- on the three moving pieces the mode is the crate's own `TryFrom<MotionProfilePiece>` conversion -/
theorem mode_eq_toPosDer (mp : MotionProfile F) (t : Int)
    (hb : getPiece mp t ≠ .beforeStart) (hc : getPiece mp t ≠ .complete) :
    getMode mp t = (getPiece mp t).toPosDer := by
  rw [mode_matches_piece]
  cases hp : getPiece mp t
  case beforeStart => exact absurd hp hb
  case complete => exact absurd hp hc
  all_goals rfl

theorem toPosDer_none_iff (mp : MotionProfile F) (t : Int) :
    (getPiece mp t).toPosDer = none ↔ (getPiece mp t = .beforeStart ∨ getPiece mp t = .complete) := by
  cases hp : getPiece mp t <;> simp [MpPiece.toPosDer]

theorem endcmd_vel_some_iff (chk : Bool) (c : Command F) :
    (∃ q, c.getVelocity chk = some q) ↔ (c.kind = .position ∨ c.kind = .velocity) := by
  cases c <;> simp [Command.getVelocity, Command.kind]
theorem endcmd_pos_some_iff (chk : Bool) (c : Command F) :
    (∃ q, c.getPosition chk = some q) ↔ c.kind = .position := by
  cases c <;> simp [Command.getPosition, Command.kind]

theorem vel_complete (chk : Bool) (mp : MotionProfile F) (t : Int) (hc : getPiece mp t = .complete) :
    getVelocity chk mp t = .ok (mp.endCommand.getVelocity chk) := by
  rw [getVelocity_eq, hc]; rfl
theorem pos_complete (chk : Bool) (mp : MotionProfile F) (t : Int) (hc : getPiece mp t = .complete) :
    getPosition chk mp t = .ok (mp.endCommand.getPosition chk) := by
  unfold getPosition
  rw [chain_eq_pick, hc]; rfl

/-- for EVERY profile value: during the move the accessor answers `Some` or a unit panic, never `None` -/
theorem vel_absent_iff (chk : Bool) (mp : MotionProfile F) (t : Int) :
    getVelocity chk mp t = .ok none ↔
      (t < 0 ∨ (getPiece mp t = .complete ∧ mp.endCommand.kind = .acceleration)) := by
  have hv (τ : Int) : C07.velFormula chk mp τ ≠ .ok none := Except.map_some_ne_none _
  rw [getVelocity_eq, MpPiece.pick_eq_iff (hv _) (hv _) (hv _), before_start_iff]
  cases mp.endCommand <;> simp [Command.getVelocity, Command.kind]

theorem vel_present_iff (chk : Bool) (mp : MotionProfile F) (hwf : WF chk mp) (t : Int) :
    (∃ q, getVelocity chk mp t = .ok (some q)) ↔
      (0 ≤ t ∧ (getPiece mp t = .complete → (mp.endCommand.kind = .position ∨ mp.endCommand.kind = .velocity))) := by
  rw [getVelocity_wf hwf t, velOpt, ← Int.not_lt, ← before_start_iff mp t]
  cases getPiece mp t <;> simp
  -- left: the piece `complete`
  exact endcmd_vel_some_iff chk mp.endCommand

theorem pos_absent_iff (chk : Bool) (mp : MotionProfile F) (t : Int) :
    getPosition chk mp t = .ok none ↔
      (t < 0 ∨ (getPiece mp t = .complete ∧ mp.endCommand.kind ≠ .position)) := by
  unfold getPosition
  rw [chain_eq_pick, MpPiece.pick_eq_iff (Except.map_some_ne_none _) (Except.map_some_ne_none _) ?_,
    before_start_iff]
  · cases mp.endCommand <;> simp [Command.getPosition, Command.kind]
  · dsimp only
    split
    · simp
    · exact Except.map_some_ne_none _

theorem pos_present_iff (chk : Bool) (mp : MotionProfile F) (hwf : WF chk mp) (t : Int) :
    (∃ q, getPosition chk mp t = .ok (some q)) ↔
      (0 ≤ t ∧ (getPiece mp t = .complete → mp.endCommand.kind = .position)) := by
  rw [getPosition_wf hwf t, posOpt, ← Int.not_lt, ← before_start_iff mp t]
  cases getPiece mp t <;> simp
  -- left: the piece `complete`
  exact endcmd_pos_some_iff chk mp.endCommand

/-- If `History::get` answers `Some d`, then the mode is present, the accessor *of that mode* answered `Some q`
at the same `t`, and `d` is literally `Datum::new(t, Command::new(mode, q.value))`: the payload is the same term
as the accessor's value (bit-identical in binary32). Any profile value. -/
theorem history_eq_accessor (chk : Bool) (mp : MotionProfile F) (t : Int) (d : Datum (Command F))
    (h : historyGet chk mp t = .ok (some d)) :
    ∃ mode q, getMode mp t = some mode ∧
      (match mode with
        | .position => getPosition chk mp t = .ok (some q)
        | .velocity => getVelocity chk mp t = .ok (some q)
        | .acceleration => getAcceleration chk mp t = some q) ∧
      d = ⟨t, Command.new mode q.value⟩ := by
  unfold historyGet at h
  cases hm : getMode mp t with
  | none => simp [hm] at h
  | some mode =>
    simp only [hm] at h
    -- whatever the mode, a `Some` answer means the accessor selected by it answered `Some q`
    split at h
    · cases h
    · cases h
    · rename_i q hq
      injection h with h; injection h with h
      refine ⟨mode, q, rfl, ?_, h.symm⟩
      cases mode <;> simpa using hq

theorem history_stamp_kind_value (chk : Bool) (mp : MotionProfile F) (t : Int) (d : Datum (Command F))
    (h : historyGet chk mp t = .ok (some d)) :
    d.time = t ∧ getMode mp t = some d.value.kind ∧
      (match d.value.kind with
        | .position => ∃ q, getPosition chk mp t = .ok (some q) ∧ q.value = d.value.raw
        | .velocity => ∃ q, getVelocity chk mp t = .ok (some q) ∧ q.value = d.value.raw
        | .acceleration => ∃ q, getAcceleration chk mp t = some q ∧ q.value = d.value.raw) := by
  obtain ⟨mode, q, hm, hacc, rfl⟩ := history_eq_accessor chk mp t d h
  refine ⟨rfl, by simp [hm, Command.kind_new], ?_⟩
  simp only [Command.kind_new, Command.raw_new]
  cases mode <;> exact ⟨q, hacc, rfl⟩

/-- with checking, `maxAcc` has its unit because a returned profile had `max_acc` in mm/s² (`new_true`) -/
theorem new_wf (chk : Bool) (s e : State F) (mv ma : Quantity F) (mp : MotionProfile F)
    (h : MotionProfile.new chk s e mv ma = .ok mp) : WF chk mp := by
  obtain ⟨-, -, -, rfl⟩ := new_ok h
  exact ⟨rfl, rfl, rfl⟩

theorem new_true_limits_units (s e : State F) (mv ma : Quantity F) (mp : MotionProfile F)
    (h : MotionProfile.new true s e mv ma = .ok mp) : mv.unit = ⟨1, -1⟩ ∧ ma.unit = ⟨1, -2⟩ :=
  goodLimits_of_ok h rfl

theorem new_end_command (chk : Bool) (s e : State F) (mv ma : Quantity F) (mp : MotionProfile F)
    (h : MotionProfile.new chk s e mv ma = .ok mp) : mp.endCommand = Command.ofState e := by
  obtain ⟨-, -, -, rfl⟩ := new_ok h
  rfl

theorem history_wf (chk : Bool) (mp : MotionProfile F) (hwf : WF chk mp) (t : Int) :
    historyGet chk mp t = .ok
      (match getPiece mp t with
        | .beforeStart => none
        | .initialAcceleration => some ⟨t, .acceleration mp.maxAcc.value⟩
        | .constantVelocity => some ⟨t, .velocity (velF mp mp.t1)⟩
        | .endAcceleration => some ⟨t, .acceleration (-mp.maxAcc.value)⟩
        | .complete => some ⟨t, mp.endCommand⟩) := by
  unfold historyGet
  rw [getMode_eq, getAcceleration_eq, getVelocity_wf hwf t, getPosition_wf hwf t]
  unfold velOpt posOpt
  cases getPiece mp t
  case complete => cases mp.endCommand <;> rfl
  all_goals rfl

/-- on a well-dimensioned profile no accessor panics at any `t`: in particular none of the three `expect`s of
`History::get` is ever hit, and no unit assertion fires -/
theorem history_no_panic (chk : Bool) (mp : MotionProfile F) (hwf : WF chk mp) (t : Int) :
    (∃ r, getVelocity chk mp t = .ok r) ∧ (∃ r, getPosition chk mp t = .ok r) ∧ (∃ r, historyGet chk mp t = .ok r) :=
  ⟨⟨_, getVelocity_wf hwf t⟩, ⟨_, getPosition_wf hwf t⟩, ⟨_, history_wf chk mp hwf t⟩⟩

theorem new_history_no_panic (chk : Bool) (s e : State F) (mv ma : Quantity F) (mp : MotionProfile F)
    (h : MotionProfile.new chk s e mv ma = .ok mp) (t : Int) : ∃ r, historyGet chk mp t = .ok r :=
  (history_no_panic chk mp (new_wf chk s e mv ma mp h) t).2.2

/-- from completion on (for ANY profile value, no well-formedness needed: no arithmetic happens) the history returns
the end command, stamped with the query time -/
theorem history_after_complete (chk : Bool) (mp : MotionProfile F) (t : Int) (hc : getPiece mp t = .complete) :
    historyGet chk mp t = .ok (some ⟨t, Command.new mp.endCommand.kind mp.endCommand.raw⟩) ∧
    historyGet chk mp t = .ok (some ⟨t, mp.endCommand⟩) := by
  rw [Command.new_kind_raw, and_self]
  unfold historyGet
  rw [getMode_eq, getAcceleration_eq, vel_complete chk mp t hc, pos_complete chk mp t hc, hc]
  cases mp.endCommand <;> rfl

/-- at and after completion a constructed profile answers every accessor from `Command::from(end_state)`, whatever the
rounding of `t1..t3`: no arithmetic happens -/
theorem new_complete (chk : Bool) (s e : State F) (mv ma : Quantity F) (mp : MotionProfile F)
    (h : MotionProfile.new chk s e mv ma = .ok mp) (t : Int) (hc : getPiece mp t = .complete) :
    getMode mp t = some (Command.ofState e).kind ∧
    getAcceleration chk mp t = some ((Command.ofState e).getAcceleration chk) ∧
    getVelocity chk mp t = .ok ((Command.ofState e).getVelocity chk) ∧
    getPosition chk mp t = .ok ((Command.ofState e).getPosition chk) ∧
    historyGet chk mp t = .ok (some ⟨t, Command.ofState e⟩) := by
  rw [← new_end_command chk s e mv ma mp h]
  refine ⟨?_, ?_, vel_complete chk mp t hc, pos_complete chk mp t hc, (history_after_complete chk mp t hc).2⟩
  · rw [getMode_eq, hc]; rfl
  · rw [getAcceleration_eq, hc]; rfl

/-- with ordered times that is from `t3` onward, forever -/
theorem new_history_after_complete (chk : Bool) (s e : State F) (mv ma : Quantity F) (mp : MotionProfile F)
    (h : MotionProfile.new chk s e mv ma = .ok mp) (hord : 0 ≤ mp.t1 ∧ mp.t1 ≤ mp.t2 ∧ mp.t2 ≤ mp.t3)
    (t : Int) (ht : mp.t3 ≤ t) :
    historyGet chk mp t = .ok (some ⟨t, Command.ofState e⟩) :=
  (new_complete chk s e mv ma mp h t ((piece_complete_iff_ordered mp t hord).2 ht)).2.2.2.2

theorem new_false_panics (s e : State F) (mv ma : Quantity F) (p : Panic)
    (h : MotionProfile.new false s e mv ma = .error p) : p = .mpT1 ∨ p = .mpT3 ∨ p = .mpT2 :=
  newSpec_inv _ ((new_false s e mv ma).symm.trans h)

theorem new_panics_or_returns (chk : Bool) (s e : State F) (mv ma : Quantity F) :
    (∃ mp, MotionProfile.new chk s e mv ma = .ok mp) ∨
    (∃ p, MotionProfile.new chk s e mv ma = .error p ∧
      (p = .mpT1 ∨ p = .mpT3 ∨ p = .mpT2 ∨ p = .dim ∨ p = .expect)) := by
  cases chk
  · cases h : MotionProfile.new false s e mv ma with
    | ok mp => exact .inl ⟨mp, rfl⟩
    | error p => exact .inr ⟨p, rfl, (new_false_panics s e mv ma p h).imp id (.imp id .inl)⟩
  -- with checking: the six leaves of `new_true` (none is `.expect`)
  rw [new_true]
  by_cases hmv : mv.unit ≠ ⟨1, -1⟩
  · rw [if_pos hmv]; exact .inr ⟨_, rfl, .inr (.inr (.inr (.inl rfl)))⟩
  rw [if_neg hmv]
  by_cases h1 : ¬ (c0 : F) ≤ T1 s e mv.value ma.value
  · rw [if_pos h1]; exact .inr ⟨_, rfl, .inl rfl⟩
  rw [if_neg h1]
  by_cases h3 : ¬ (c0 : F) ≤ D3 s e mv.value ma.value
  · rw [if_pos h3]; exact .inr ⟨_, rfl, .inr (.inl rfl)⟩
  rw [if_neg h3]
  by_cases hma : ma.unit ≠ ⟨1, -2⟩
  · rw [if_pos hma]; exact .inr ⟨_, rfl, .inr (.inr (.inr (.inl rfl)))⟩
  rw [if_neg hma]
  by_cases h2 : ¬ (c0 : F) ≤ D2 s e mv.value ma.value
  · rw [if_pos h2]; exact .inr ⟨_, rfl, .inr (.inr (.inl rfl))⟩
  rw [if_neg h2]; exact .inl ⟨_, rfl⟩

/-- **tier L**: `0 ≤ t1 ≤ t2 ≤ t3` for every returned profile, given that on the scalar
* `hmul`: multiplying by `1e9` is monotone,
* `hto`: the cast to `i64` is monotone,
* `hadd`: adding a non-negative number to a non-negative number does not decrease it,
* `htrans`: `≤` is transitive,
* `hz`: `(0.0 * 1e9) as i64 = 0`.
Each of the five holds for every IEEE binary32 value (a true `≤` excludes NaN operands), and over an ordered field with
exact literals for any monotone integer cast that sends 0 to 0 (over `ℚ` with floor: an example at the end). -/
theorem new_times_ordered (chk : Bool) (s e : State F) (mv ma : Quantity F) (mp : MotionProfile F)
    (hmul : ∀ a b : F, a ≤ b → a * c1e9 ≤ b * c1e9)
    (hto : ∀ a b : F, a ≤ b → FloatLike.toInt a ≤ FloatLike.toInt b)
    (hadd : ∀ a b : F, (c0 : F) ≤ a → (c0 : F) ≤ b → a ≤ a + b)
    (htrans : ∀ a b c : F, a ≤ b → b ≤ c → a ≤ c)
    (hz : FloatLike.toInt ((c0 : F) * c1e9) = 0)
    (h : MotionProfile.new chk s e mv ma = .ok mp) :
    0 ≤ mp.t1 ∧ mp.t1 ≤ mp.t2 ∧ mp.t2 ≤ mp.t3 := by
  obtain ⟨h1, h3, h2, rfl⟩ := new_ok h
  -- the stored times are `(x * 1e9) as i64` for `x = T1`, `T1 + D2`, `T1 + D2 + D3`
  have h12 := hadd _ _ h1 h2
  exact ⟨hz ▸ hto _ _ (hmul _ _ h1), hto _ _ (hmul _ _ h12), hto _ _ (hmul _ _ (hadd _ _ (htrans _ _ _ h1 h12) h3))⟩

end S

section Examples

/-- an executable integer scalar for the tier-S examples -/
local instance : FloatLike Int := ⟨id, id, fun _ _ => 1, fun x => if x < 0 then -x else x⟩

/-- a well-dimensioned profile with all five pieces: t1 = 10, t2 = 30, t3 = 40 (ns), end command: position -/
def mpI : MotionProfile Int :=
  ⟨⟨0, MILLIMETER true⟩, ⟨5, MILLIMETER_PER_SECOND true⟩, 10, 30, 40, ⟨3, MILLIMETER_PER_SECOND_SQUARED true⟩, .position 7⟩

example : WF true mpI := ⟨rfl, rfl, rfl⟩
example : 0 ≤ mpI.t1 ∧ mpI.t1 ≤ mpI.t2 ∧ mpI.t2 ≤ mpI.t3 := by decide
example : 0 < mpI.t1 ∧ mpI.t1 < mpI.t2 ∧ mpI.t2 < mpI.t3 := by decide
example : getPiece mpI 45 = .complete := by decide
example : getPiece mpI 20 ≠ .beforeStart ∧ getPiece mpI 20 ≠ .complete := by decide
example : historyGet true mpI 20 = .ok (some ⟨20, .velocity (3 * (10 / 1000000000) + 5)⟩) := by rfl
example : historyGet true mpI 45 = .ok (some ⟨45, .position 7⟩) := by rfl
/-- a profile that is NOT well-dimensioned does panic in the history (so `WF` is a real hypothesis) -/
example : historyGet true ({ mpI with startVel := ⟨5, MILLIMETER true⟩ } : MotionProfile Int) 20 = .error .dim := by rfl

/-- the constructor's intermediate values for the test-suite's first profile (0 → 3 mm, 0.1 mm/s, 0.01 mm/s²) over `ℚ` -/
theorem vals_Q :
    vMax (⟨0, 0, 0⟩ : State ℚ) ⟨3, 0, 0⟩ (1/10) = 1/10 ∧ aMax (⟨0, 0, 0⟩ : State ℚ) ⟨3, 0, 0⟩ (1/100) = 1/100 ∧
    T1 (⟨0, 0, 0⟩ : State ℚ) ⟨3, 0, 0⟩ (1/10) (1/100) = 10 ∧ D3 (⟨0, 0, 0⟩ : State ℚ) ⟨3, 0, 0⟩ (1/10) (1/100) = 10 ∧
    D2 (⟨0, 0, 0⟩ : State ℚ) ⟨3, 0, 0⟩ (1/10) (1/100) = 20 := by decide +kernel

/-- that profile is accepted, with t1 = 10 s, t2 = 30 s, t3 = 40 s -/
theorem new_example :
    MotionProfile.new true (⟨0, 0, 0⟩ : State ℚ) ⟨3, 0, 0⟩ ⟨1/10, ⟨1, -1⟩⟩ ⟨1/100, ⟨1, -2⟩⟩ =
      .ok ⟨⟨0, MILLIMETER true⟩, ⟨0, MILLIMETER_PER_SECOND true⟩, 10000000000, 30000000000, 40000000000,
        ⟨1/100, MILLIMETER_PER_SECOND_SQUARED true⟩, .position 3⟩ := by
  obtain ⟨-, ha, h1, h3, h2⟩ := vals_Q
  rw [new_true_good]
  simp only [newSpec, newResult, T2, T3, h1, h2, h3, ha, Command.ofState, c0, c1e9, FloatLike.ofInt, FloatLike.toInt]
  norm_num

/-- the scalar hypotheses of `new_times_ordered` hold over `ℚ` with the floor cast -/
example :
    (∀ a b : ℚ, a ≤ b → a * c1e9 ≤ b * c1e9) ∧
    (∀ a b : ℚ, a ≤ b → FloatLike.toInt a ≤ FloatLike.toInt b) ∧
    (∀ a b : ℚ, (c0 : ℚ) ≤ a → (c0 : ℚ) ≤ b → a ≤ a + b) ∧
    (∀ a b c : ℚ, a ≤ b → b ≤ c → a ≤ c) ∧
    FloatLike.toInt ((c0 : ℚ) * c1e9) = 0 := by
  refine ⟨?_, ?_, ?_, fun a b c => le_trans, ?_⟩
  · intro a b h
    have : (0 : ℚ) ≤ c1e9 := by simp [c1e9, FloatLike.ofInt]
    exact mul_le_mul_of_nonneg_right h this
  · intro a b h
    show a.num / (a.den : Int) ≤ b.num / (b.den : Int)
    rw [← Rat.floor_def', ← Rat.floor_def']
    exact Int.floor_le_floor h
  · intro a b _ hb
    have : (0 : ℚ) ≤ b := by simpa [c0, FloatLike.ofInt] using hb
    linarith only [this]
  · simp [c0, c1e9, FloatLike.ofInt, FloatLike.toInt]

/-- the `new … = ok mp` hypothesis of `new_wf`, `new_end_command`, `new_history_no_panic`, `new_times_ordered`, … is met
by `new_example`; here `new_wf` applied to it -/
example :
    WF true (⟨⟨0, MILLIMETER true⟩, ⟨0, MILLIMETER_PER_SECOND true⟩, 10000000000, 30000000000, 40000000000,
      ⟨1/100, MILLIMETER_PER_SECOND_SQUARED true⟩, .position 3⟩ : MotionProfile ℚ) :=
  new_wf true _ _ _ _ _ new_example

end Examples
end Rrtk.Thm.C06
