/-
C03 — combined data carry the newest contributing timestamp; selection picks newest.
Tier S: timestamps are `Int`, payloads and operators are arbitrary.  The check counts every theorem of this
namespace as an obligation, the few helpers included.
-/
import Rrtk.Streams.Stateless
import Rrtk.Thm.Lemmas.DatumTime
import Rrtk.Thm.Lemmas.Newest
namespace Rrtk.Thm.C03
open Rrtk

variable {α β γ : Type}

/-! ### datum arithmetic: every `impl Op for Datum<_>` and assign form is `Datum.combine` (datum ∘ datum)
or `Datum.scalar` (datum ∘ scalar) in the model -/

theorem combine_time_max (op : α → β → γ) (a : Datum α) (b : Datum β) :
    (Datum.combine op a b).time = max a.time b.time := Datum.combine_time op a b

theorem combine_value (op : α → β → γ) (a : Datum α) (b : Datum β) :
    (Datum.combine op a b).value = op a.value b.value := rfl

theorem scalar_time_keep (op : α → β → γ) (a : Datum α) (b : β) :
    (Datum.scalar op a b).time = a.time := Datum.scalar_time op a b

/-- `Neg` / `Not` -/
theorem map_time_keep (f : α → β) (a : Datum α) : (Datum.map f a).time = a.time := Datum.map_time f a

/-! ### the replace-if-older helpers replace exactly when the candidate is strictly newer (or the slot is empty), and say so -/

theorem replaceIfOlderThan_flag (s c : Datum α) :
    (Datum.replaceIfOlderThan s c).2 = true ↔ c.time > s.time := by
  simp only [Datum.replaceIfOlderThan]; split <;> simp_all

theorem replaceIfOlderThan_slot (s c : Datum α) :
    (Datum.replaceIfOlderThan s c).1 = if (Datum.replaceIfOlderThan s c).2 then c else s := by
  simp only [Datum.replaceIfOlderThan]; split <;> simp

theorem replaceIfNoneOrOlderThan_flag (s : Option (Datum α)) (c : Datum α) :
    (Datum.replaceIfNoneOrOlderThan s c).2 = true ↔ (s = none ∨ ∃ d, s = some d ∧ c.time > d.time) := by
  cases s with
  | none => simp [Datum.replaceIfNoneOrOlderThan]
  | some d =>
    simp only [Datum.replaceIfNoneOrOlderThan]
    split <;> simp_all <;> omega

theorem replaceIfNoneOrOlderThan_slot (s : Option (Datum α)) (c : Datum α) :
    (Datum.replaceIfNoneOrOlderThan s c).1 = if (Datum.replaceIfNoneOrOlderThan s c).2 then some c else s := by
  cases s with
  | none => simp [Datum.replaceIfNoneOrOlderThan]
  | some d => simp only [Datum.replaceIfNoneOrOlderThan]; split <;> simp

theorem replaceIfNoneOrOlderThanOption_none (s : Option (Datum α)) :
    Datum.replaceIfNoneOrOlderThanOption s none = (s, false) := rfl

theorem replaceIfNoneOrOlderThanOption_some (s : Option (Datum α)) (c : Datum α) :
    Datum.replaceIfNoneOrOlderThanOption s (some c) = Datum.replaceIfNoneOrOlderThan s c := rfl

theorem replaceIfNoneOrOlderThan_mono (d : Datum α) (c : Datum α) :
    ∃ r, (Datum.replaceIfNoneOrOlderThan (some d) c).1 = some r ∧ r.time = max d.time c.time := by
  simp only [Datum.replaceIfNoneOrOlderThan]
  split
  · next h => exact ⟨d, rfl, (Int.max_eq_left h).symm⟩
  · next h => exact ⟨c, rfl, (Int.max_eq_right (Int.le_of_lt (Int.not_le.1 h))).symm⟩

/-! ### selection (`latest()`, the newest-of stream): one of the candidates, none strictly newer -/

theorem latest_fn_sel (a b : Datum α) :
    (Datum.latest a b = a ∨ Datum.latest a b = b) ∧
    a.time ≤ (Datum.latest a b).time ∧ b.time ≤ (Datum.latest a b).time := by
  simp only [Datum.latest]; split <;> simp <;> omega

/-- what an input contributes to `Latest`: its datum if it is `Ok(Some _)` -/
def present : Output α → Option (Datum α)
  | .ok (some g) => some g
  | _ => none

theorem mem_map_present (ins : List (Output α)) (d : Datum α) :
    some d ∈ ins.map present ↔ Except.ok (some d) ∈ ins := by
  simp only [List.mem_map]
  constructor
  · rintro ⟨i, hi, e⟩
    match i, e with
    | .ok (some g), e => cases e; exact hi
  · exact fun h => ⟨_, h, rfl⟩

/-- `Latest`'s step is `replace_if_none_or_older_than_option` on the present inputs (`g.time > t.time` replaces, as
`t.time ≥ g.time` keeps), so `Latest` makes the choice that `C13.newestOf` describes -/
theorem latestStep_eq (acc : Option (Datum α)) (i : Output α) :
    Stream.latestStep acc i = (Datum.replaceIfNoneOrOlderThanOption acc (present i)).1 := by
  rw [C13.replaceOpt_step]
  match i, acc with
  | .error _, _ => rfl
  | .ok none, _ => rfl
  | .ok (some g), none => rfl
  | .ok (some g), some t =>
    simp only [Stream.latestStep, present]
    by_cases h : g.time > t.time
    · rw [if_pos h, if_neg (by omega)]
    · rw [if_neg h, if_pos (by omega)]

theorem foldl_latestStep (ins : List (Output α)) (acc : Option (Datum α)) :
    ins.foldl Stream.latestStep acc = C13.newestFrom acc (ins.map present) := by
  induction ins generalizing acc with
  | nil => rfl
  | cons i ins ih => rw [List.foldl_cons, ih, latestStep_eq]; rfl

/-- `Latest::get`, any arity -/
theorem latest_stream_sel (ins : List (Output α)) :
    match Stream.latest ins with
    | .error _ => False
    | .ok none => ∀ d, Except.ok (some d) ∉ ins
    | .ok (some r) => Except.ok (some r) ∈ ins ∧ ∀ d, Except.ok (some d) ∈ ins → d.time ≤ r.time := by
  have e : Stream.latest ins = .ok (C13.newestOf (ins.map present)) := congrArg _ (foldl_latestStep ins none)
  rw [e]
  cases h : C13.newestOf (ins.map present) with
  | none =>
    intro d hd
    cases (C13.newestOf_spec _).1.1 h _ ((mem_map_present ins d).2 hd)
  | some r =>
    obtain ⟨h1, h2⟩ := C13.newestOf_max _ r h
    exact ⟨(mem_map_present ins r).1 h1, fun d hd => h2 d ((mem_map_present ins d).2 hd)⟩

/-! ### arithmetic and logic streams: the later of the contributing times -/

/-- difference / quotient / exponent: both present ⇒ the later time (`>` instead of `>=` picks the same time). -/
theorem binaryPass_time_max (op : α → α → α) (x y : Datum α) :
    ∃ r, Stream.binaryPass op (.ok (some x)) (.ok (some y)) = .ok (some r) ∧ r.time = max x.time y.time ∧
      r.value = op x.value y.value := by
  refine ⟨_, rfl, ?_, rfl⟩
  show (if x.time > y.time then x.time else y.time) = _
  split
  · next h => exact (Int.max_eq_left (Int.le_of_lt h)).symm
  · next h => exact (Int.max_eq_right (Int.not_lt.1 h)).symm

theorem binaryPass_pass (op : α → α → α) (x : Datum α) :
    Stream.binaryPass op (.ok (some x)) (.ok none) = .ok (some x) := rfl

/-- two-input sum/product -/
theorem binary2_time_max (op : α → α → α) (x y : Datum α) :
    ∃ r, Stream.binary2 op (.ok (some x)) (.ok (some y)) = .ok (some r) ∧ r.time = max x.time y.time :=
  ⟨_, rfl, combine_time_max op x y⟩

/-- n-ary sum/product, any arity -/
theorem nary_time_max (op : α → α → α) (ins : List (Output α)) (ds : List (Datum α))
    (hc : Stream.collect ins = .ok ds) (r : Datum α) (hr : Stream.nary op ins = .ok (some r)) :
    (∀ e ∈ ds, e.time ≤ r.time) ∧ (∃ e ∈ ds, r.time = e.time) := by
  simp only [Stream.nary, hc] at hr
  cases ds with
  | nil => simp [Stream.foldData] at hr
  | cons d rest =>
    simp only [Stream.foldData] at hr
    injection hr with hr; injection hr with hr; subst hr
    -- the fold of `+=`/`*=` carries the running maximum of the times folded in
    rw [C08.foldl_combine_time]
    obtain ⟨h0, hle, hmem⟩ := C08.maxTime_spec rest d.time
    exact ⟨List.forall_mem_cons.2 ⟨h0, hle⟩,
      hmem.elim (fun h => ⟨d, .head _, h⟩) fun ⟨e, he, h⟩ => ⟨e, .tail _ he, h⟩⟩

theorem logicTime_max (g1 g2 : Option (Datum Bool)) :
    Stream.logicTime g1 g2 =
      match g1, g2 with
      | some a, some b => some (max a.time b.time)
      | some a, none => some a.time
      | none, some b => some b.time
      | none, none => none := by
  cases g1 <;> cases g2 <;> simp only [Stream.logicTime]
  rename_i a b
  split
  · next h => rw [Int.max_eq_right (Int.le_of_lt h)]
  · next h => rw [Int.max_eq_left (Int.not_lt.1 h)]

/-- non-vacuity: concrete data on which the theorems speak (a tie, where `>=` vs `>` matters) -/
example : (Datum.combine (· + ·) (⟨5, 1⟩ : Datum Int) ⟨5, 2⟩).time = 5 := by decide
example : (Datum.replaceIfOlderThan (⟨5, 1⟩ : Datum Int) ⟨5, 2⟩) = (⟨5, 1⟩, false) := by decide
example : Stream.latest [.ok (some (⟨5, 1⟩ : Datum Int)), .error (.other 1), .ok (some ⟨5, 2⟩), .ok none]
    = .ok (some ⟨5, 1⟩) := by rfl

end Rrtk.Thm.C03
