/-
C20 — device wrappers relay data between getters/settables and terminals unaltered; errors of the inner object are
propagated; the PID wrapper drives its motor with exactly what a stand-alone `CommandPID` produces when fed the
sequence of (time, state, command) seen at the terminal.  Tier S throughout: no law of the scalar is used.
-/
import Rrtk.Devices
import Rrtk.Thm.C09
import Rrtk.Thm.Lemmas.Pid
import Rrtk.Thm.Lemmas.World
-- theorems are stated under the whole scalar-class list of `Rrtk/Devices.lean`, used or not: one context for every caller
set_option linter.unusedSectionVars false
namespace Rrtk.Thm.C20
open Rrtk

section S
variable {F : Type} [Add F] [Sub F] [Mul F] [Div F] [Neg F] [LT F] [LE F] [BEq F]
  [DecidableLT F] [DecidableLE F] [FloatLike F]

/-! ### what a terminal "currently sees" (`impl Getter<TerminalData> for Terminal`)

`terminalData_spec` reads the fields off a read that is known to be `some td`; the same as ONE equation — `getTerminalData` as
a `match` on the state read and the command read, the form to rewrite with — is `C09.combined_read_formula`. -/

theorem terminalData_none_iff (w : World F) (i : Nat) :
    w.getTerminalData i = none ↔ w.getCommand i = none ∧ w.getState i = none :=
  (C09.combined_read_eq w i).1.trans and_comm

/-- the combined read carries exactly the command value and the state value the two other getters return, stamped
with the state's time if a state is seen and the command's time otherwise (both in the datum and in the payload) -/
theorem terminalData_spec (w : World F) (i : Nat) (td : Datum (TerminalData F))
    (h : w.getTerminalData i = some td) :
    td.value.command = (w.getCommand i).map (·.value) ∧
    td.value.state = (w.getState i).map (·.value) ∧
    td.value.time = td.time ∧
    (∀ ds, w.getState i = some ds → td.time = ds.time) ∧
    (w.getState i = none → ∀ dc, w.getCommand i = some dc → td.time = dc.time) :=
  (C09.combined_read_eq w i).2 td h

/-! ### A. actuator wrapper (`ActuatorWrapper`) -/

/-- A. If the terminal sees `td` and the inner settable accepts, the inner settable is handed exactly `td.value`
(time, command, state as combined by the terminal), then the inner update runs and its result is the wrapper's result.
(The wrapper's update has no way to modify the terminal graph: the model returns no world.) -/
theorem actuator_forwards_exactly (w : World F) (i : Nat) (td : Datum (TerminalData F)) (iu : UpdRet)
    (h : w.getTerminalData i = some td) :
    ActuatorWrapper.update w i (.ok ()) iu = (some td.value, true, iu) := by
  simp only [ActuatorWrapper.update, h]

/-- A. If the terminal sees nothing, nothing is handed over (whatever the inner `set` would have answered) and the
inner update still runs; the result is the inner update's. -/
theorem actuator_nothing_seen (w : World F) (i : Nat) (acc iu : UpdRet) (h : w.getTerminalData i = none) :
    ActuatorWrapper.update w i acc iu = (none, true, iu) := by
  simp only [ActuatorWrapper.update, h]

/-- A. If the inner `set` rejects the data with `e`: the wrapper returns `Err(e)`, nothing counts as accepted and the
inner `update` is NOT run. -/
theorem actuator_propagates_err (w : World F) (i : Nat) (td : Datum (TerminalData F)) (e : Err) (iu : UpdRet)
    (h : w.getTerminalData i = some td) :
    ActuatorWrapper.update w i (.error e) iu = (none, false, .error e) := by
  simp only [ActuatorWrapper.update, h]

/-- A. An error of the inner `update` is returned as is (whenever the inner update is reached). -/
theorem actuator_propagates_update_err (w : World F) (i : Nat) (acc : UpdRet) (e : Err)
    (hacc : w.getTerminalData i = none ∨ acc = .ok ()) :
    (ActuatorWrapper.update w i acc (.error e)).2 = (true, .error e) := by
  cases h : w.getTerminalData i with
  | none => rw [actuator_nothing_seen w i acc _ h]
  | some td =>
    obtain rfl : acc = .ok () := hacc.resolve_left (by rw [h]; nofun)
    rw [actuator_forwards_exactly w i td _ h]

/-- A (summary): the three outcomes are exhaustive — the result is an error only if the inner `set` or the inner
`update` returned that error. -/
theorem actuator_error_only_from_inner (w : World F) (i : Nat) (acc iu : UpdRet) (e : Err)
    (h : (ActuatorWrapper.update w i acc iu).2.2 = .error e) : acc = .error e ∨ iu = .error e := by
  cases hd : w.getTerminalData i with
  | none => rw [actuator_nothing_seen w i acc iu hd] at h; exact .inr h
  | some td =>
    rcases acc with e' | ⟨⟩
    · rw [actuator_propagates_err w i td e' iu hd] at h; exact .inl h
    · rw [actuator_forwards_exactly w i td iu hd] at h; exact .inr h

/-! ### B. encoder wrapper (`GetterStateDeviceWrapper`) -/

/-- B. inner update fine, inner getter present: the datum is written unchanged into the terminal's own state slot -/
theorem encoder_writes_present (w : World F) (i : Nat) (d : Datum (State F)) :
    EncoderWrapper.update w i (.ok ()) (.ok (some d)) = (w.setState i d, .ok ()) := rfl

/-- B. … and that write makes the own state slot of `i` exactly `d` (same time, same value) and changes nothing else:
not the command slot or link of `i`, nor any other terminal, nor the number of terminals. -/
theorem encoder_write_effect (w : World F) (i : Nat) (d : Datum (State F)) :
    ((w.setState i d).t i).state = some d ∧ ((w.setState i d).t i).command = (w.t i).command ∧
    ((w.setState i d).t i).other = (w.t i).other ∧ (∀ j, j ≠ i → (w.setState i d).t j = w.t j) ∧
    (w.setState i d).n = w.n :=
  ⟨World.setState_state_self w i d, World.setState_command w i i d, World.setState_other w i i d,
    fun _ hj => World.setState_t_ne w d hj, rfl⟩

/-- B. getter absent: the terminal graph is untouched and the update succeeds -/
theorem encoder_absent_untouched (w : World F) (i : Nat) :
    EncoderWrapper.update w i (.ok ()) (.ok none) = (w, .ok ()) := rfl

/-- B. an error of the inner update is returned first (whatever the getter would say), an error of the inner getter
next; in both cases the terminal graph is untouched -/
theorem encoder_propagates_err (w : World F) (i : Nat) (e : Err) :
    (∀ g, EncoderWrapper.update w i (.error e) g = (w, .error e)) ∧
    EncoderWrapper.update w i (.ok ()) (.error e) = (w, .error e) :=
  ⟨fun _ => rfl, rfl⟩

/-- B (summary): the wrapper errs only with an error of its inner object, and touches the graph only in the
`encoder_writes_present` case -/
theorem encoder_error_only_from_inner (w : World F) (i : Nat) (iu : UpdRet) (g : Output (State F)) (e : Err)
    (h : (EncoderWrapper.update w i iu g).2 = .error e) :
    (iu = .error e ∨ g = .error e) ∧ (EncoderWrapper.update w i iu g).1 = w := by
  rcases iu with e' | u
  · exact ⟨.inl h, rfl⟩
  · rcases g with e' | _ | d
    · exact ⟨.inr (by cases h; rfl), rfl⟩
    · cases h
    · cases h

/-! ### C. PID wrapper (`PIDWrapper`) -/

/-- one update of the wrapper: the terminal graph at that moment and the motor's scripted answers -/
structure Round (F : Type) where
  w : World F
  acc : UpdRet
  iu : UpdRet

def Round.seen (i : Nat) (r : Round F) : Option (Datum (TerminalData F)) := r.w.getTerminalData i

def runWrapper (chk : Bool) (k : PIDK3 F) (i : Nat) (p : PidW F) : List (Round F) → PidW F
  | [] => p
  | r :: rs => runWrapper chk k i (PidW.update chk k p r.w i r.acc r.iu).1 rs

/-- what the motor is handed and what `update` returns, round by round -/
def wrapperOutputs (chk : Bool) (k : PIDK3 F) (i : Nat) (p : PidW F) : List (Round F) → List (Option F × UpdRet)
  | [] => []
  | r :: rs =>
    (PidW.update chk k p r.w i r.acc r.iu).2 :: wrapperOutputs chk k i (PidW.update chk k p r.w i r.acc r.iu).1 rs

/-- The stand-alone reference: a `CommandPID` `q` driven by hand, together with the last state and command it was
given (`s`, `c`; initially the constructor's).  A round in which the terminal shows nothing does not touch it; a round
with data steps it once with the command `⟨time, command⟩` followed and the state `⟨time, state⟩` as input, where a
missing state or command is the previous one. -/
def standStep (chk : Bool) (k : PIDK3 F) (x : CpidS F × State F × Command F)
    (seen : Option (Datum (TerminalData F))) : CpidS F × State F × Command F :=
  match seen with
  | none => x
  | some td =>
    let st := match td.value.state with | some s => s | none => x.2.1
    let cm := match td.value.command with | some c => c | none => x.2.2
    ((Cpid.step chk k x.1 (some (.ok (some ⟨td.value.time, cm⟩))) (.ok (some ⟨td.value.time, st⟩))).1, st, cm)

def standRun (chk : Bool) (k : PIDK3 F) (x : CpidS F × State F × Command F)
    (seens : List (Option (Datum (TerminalData F)))) : CpidS F × State F × Command F :=
  seens.foldl (standStep chk k) x

/-- the (time, state, command) triples fed to the PID: one per round WITH data, gaps filled with the previous value -/
def seenTriples (s : State F) (c : Command F) :
    List (Option (Datum (TerminalData F))) → List (Int × State F × Command F)
  | [] => []
  | none :: rest => seenTriples s c rest
  | some td :: rest =>
    let st := match td.value.state with | some s' => s' | none => s
    let cm := match td.value.command with | some c' => c' | none => c
    (td.value.time, st, cm) :: seenTriples st cm rest

def runCpid (chk : Bool) (k : PIDK3 F) (q : CpidS F) : List (Int × State F × Command F) → CpidS F
  | [] => q
  | (t, s, c) :: rest =>
    runCpid chk k (Cpid.step chk k q (some (.ok (some ⟨t, c⟩))) (.ok (some ⟨t, s⟩))).1 rest

/-- what a motor following a PID in state `q` is handed, and what its update returns: `Err` of the PID first; nothing
handed over if the PID has no output; otherwise the output value if the motor accepts it -/
def motorOut (q : CpidS F) (acc iu : UpdRet) : Option F × UpdRet :=
  match Cpid.get q with
  | .error e => (none, .error e)
  | .ok none => (none, iu)
  | .ok (some d) =>
    match acc with
    | .error e => (none, .error e)
    | .ok _ => (some d.value, iu)

/-- reference outputs: the stand-alone PID is stepped (if the round has data) and then the motor follows it -/
def standOutputs (chk : Bool) (k : PIDK3 F) (i : Nat) (x : CpidS F × State F × Command F) :
    List (Round F) → List (Option F × UpdRet)
  | [] => []
  | r :: rs =>
    motorOut (standStep chk k x (r.seen i)).1 r.acc r.iu :: standOutputs chk k i (standStep chk k x (r.seen i)) rs

/-- the wrapper's bookkeeping in one update, as a function of what the terminal shows -/
def pidwNext (chk : Bool) (k : PIDK3 F) (p : PidW F) (seen : Option (Datum (TerminalData F))) : PidW F :=
  match seen with
  | some td =>
    let time := td.value.time
    let st := match td.value.state with | some s => s | none => p.state
    let cm := match td.value.command with | some c => c | none => p.command
    let r := Cpid.step chk k p.pid (some (.ok (some ⟨time, cm⟩))) (.ok (some ⟨time, st⟩))
    ⟨time, st, cm, r.1⟩
  | none => p

/-- `PIDWrapper::update` = bookkeeping, then the motor follows the wrapper's PID -/
theorem pidw_update_eq (chk : Bool) (k : PIDK3 F) (p : PidW F) (w : World F) (i : Nat) (acc iu : UpdRet) :
    PidW.update chk k p w i acc iu =
      (pidwNext chk k p (w.getTerminalData i), motorOut (pidwNext chk k p (w.getTerminalData i)).pid acc iu) := by
  -- `PidW.update` binds its new state `p1` (by definition `pidwNext …`) and goes on, whatever `p1` is, as `motorOut` does
  have h (p1 : PidW F) :
      (match Cpid.get p1.pid with
        | .error e => (p1, none, .error e)
        | .ok none => (p1, none, iu)
        | .ok (some d) =>
          match acc with
          | .error e => (p1, none, .error e)
          | .ok _ => (p1, some d.value, iu)) = (p1, motorOut p1.pid acc iu) := by
    simp only [motorOut]
    cases Cpid.get p1.pid with
    | error e => rfl
    | ok o =>
      cases o with
      | none => rfl
      | some d => cases acc <;> rfl
  exact h (pidwNext chk k p (w.getTerminalData i))

theorem pidwNext_eq_standStep (chk : Bool) (k : PIDK3 F) (p : PidW F) (seen : Option (Datum (TerminalData F))) :
    ((pidwNext chk k p seen).pid, (pidwNext chk k p seen).state, (pidwNext chk k p seen).command) =
      standStep chk k (p.pid, p.state, p.command) seen := by
  cases seen <;> rfl

/-- one wrapper update = one step of the stand-alone reference (state side) -/
theorem pid_wrapper_step (chk : Bool) (k : PIDK3 F) (p : PidW F) (w : World F) (i : Nat) (acc iu : UpdRet) :
    let p1 := (PidW.update chk k p w i acc iu).1
    (p1.pid, p1.state, p1.command) = standStep chk k (p.pid, p.state, p.command) (w.getTerminalData i) ∧
    (∀ td, w.getTerminalData i = some td → p1.time = td.value.time) ∧
    (w.getTerminalData i = none → p1 = p) := by
  simp only [pidw_update_eq]
  refine ⟨pidwNext_eq_standStep chk k p (w.getTerminalData i), fun td h => by rw [h]; rfl, fun h => by rw [h]; rfl⟩

/-- C (motor value, one round): what a motor following the stand-alone PID after this round's step is handed and
returns.  In particular with no terminal data the motor is still updated. -/
theorem pid_wrapper_motor_value (chk : Bool) (k : PIDK3 F) (p : PidW F) (w : World F) (i : Nat) (acc iu : UpdRet) :
    (PidW.update chk k p w i acc iu).2 =
      motorOut (standStep chk k (p.pid, p.state, p.command) (w.getTerminalData i)).1 acc iu := by
  rw [pidw_update_eq, ← pidwNext_eq_standStep]

/-- C (simulation, any number of rounds) -/
theorem pid_wrapper_simulates_cpid (chk : Bool) (k : PIDK3 F) (i : Nat) (p : PidW F) (rounds : List (Round F)) :
    let p' := runWrapper chk k i p rounds
    (p'.pid, p'.state, p'.command) = standRun chk k (p.pid, p.state, p.command) (rounds.map (Round.seen i)) := by
  induction rounds generalizing p with
  | nil => rfl
  | cons r rs ih =>
    -- the remaining rounds from the updated wrapper, whose components are one reference step on
    exact (ih _).trans
      (congrArg (standRun chk k · (rs.map (Round.seen i))) (pid_wrapper_step chk k p r.w i r.acc r.iu).1)

/-- C (outputs, any number of rounds) -/
theorem pid_wrapper_outputs_eq (chk : Bool) (k : PIDK3 F) (i : Nat) (p : PidW F) (rounds : List (Round F)) :
    wrapperOutputs chk k i p rounds = standOutputs chk k i (p.pid, p.state, p.command) rounds := by
  induction rounds generalizing p with
  | nil => rfl
  | cons r rs ih =>
    simp only [wrapperOutputs, standOutputs]
    rw [pid_wrapper_motor_value, ih, (pid_wrapper_step chk k p r.w i r.acc r.iu).1]
    rfl

theorem standRun_eq_runCpid (chk : Bool) (k : PIDK3 F) (q : CpidS F) (s : State F) (c : Command F)
    (seens : List (Option (Datum (TerminalData F)))) :
    (standRun chk k (q, s, c) seens).1 = runCpid chk k q (seenTriples s c seens) := by
  induction seens generalizing q s c with
  | nil => rfl
  | cons x xs ih =>
    cases x with
    | none => simp only [standRun, List.foldl_cons, standStep, seenTriples]; exact ih q s c
    | some td => simp only [standRun, List.foldl_cons, standStep, seenTriples, runCpid]; exact ih _ _ _

/-- C, as stated: a wrapper built by `PIDWrapper::new(_, t0, s0, c0, k)` and updated through ANY list of rounds holds
the PID state of a stand-alone `CommandPID::new(_, c0, k)` stepped once for each round WITH terminal data by
`step (follow = Ok(Some(⟨time, command⟩))) (input = Ok(Some(⟨time, state⟩)))`; rounds without data do not step it. -/
theorem pid_wrapper_simulates_cpid_from_new (chk : Bool) (k : PIDK3 F) (i : Nat) (t0 : Int) (s0 : State F)
    (c0 : Command F) (rounds : List (Round F)) :
    (runWrapper chk k i (PidW.init t0 s0 c0) rounds).pid =
      runCpid chk k (Cpid.init c0) (seenTriples s0 c0 (rounds.map (Round.seen i))) :=
  (congrArg Prod.fst (pid_wrapper_simulates_cpid chk k i (PidW.init t0 s0 c0) rounds)).trans
    (standRun_eq_runCpid chk k (Cpid.init c0) s0 c0 (rounds.map (Round.seen i)))

/-- the triples' times are the times the terminal data carry, in order; their number is the number of rounds with data -/
theorem seenTriples_times (s : State F) (c : Command F) (seens : List (Option (Datum (TerminalData F)))) :
    (seenTriples s c seens).map (·.1) = (seens.filterMap id).map (·.value.time) := by
  induction seens generalizing s c with
  | nil => rfl
  | cons x xs ih =>
    cases x with
    | none => simp only [seenTriples, List.filterMap_cons, id]; exact ih s c
    | some td => simp only [seenTriples, List.filterMap_cons, id, List.map_cons]; rw [ih]

theorem standStep_no_error (chk : Bool) (k : PIDK3 F) (x : CpidS F × State F × Command F)
    (seen : Option (Datum (TerminalData F))) (hx : ∀ e, x.1.us ≠ .error e) :
    ∀ e, (standStep chk k x seen).1.us ≠ .error e := by
  cases seen with
  | none => exact hx
  | some td =>
    -- a step with a present command to follow and a present input leaves a record
    intro e he
    obtain ⟨_, u0, h, _⟩ := Cpid.step_present chk k x.1 ⟨td.value.time, _⟩ ⟨td.value.time, _⟩
    exact nomatch h.symm.trans he

/-- a freshly constructed wrapper holds no error … -/
theorem pidw_init_no_error (t0 : Int) (s0 : State F) (c0 : Command F) :
    ∀ e, (PidW.init t0 s0 c0 : PidW F).pid.us ≠ .error e := nofun

/-- … and never will: after any rounds its PID has no cached error -/
theorem pid_wrapper_pid_never_errs (chk : Bool) (k : PIDK3 F) (i : Nat) (p : PidW F) (rounds : List (Round F))
    (hp : ∀ e, p.pid.us ≠ .error e) : ∀ e, (runWrapper chk k i p rounds).pid.us ≠ .error e := by
  have h := congrArg Prod.fst (pid_wrapper_simulates_cpid chk k i p rounds)
  simp only at h
  rw [h]
  -- the stand-alone PID is fed only present inputs with a never-erring follower
  exact List.foldlRecOn _ (standStep chk k) hp fun x hx s _ => standStep_no_error chk k x s hx

/-- C (errors, one round).  `hp` always holds (`pid_wrapper_pid_never_errs`). -/
theorem pid_wrapper_error_only_from_motor (chk : Bool) (k : PIDK3 F) (p : PidW F) (w : World F) (i : Nat)
    (acc iu : UpdRet) (hp : ∀ e, p.pid.us ≠ .error e) :
    (PidW.update chk k p w i acc iu).2.2 = iu ∨
    ∃ e, acc = .error e ∧ (PidW.update chk k p w i acc iu).2.2 = .error e := by
  rw [pid_wrapper_motor_value]
  have hne := standStep_no_error chk k (p.pid, p.state, p.command) (w.getTerminalData i) hp
  simp only [motorOut]
  cases hg : Cpid.get (standStep chk k (p.pid, p.state, p.command) (w.getTerminalData i)).1 with
  | error e => exact absurd ((Cpid.get_error_iff _ e).1 hg) (hne e)
  | ok o =>
    cases o with
    | none => left; rfl
    | some d =>
      cases acc with
      | error e => right; exact ⟨e, rfl, rfl⟩
      | ok u => left; rfl

/-- C (errors, any number of rounds): every return value of a wrapper built by `new` is the motor's update result or
the motor's `set` error -/
theorem pid_wrapper_outputs_errors (chk : Bool) (k : PIDK3 F) (i : Nat) (p : PidW F) (rounds : List (Round F))
    (hp : ∀ e, p.pid.us ≠ .error e) :
    ∀ r o, (r, o) ∈ rounds.zip (wrapperOutputs chk k i p rounds) →
      o.2 = r.iu ∨ ∃ e, r.acc = .error e ∧ o.2 = .error e := by
  induction rounds generalizing p with
  | nil => intro r o h; cases h
  | cons r0 rs ih =>
    intro r o h
    simp only [wrapperOutputs, List.zip_cons_cons, List.mem_cons] at h
    rcases h with h | h
    · cases h
      exact pid_wrapper_error_only_from_motor chk k p _ i _ _ hp
    · exact ih _ (pid_wrapper_pid_never_errs chk k i p [r0] hp) r o h

/-- with no terminal data the PID is not stepped, the wrapper is unchanged, and the motor still follows and is updated -/
theorem pid_wrapper_no_data (chk : Bool) (k : PIDK3 F) (p : PidW F) (w : World F) (i : Nat) (acc iu : UpdRet)
    (h : w.getTerminalData i = none) :
    (PidW.update chk k p w i acc iu).1 = p ∧ (PidW.update chk k p w i acc iu).2 = motorOut p.pid acc iu := by
  refine ⟨(pid_wrapper_step chk k p w i acc iu).2.2 h, ?_⟩
  rw [pid_wrapper_motor_value, h]; rfl

end S
/-! ### non-vacuity: concrete instances over `Int` payloads -/
section Examples
/-- integers as a (law-free) scalar, for examples only -/
local instance : FloatLike Int := ⟨id, id, fun _ _ => 1, fun x => x.natAbs⟩

/-- terminal 0 (the wrapper's) holds a state, its partner 1 a command -/
def exW : World Int :=
  ((((World.empty.addTerms 2).setOther 0 (some 1)).setOther 1 (some 0)).setCommand 1 ⟨5, .position 30⟩).setState 0
    ⟨7, ⟨1, 2, 3⟩⟩
/-- nothing anywhere -/
def exW0 : World Int := World.empty.addTerms 2

example : exW.getTerminalData 0 = some ⟨7, ⟨7, some (.position 30), some ⟨1, 2, 3⟩⟩⟩ := by rfl
example : exW0.getTerminalData 0 = none := by rfl
-- `actuator_forwards_exactly`, `actuator_propagates_err`, `actuator_nothing_seen`, `actuator_propagates_update_err`
example : ActuatorWrapper.update exW 0 (.ok ()) (.ok ()) =
    (some ⟨7, some (.position 30), some ⟨1, 2, 3⟩⟩, true, .ok ()) :=
  actuator_forwards_exactly exW 0 _ _ (by rfl)
example : ActuatorWrapper.update exW 0 (.error (.other 4)) (.ok ()) = (none, false, .error (.other 4)) :=
  actuator_propagates_err exW 0 _ _ _ (by rfl)
example : ActuatorWrapper.update exW0 0 (.error (.other 4)) (.ok ()) = (none, true, .ok ()) :=
  actuator_nothing_seen exW0 0 _ _ (by rfl)
example : (ActuatorWrapper.update exW 0 (.ok ()) (.error (.other 9))).2 = (true, .error (.other 9)) :=
  actuator_propagates_update_err exW 0 _ _ (.inr rfl)
example : (ActuatorWrapper.update exW 0 (.ok ()) (.error (.other 9))).2.2 = .error (.other 9) := by rfl
-- `encoder_error_only_from_inner`
example : (EncoderWrapper.update exW 0 (.ok ()) (.error (.other 2))).2 = .error (.other 2) := by rfl

/-- three rounds: data, nothing, data; the motor rejects in the last one -/
def exRounds : List (Round Int) := [⟨exW, .ok (), .ok ()⟩, ⟨exW0, .ok (), .ok ()⟩, ⟨exW, .error (.other 1), .ok ()⟩]
def exK : PIDK3 Int := ⟨⟨2, 0, 0⟩, ⟨2, 0, 0⟩, ⟨2, 0, 0⟩⟩
/-- the wrapper hands the motor `kp * (30 - 1) = 58` in the first two rounds (the second without stepping the PID) and
nothing in the third, whose return is the motor's rejection -/
example : wrapperOutputs false exK 0 (PidW.init 0 ⟨0, 0, 0⟩ (.position 0)) exRounds =
    [(some 58, .ok ()), (some 58, .ok ()), (none, .error (.other 1))] := by rfl
example : seenTriples (⟨0, 0, 0⟩ : State Int) (.position 0) (exRounds.map (Round.seen 0)) =
    [(7, ⟨1, 2, 3⟩, .position 30), (7, ⟨1, 2, 3⟩, .position 30)] := by rfl
-- the hypothesis of `pid_wrapper_pid_never_errs` / `pid_wrapper_error_only_from_motor` holds for every `new` wrapper
example : ∀ e, (PidW.init 0 (⟨0, 0, 0⟩ : State Int) (.position 0)).pid.us ≠ .error e := pidw_init_no_error _ _ _
-- hypotheses of `terminalData_spec`, `pid_wrapper_no_data`
example : exW.getTerminalData 0 ≠ none ∧ exW0.getTerminalData 0 = none := ⟨nofun, rfl⟩
end Examples

end Rrtk.Thm.C20
