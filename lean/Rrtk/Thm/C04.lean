/-
C04 — PIDControllerStream output equals the textbook discrete PID of its input history.
Tier S for the main theorem (bit-exact for f32: the specification is written with the same operators in the same
order, but NON-incrementally, as a function of the run of present samples since the last reset);
tier R for the scaling law (`pid_scale` for the specification, `pid_scale_run` for the stream itself, which is what the
compiled model `Rrtk/Drv`, the "driver" of the correspondence check, runs).
-/
import Rrtk.Streams.Stateful
import Rrtk.Thm.Lemmas.Exact
import Rrtk.Thm.Lemmas.Pid
set_option linter.unusedSectionVars false
namespace Rrtk.Thm.C04
open Rrtk

section S
variable {F : Type} [Add F] [Sub F] [Mul F] [Div F] [Neg F] [LT F] [LE F] [BEq F]
  [DecidableLT F] [DecidableLE F] [FloatLike F]

/-! ### the textbook specification, over the run of present samples (NEWEST FIRST) -/

/-- trapezoidal integral of the error `e = sp − x` over the run: `0` accumulated with `0` on the first sample,
then `+ dt·(e_prev + e)/2` per sample -/
def specI (sp : F) : List (Datum F) → F
  | [] => c0
  | [_] => c0 + c0
  | x :: p :: rest => specI sp (p :: rest) + secs (x.time - p.time) * ((sp - p.value) + (sp - x.value)) / c2

/-- backward difference of the error over the last two samples; `0` on the first sample -/
def specD (sp : F) : List (Datum F) → F
  | x :: p :: _ => ((sp - x.value) - (sp - p.value)) / secs (x.time - p.time)
  | _ => c0

/-- `kp·e + ki·I + kd·D`, stamped with the newest sample's time; absent for an empty run -/
def specOut (sp : F) (k : PIDK F) : List (Datum F) → Output F
  | [] => .ok none
  | x :: rest => .ok (some ⟨x.time, k.kp * (sp - x.value) + k.ki * specI sp (x :: rest) + k.kd * specD sp (x :: rest)⟩)

def segStep (acc : List (Datum F)) (ev : Output F) : List (Datum F) :=
  match ev with
  | .ok (some d) => d :: acc
  | _ => []
/-- the run of present samples since the stream was created or last saw an absent or errored input (newest first) -/
def segment (evs : List (Output F)) : List (Datum F) := evs.foldl segStep []

/-- one more event (any carrier `α`: `segment` takes none of the scalar classes) -/
theorem segment_concat {α : Type} (pre : List (Output α)) (ev : Output α) :
    segment (pre ++ [ev]) = segStep (segment pre) ev := by
  rw [segment, List.foldl_append]; rfl

def run (sp : F) (k : PIDK F) (s : PidS F) (evs : List (Output F)) : PidS F :=
  evs.foldl (fun s ev => (Pid.step sp k s ev).1) s

/-- invariant linking the controller's only memory to the current run -/
structure Inv (sp : F) (k : PIDK F) (s : PidS F) (seg : List (Datum F)) : Prop where
  prev : s.prevError = match seg with
    | [] => none
    | x :: _ => some ⟨x.time, sp - x.value⟩
  int : s.intError = specI sp seg
  out : seg ≠ [] → s.output = specOut sp k seg

theorem inv_init (sp : F) (k : PIDK F) : Inv sp k Pid.init [] := ⟨rfl, rfl, fun h => absurd rfl h⟩

theorem inv_step (sp : F) (k : PIDK F) (s : PidS F) (seg : List (Datum F)) (h : Inv sp k s seg) (ev : Output F) :
    Inv sp k (Pid.step sp k s ev).1 (segStep seg ev) := by
  rcases ev with e | _ | x
  · exact ⟨rfl, rfl, fun h => absurd rfl h⟩
  · exact inv_init sp k
  · obtain ⟨hp, hi, _⟩ := h
    cases seg with
    | nil => rw [Pid.step_first sp k s x hp, hi]; exact ⟨rfl, rfl, fun _ => rfl⟩
    | cons p rest => rw [Pid.step_next sp k s x _ _ hp, hi]; exact ⟨rfl, rfl, fun _ => rfl⟩

theorem step_output (sp : F) (k : PIDK F) (s : PidS F) (ev : Output F) :
    (match ev with
     | .error e => (Pid.step sp k s ev).1.output = .error e
     | .ok none => (Pid.step sp k s ev).1.output = .ok none
     | .ok (some _) => True) := by
  cases ev with
  | error e => rfl
  | ok o => cases o <;> trivial

/-- **Main theorem.** For every finite history of input events: after an update that saw a present input the output is the
textbook PID of the run of present samples since creation or the last absent/errored input, stamped with the input's time;
after an absent input it is absent; after an error it is that error. -/
theorem pid_eq_spec (sp : F) (k : PIDK F) (evs : List (Output F)) :
    Pid.get (run sp k Pid.init evs) =
      match evs.getLast? with
      | some (.error e) => .error e
      | _ => specOut sp k (segment evs) := by
  rcases List.eq_nil_or_concat evs with rfl | ⟨pre, last, rfl⟩
  · rfl
  · rw [List.concat_eq_append, List.getLast?_append, List.getLast?_singleton, Option.some_or]
    rcases last with e | _ | p
    · rw [run, List.foldl_append]; rfl
    · rw [run, List.foldl_append, segment_concat]; rfl
    · have hinv : Inv sp k (run sp k Pid.init (pre ++ [.ok (some p)])) (segment (pre ++ [.ok (some p)])) :=
        List.foldl_rel (r := Inv sp k) (inv_init sp k) fun ev _ s seg h => inv_step sp k s seg h ev
      exact hinv.out (by rw [segment_concat]; exact List.cons_ne_nil _ _)

theorem pid_update_ret (sp : F) (k : PIDK F) (s : PidS F) (ev : Output F) :
    (Pid.step sp k s ev).2 = match ev with | .error e => .error e | .ok _ => .ok () :=
  Pid.step_ret sp k s ev

/-- after an absent or errored input the controller is exactly as new (apart from showing the error) -/
theorem pid_after_none (sp : F) (k : PIDK F) (s : PidS F) : (Pid.step sp k s (.ok none)).1 = Pid.init := rfl
theorem pid_after_err (sp : F) (k : PIDK F) (s : PidS F) (e : Err) :
    (Pid.step sp k s (.error e)).1 = { (Pid.init : PidS F) with output := .error e } := rfl

/-- the first sample of a run: `e = sp − x`, integral `0 + 0`, derivative `0` (tier L: with `0 + 0 = 0` the integral is `0`) -/
theorem pid_first_sample (sp : F) (k : PIDK F) (x : Datum F) :
    specOut sp k [x] = .ok (some ⟨x.time, k.kp * (sp - x.value) + k.ki * (c0 + c0) + k.kd * c0⟩) := rfl

/-! ### timestamp-shift invariance (tier S: `dt` is formed in `Int`) -/
def shiftD (c : Int) (d : Datum F) : Datum F := ⟨d.time + c, d.value⟩
def shiftOut (c : Int) (o : Output F) : Output F :=
  match o with
  | .ok (some d) => .ok (some (shiftD c d))
  | x => x

theorem specI_shift (sp : F) (c : Int) (l : List (Datum F)) : specI sp (l.map (shiftD c)) = specI sp l := by
  induction l with
  | nil => rfl
  | cons x rest ih =>
    cases rest with
    | nil => rfl
    | cons p r =>
      simp only [List.map_cons, specI, shiftD, add_sub_add_right_eq_sub] at ih ⊢
      rw [ih]

theorem specD_shift (sp : F) (c : Int) (l : List (Datum F)) : specD sp (l.map (shiftD c)) = specD sp l := by
  cases l with
  | nil => rfl
  | cons x rest =>
    cases rest with
    | nil => rfl
    | cons p r => simp only [List.map_cons, specD, shiftD, add_sub_add_right_eq_sub]

theorem specOut_shift (sp : F) (k : PIDK F) (c : Int) (l : List (Datum F)) :
    specOut sp k (l.map (shiftD c)) = shiftOut c (specOut sp k l) := by
  cases l with
  | nil => rfl
  | cons x rest =>
    have hI := specI_shift sp c (x :: rest)
    have hD := specD_shift sp c (x :: rest)
    simp only [List.map_cons] at hI hD
    simp only [List.map_cons, specOut, shiftOut, hI, hD]
    rfl

def mapOut (f : Datum F → Datum F) : Output F → Output F
  | .ok (some d) => .ok (some (f d))
  | x => x

theorem shiftOut_eq (c : Int) : (shiftOut c : Output F → Output F) = mapOut (shiftD c) := by
  funext o
  rcases o with e | _ | d <;> rfl

theorem segment_map (f : Datum F → Datum F) (evs : List (Output F)) (acc : List (Datum F)) :
    (evs.map (mapOut f)).foldl segStep (acc.map f) = (evs.foldl segStep acc).map f := by
  rw [List.foldl_map]
  exact List.foldl_hom (List.map f) fun acc ev => by rcases ev with e | _ | d <;> rfl

/-- A transformation of the samples that the specification commutes with commutes with the whole stream: after the
transformed history the stream shows the transformed output (with another setpoint `sp'` if the specification asks
for one). -/
theorem pid_get_map (f : Datum F → Datum F) (sp sp' : F) (k : PIDK F)
    (hspec : ∀ l, specOut sp' k (l.map f) = mapOut f (specOut sp k l)) (evs : List (Output F)) :
    Pid.get (run sp' k Pid.init (evs.map (mapOut f))) = mapOut f (Pid.get (run sp k Pid.init evs)) := by
  have hseg : segment (evs.map (mapOut f)) = (segment evs).map f := segment_map f evs []
  rw [pid_eq_spec, pid_eq_spec, List.getLast?_map, hseg, hspec]
  rcases evs.getLast? with _ | e | _ | d <;> rfl

/-- shifting all timestamps by a constant leaves every output value unchanged (and shifts its time) -/
theorem pid_shift_invariant (sp : F) (k : PIDK F) (c : Int) (evs : List (Output F)) :
    Pid.get (run sp k Pid.init (evs.map (shiftOut c))) = shiftOut c (Pid.get (run sp k Pid.init evs)) := by
  rw [shiftOut_eq]
  exact pid_get_map (shiftD c) sp sp k (fun l => by rw [specOut_shift, shiftOut_eq]) evs
end S

/-! ### tier R: the output scales with setpoint and inputs -/
section R
variable {F : Type} [Field F] [LinearOrder F] [IsStrictOrderedRing F] [FloatLike F] [ExactScalar F]

def scaleD (c : F) (d : Datum F) : Datum F := ⟨d.time, c * d.value⟩

theorem specI_scale (sp c : F) (l : List (Datum F)) : specI (c * sp) (l.map (scaleD c)) = c * specI sp l := by
  induction l with
  | nil => show (c0 : F) = c * c0; rw [c0_eq, mul_zero]
  | cons x rest ih =>
    cases rest with
    | nil => show (c0 : F) + c0 = c * (c0 + c0); rw [c0_eq, add_zero, mul_zero]
    | cons p r =>
      simp only [List.map_cons, specI, scaleD] at ih ⊢
      -- `c` factors out of both errors, then out of the trapezoid
      rw [ih, ← mul_sub, ← mul_sub, ← mul_add, mul_left_comm, mul_div_assoc, ← mul_add]

theorem specD_scale (sp c : F) (l : List (Datum F)) : specD (c * sp) (l.map (scaleD c)) = c * specD sp l := by
  cases l with
  | nil => show (c0 : F) = c * c0; rw [c0_eq, mul_zero]
  | cons x rest =>
    cases rest with
    | nil => show (c0 : F) = c * c0; rw [c0_eq, mul_zero]
    | cons p r =>
      simp only [List.map_cons, specD, scaleD]
      rw [← mul_sub, ← mul_sub, ← mul_sub, mul_div_assoc]

def scaleOut (c : F) (o : Output F) : Output F :=
  match o with
  | .ok (some d) => .ok (some (scaleD c d))
  | x => x

theorem specOut_scale (sp c : F) (k : PIDK F) (l : List (Datum F)) :
    specOut (c * sp) k (l.map (scaleD c)) = scaleOut c (specOut sp k l) := by
  cases l with
  | nil => rfl
  | cons x rest =>
    have hI := specI_scale sp c (x :: rest)
    have hD := specD_scale sp c (x :: rest)
    simp only [List.map_cons] at hI hD
    simp only [List.map_cons, specOut, scaleOut, hI, hD]
    simp only [scaleD]
    -- each of the three terms carries one factor `c`
    rw [← mul_sub, mul_left_comm k.kp, mul_left_comm k.ki, mul_left_comm k.kd, ← mul_add, ← mul_add]

/-- scaling the setpoint and all inputs by `c` scales the output by `c` (in exact arithmetic; for a power of two this is
also exact in binary32 barring over/underflow, which the correspondence check exercises) -/
theorem pid_scale (sp c : F) (k : PIDK F) (x : Datum F) (rest : List (Datum F)) :
    specOut (c * sp) k ((x :: rest).map (scaleD c)) =
      .ok (some ⟨x.time, c * (k.kp * (sp - x.value) + k.ki * specI sp (x :: rest) + k.kd * specD sp (x :: rest))⟩) :=
  specOut_scale sp c k (x :: rest)

theorem scaleOut_eq (c : F) : (scaleOut c : Output F → Output F) = mapOut (scaleD c) := by
  funext o
  rcases o with e | _ | d <;> rfl

/-- **C04, scaling clause, for the stream the driver runs**: every history of present / absent / errored events, every `c`
(no side condition); an absent or error output is unchanged.  Exact arithmetic, as `pid_scale`. -/
theorem pid_scale_run (sp c : F) (k : PIDK F) (evs : List (Output F)) :
    Pid.get (run (c * sp) k Pid.init (evs.map (scaleOut c))) = scaleOut c (Pid.get (run sp k Pid.init evs)) := by
  rw [scaleOut_eq]
  exact pid_get_map (scaleD c) sp (c * sp) k (fun l => by rw [specOut_scale, scaleOut_eq]) evs

theorem pid_scale_run_value (sp c : F) (k : PIDK F) (evs : List (Output F)) (t : Int) (v : F)
    (h : Pid.get (run sp k Pid.init evs) = .ok (some ⟨t, v⟩)) :
    Pid.get (run (c * sp) k Pid.init (evs.map (scaleOut c))) = .ok (some ⟨t, c * v⟩) := by
  rw [pid_scale_run, h]; rfl

/-- non-vacuity of `pid_scale_run_value` over `ℚ`: setpoint 5, gains (1, 1, 1), samples 0 at 0 s and 1 at 2 s after an
error event: e = 4, I = 2·(5 + 4)/2 = 9, D = (4 − 5)/2, output 4 + 9 − 1/2 = 25/2 at 2 s; scaled by 3 it is 75/2 -/
theorem scale_example_run : Pid.get (run (5 : ℚ) ⟨1, 1, 1⟩ Pid.init
    [.error (.other 1), .ok (some ⟨0, 0⟩), .ok (some ⟨2000000000, 1⟩)]) = .ok (some ⟨2000000000, 25 / 2⟩) := by
  simp only [run, List.foldl, Pid.step, Pid.init, Pid.get, secs, FloatLike.ofInt]
  norm_num
example : Pid.get (run (5 : ℚ) ⟨1, 1, 1⟩ Pid.init
    [.error (.other 1), .ok (some ⟨0, 0⟩), .ok (some ⟨2000000000, 1⟩)]) = .ok (some ⟨2000000000, 25 / 2⟩) :=
  scale_example_run
example : Pid.get (run ((3 : ℚ) * 5) ⟨1, 1, 1⟩ Pid.init
    ([.error (.other 1), .ok (some ⟨0, 0⟩), .ok (some ⟨2000000000, 1⟩)].map (scaleOut 3))) =
      .ok (some ⟨2000000000, 3 * (25 / 2)⟩) :=
  pid_scale_run_value 5 3 ⟨1, 1, 1⟩ _ _ _ scale_example_run

/-- in exact arithmetic the `0 + 0` of the first sample is `0`: the trapezoid sum starts from 0 -/
theorem specI_first_zero (sp : F) (x : Datum F) : specI sp [x] = 0 := by show (c0 : F) + c0 = 0; simp
end R

/-- the run restarts after an error: only the samples after it count -/
example : segment [.ok (some (⟨0, 0⟩ : Datum Int)), .error (.other 1), .ok (some ⟨5, 1⟩), .ok (some ⟨7, 2⟩)] = [⟨7, 2⟩, ⟨5, 1⟩] := rfl

end Rrtk.Thm.C04
