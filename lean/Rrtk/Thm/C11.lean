/-
C11 — `CommandPID`: the staged PID-with-integration computation equals a non-incremental (textbook) specification;
set / reset / absent / error / follow semantics.
Tier S throughout: `F` is arbitrary (no algebraic laws), timestamps are `Int`.  Nothing here assumes that the
timestamps increase: every statement holds for every finite sequence of samples / events.
Two routes to the specification, both over the one arithmetic step `nextUs_sample`: runs of present samples from a fresh
state (`cpid_eq_spec`, by `feed_spec`; a state holding an input error counts as fresh, and the corollaries about `set`,
`reset` and absent inputs call it), and every event history from construction (`cpid_eq_spec_events`, at the end, by the
bookkeeping abstraction `Abs`).
-/
import Rrtk.Core
import Rrtk.Streams.Stateful
import Rrtk.Thm.Lemmas.Pid
set_option linter.unusedSectionVars false
namespace Rrtk.Thm.C11
open Rrtk

/-- `Int` as a scalar, used only by the non-vacuity `example`s below (`/` is integer division, so the example
timestamps are multiples of 2·10⁹ ns) -/
local instance : FloatLike Int := ⟨fun n => n, fun n => n, fun _ _ => 1, fun n => n.natAbs⟩

section S
variable {F : Type} [Add F] [Sub F] [Mul F] [Div F] [Neg F] [LT F] [LE F] [BEq F]
  [DecidableLT F] [DecidableLE F] [FloatLike F]

/-- One thing that can happen to a `CommandPID`. -/
inductive Ev (F : Type) where
  /-- one `update()`: `o` is what the input getter returns, `fol` what the followed command getter returns
  (`none` = not following anything) -/
  | input (o : Output (State F)) (fol : Option (Output (Command F)))
  /-- `Settable::set(c)` -/
  | set (c : Command F)
  /-- `reset()` -/
  | reset

def applyEv (chk : Bool) (k : PIDK3 F) (s : CpidS F) : Ev F → CpidS F
  | .input o fol => (Cpid.step chk k s fol o).1
  | .set c => Cpid.set s c
  | .reset => Cpid.reset s

/-- what the call returns (`set` and `reset` cannot fail) -/
def retEv (chk : Bool) (k : PIDK3 F) (s : CpidS F) : Ev F → UpdRet
  | .input o fol => (Cpid.step chk k s fol o).2
  | .set _ => .ok ()
  | .reset => .ok ()

/-- what a call returns, read off the event alone (`retEv_eq`) -/
def absRet : Ev F → UpdRet
  | .input _ (some (.error e)) => .error e
  | .input (.error e) _ => .error e
  | _ => .ok ()

/-- the return value of any event is: the follower's error, else the input's error, else `Ok` -/
theorem retEv_eq (chk : Bool) (k : PIDK3 F) (s : CpidS F) (ev : Ev F) : retEv chk k s ev = absRet ev := by
  cases ev with
  | set c => rfl
  | reset => rfl
  | input o fol =>
    have hsi : ∀ s' : CpidS F, (Cpid.stepInput chk k s' o).2 = absRet (.input o none) := by
      intro s'
      rw [Cpid.stepInput_eq]
      cases o <;> rfl
    rcases fol with _ | e | _ | d
    · exact hsi s
    · rfl
    · exact (hsi s).trans (by cases o <;> rfl)
    · exact (hsi _).trans (by cases o <;> rfl)

def run (chk : Bool) (k : PIDK3 F) (s : CpidS F) (evs : List (Ev F)) : CpidS F :=
  evs.foldl (applyEv chk k) s

/-- feeding a run of present samples (oldest first), not following -/
def feed (chk : Bool) (k : PIDK3 F) (s : CpidS F) (xs : List (Datum (State F))) : CpidS F :=
  xs.foldl (fun s x => (Cpid.stepInput chk k s (.ok (some x))).1) s

/-- "fresh": just constructed / reset / after an absent input / after a differing `set`, or holding an input error -/
def Fresh (s : CpidS F) : Prop := s.us = .ok none ∨ ∃ e, s.us = .error e

/-! ### the non-incremental specification

All functions below take the history of samples **newest first** (`x :: p :: …`: `x` is the current sample `xᵢ`,
`p` the previous one `xᵢ₋₁`).  For a run `xs` given oldest first the history is `xs.reverse`. -/

/-- `eᵢ = r − (component of xᵢ matching the command kind)` -/
def err (chk : Bool) (c : Command F) (x : Datum (State F)) : F :=
  c.raw - (x.value.getValue chk c.kind).value

/-- `dtᵢ = secs (tᵢ − tᵢ₋₁)`; the difference is formed in `Int` (nanoseconds) -/
def dts (x p : Datum (State F)) : F := secs (x.time - p.time)

/-- `I₀ = 0`, `I₁ = (e₀+e₁)/2·dt₁`, `Iᵢ = Iᵢ₋₁ + (eᵢ₋₁+eᵢ)/2·dtᵢ` -/
def errInt (chk : Bool) (c : Command F) : List (Datum (State F)) → F
  | [] => c0
  | [_] => c0
  | [x, p] => (err chk c p + err chk c x) / c2 * dts x p
  | x :: p :: q :: r => errInt chk c (p :: q :: r) + (err chk c p + err chk c x) / c2 * dts x p

/-- `D₀ = 0`, `Dᵢ = (eᵢ − eᵢ₋₁)/dtᵢ` -/
def errDrv (chk : Bool) (c : Command F) : List (Datum (State F)) → F
  | x :: p :: _ => (err chk c x - err chk c p) / dts x p
  | _ => c0

/-- `uᵢ = evaluate κ eᵢ Iᵢ Dᵢ` -/
def ctl (chk : Bool) (k : PIDK3 F) (c : Command F) : List (Datum (State F)) → F
  | [] => c0
  | x :: r => k.evaluate c.kind (err chk c x) (errInt chk c (x :: r)) (errDrv chk c (x :: r))

/-- `U₁ = (u₀+u₁)/2·dt₁`, `Uᵢ = Uᵢ₋₁ + (uᵢ₋₁+uᵢ)/2·dtᵢ` (meaningful from two samples on) -/
def ctlInt (chk : Bool) (k : PIDK3 F) (c : Command F) : List (Datum (State F)) → F
  | [] => c0
  | [_] => c0
  | [x, p] => (ctl chk k c [p] + ctl chk k c [x, p]) / c2 * dts x p
  | x :: p :: q :: r =>
    ctlInt chk k c (p :: q :: r) + (ctl chk k c (p :: q :: r) + ctl chk k c (x :: p :: q :: r)) / c2 * dts x p

/-- `W₂ = (U₁+U₂)/2·dt₂`, `Wᵢ = Wᵢ₋₁ + (Uᵢ₋₁+Uᵢ)/2·dtᵢ` (meaningful from three samples on) -/
def ctlIntInt (chk : Bool) (k : PIDK3 F) (c : Command F) : List (Datum (State F)) → F
  | [x, p, q] => (ctlInt chk k c [p, q] + ctlInt chk k c [x, p, q]) / c2 * dts x p
  | x :: p :: q :: r :: t =>
    ctlIntInt chk k c (p :: q :: r :: t) +
      (ctlInt chk k c (p :: q :: r :: t) + ctlInt chk k c (x :: p :: q :: r :: t)) / c2 * dts x p
  | _ => c0

/-- the specified output after the history `h` (newest first) under command `c` -/
def specOut (chk : Bool) (k : PIDK3 F) (c : Command F) : List (Datum (State F)) → Output F
  | [] => .ok none
  | x :: r =>
    match c.kind with
    | .position => .ok (some ⟨x.time, ctl chk k c (x :: r)⟩)
    | .velocity => if 2 ≤ (x :: r).length then .ok (some ⟨x.time, ctlInt chk k c (x :: r)⟩) else .ok none
    | .acceleration => if 3 ≤ (x :: r).length then .ok (some ⟨x.time, ctlIntInt chk k c (x :: r)⟩) else .ok none

/-- the specified internal record after the history `h` (the invariant of the induction) -/
def specU0 (chk : Bool) (k : PIDK3 F) (c : Command F) : List (Datum (State F)) → Option (CpU0 F)
  | [] => none
  | [x] => some ⟨x.time, ctl chk k c [x], err chk c x, none⟩
  | [x, p] => some ⟨x.time, ctl chk k c [x, p], err chk c x,
      some ⟨ctlInt chk k c [x, p], errInt chk c [x, p], none⟩⟩
  | x :: p :: q :: r => some ⟨x.time, ctl chk k c (x :: p :: q :: r), err chk c x,
      some ⟨ctlInt chk k c (x :: p :: q :: r), errInt chk c (x :: p :: q :: r),
        some (ctlIntInt chk k c (x :: p :: q :: r))⟩⟩

/-- The arithmetic step: one more sample turns the specified record for the history `l` into the specified record for
`x :: l`.  `l = []` is the first sample after a restart. -/
theorem nextUs_sample (chk : Bool) (k : PIDK3 F) (c : Command F) (l : List (Datum (State F))) (x : Datum (State F)) :
    Cpid.nextUs chk k c (.ok (specU0 chk k c l)) (.ok (some x)) = .ok (specU0 chk k c (x :: l)) := by
  match l with
  | [] => rfl
  | [p] => rfl
  | [p, q] => rfl
  | p :: q :: r :: t => rfl

theorem feed_cons (chk : Bool) (k : PIDK3 F) (s : CpidS F) (x : Datum (State F)) (xs : List (Datum (State F))) :
    feed chk k s (x :: xs) = feed chk k (Cpid.stepInput chk k s (.ok (some x))).1 xs := rfl

theorem feed_eq_run (chk : Bool) (k : PIDK3 F) (s : CpidS F) (xs : List (Datum (State F))) :
    feed chk k s xs = run chk k s (xs.map fun x => Ev.input (.ok (some x)) none) := by
  rw [run, List.foldl_map]; rfl

/-- Invariant of the main theorem: from a state holding the specified record for a history `l`, feeding the samples
`xs` (oldest first) replaces it by the specified record for `xs.reverse ++ l` and changes nothing else. -/
theorem feed_spec (chk : Bool) (k : PIDK3 F) (xs : List (Datum (State F))) :
    ∀ (s : CpidS F) (l : List (Datum (State F))), s.us = .ok (specU0 chk k s.command l) →
      feed chk k s xs = { s with us := .ok (specU0 chk k s.command (xs.reverse ++ l)) } := by
  induction xs with
  | nil =>
    intro s l h
    obtain ⟨c, us, lr⟩ := s
    obtain rfl : us = .ok (specU0 chk k c l) := h
    rfl
  | cons x xs ih =>
    intro s l h
    rw [feed_cons, Cpid.stepInput_eq, h, nextUs_sample, ih _ (x :: l) rfl, List.reverse_cons, List.append_assoc]
    rfl

theorem feed_of_error (chk : Bool) (k : PIDK3 F) (s : CpidS F) (e : Err) (hs : s.us = .error e)
    (xs : List (Datum (State F))) (hne : xs ≠ []) : feed chk k s xs = feed chk k { s with us := .ok none } xs := by
  obtain ⟨x, xs, rfl⟩ := List.exists_cons_of_ne_nil hne
  rw [feed_cons, feed_cons, Cpid.stepInput_eq, Cpid.stepInput_eq, hs, Cpid.nextUs_sample_of_error]

theorem get_specU0 (chk : Bool) (k : PIDK3 F) (c : Command F) (lr : Option (Command F))
    (h : List (Datum (State F))) :
    Cpid.get ⟨c, .ok (specU0 chk k c h), lr⟩ = specOut chk k c h := by
  match h with
  | [] => rfl
  | [x] => rcases c with v | v | v <;> rfl
  | [x, p] => rcases c with v | v | v <;> rfl
  | x :: p :: q :: r => rcases c with v | v | v <;> rfl

/-- **C11, main theorem.**  From any fresh state (after construction, `reset`, an absent input, a differing `set`,
or while an input error is cached), after a non-empty run `xs` of present samples (oldest first) the getter returns
exactly the specified output for the history `xs.reverse`: `uₙ` / `Uₙ` / `Wₙ` stamped with the time of the newest
sample, or nothing while `U`/`W` are not yet defined. -/
theorem cpid_eq_spec (chk : Bool) (k : PIDK3 F) (s : CpidS F) (hs : Fresh s)
    (xs : List (Datum (State F))) (hne : xs ≠ []) :
    Cpid.get (feed chk k s xs) = specOut chk k s.command xs.reverse := by
  have h : feed chk k s xs = { s with us := .ok (specU0 chk k s.command xs.reverse) } := by
    rcases hs with hs | ⟨e, hs⟩
    · rw [feed_spec chk k xs s [] hs, List.append_nil]
    · rw [feed_of_error chk k s e hs xs hne, feed_spec chk k xs _ [] rfl, List.append_nil]
  rw [h]
  exact get_specU0 chk k s.command s.lastRequest xs.reverse

/-- how often the control signal is integrated before it is shown, which is for how many samples nothing is shown -/
def delay : PosDer → Nat
  | .position => 0
  | .velocity => 1
  | .acceleration => 2

/-- what is shown once it exists: `u`, `U` or `W` -/
def specVal (chk : Bool) (k : PIDK3 F) (c : Command F) (h : List (Datum (State F))) : F :=
  match c.kind with
  | .position => ctl chk k c h
  | .velocity => ctlInt chk k c h
  | .acceleration => ctlIntInt chk k c h

theorem specOut_cons (chk : Bool) (k : PIDK3 F) (c : Command F) (x : Datum (State F)) (r : List (Datum (State F))) :
    specOut chk k c (x :: r) =
      if delay c.kind < (x :: r).length then .ok (some ⟨x.time, specVal chk k c (x :: r)⟩) else .ok none := by
  simp only [specOut, specVal, delay]
  cases c.kind
  · exact (if_pos (Nat.succ_pos _)).symm
  · rfl
  · rfl

/-- The output during a run of present samples, all command kinds at once: absent for the first `delay` samples, then
`specVal` of the history, stamped with the newest sample's time. -/
theorem cpid_get_feed (chk : Bool) (k : PIDK3 F) (s : CpidS F) (hs : Fresh s)
    (xs : List (Datum (State F))) (x : Datum (State F)) :
    Cpid.get (feed chk k s (xs ++ [x])) =
      if delay s.command.kind ≤ xs.length then .ok (some ⟨x.time, specVal chk k s.command (x :: xs.reverse)⟩)
      else .ok none := by
  rw [cpid_eq_spec chk k s hs _ (by simp), List.reverse_append, List.reverse_singleton, List.singleton_append,
    specOut_cons]
  simp only [List.length_cons, List.length_reverse, Nat.lt_succ_iff]

/-- the OUTPUT is absent for exactly the first `delay` samples of a run of present samples from a fresh state (what an
absent INPUT does is `cpid_absent_resets`) -/
theorem cpid_absent_prefix (chk : Bool) (k : PIDK3 F) (s : CpidS F) (hs : Fresh s)
    (xs : List (Datum (State F))) (hne : xs ≠ []) :
    (Cpid.get (feed chk k s xs) = .ok none ↔ xs.length ≤ delay s.command.kind) ∧
    ((∃ d, Cpid.get (feed chk k s xs) = .ok (some d)) ↔ delay s.command.kind < xs.length) := by
  obtain ⟨ys, y, rfl⟩ := (List.eq_nil_or_concat xs).resolve_left hne
  rw [List.concat_eq_append, cpid_get_feed chk k s hs, List.length_append, List.length_singleton, Nat.lt_succ_iff,
    Nat.succ_le_iff, ← Nat.not_le]
  by_cases h : delay s.command.kind ≤ ys.length
  · rw [if_pos h]; exact ⟨⟨nofun, fun h' => absurd h h'⟩, ⟨fun _ => h, fun _ => ⟨_, rfl⟩⟩⟩
  · rw [if_neg h]; exact ⟨⟨fun _ => h, fun _ => rfl⟩, ⟨nofun, fun h' => absurd h' h⟩⟩

/-- position command: `uₙ` from the very first sample -/
theorem cpid_eq_spec_position (chk : Bool) (k : PIDK3 F) (s : CpidS F) (hs : Fresh s)
    (hk : s.command.kind = .position) (xs : List (Datum (State F))) (x : Datum (State F)) :
    Cpid.get (feed chk k s (xs ++ [x])) = .ok (some ⟨x.time, ctl chk k s.command (x :: xs.reverse)⟩) := by
  rw [cpid_get_feed chk k s hs, hk, if_pos (show delay .position ≤ xs.length from Nat.zero_le _), specVal, hk]

/-- velocity command: nothing after one sample, `Uₙ` from the second sample on -/
theorem cpid_eq_spec_velocity (chk : Bool) (k : PIDK3 F) (s : CpidS F) (hs : Fresh s)
    (hk : s.command.kind = .velocity) :
    (∀ x : Datum (State F), Cpid.get (feed chk k s [x]) = .ok none) ∧
    (∀ (xs : List (Datum (State F))) (p x : Datum (State F)),
      Cpid.get (feed chk k s (xs ++ [p, x])) =
        .ok (some ⟨x.time, ctlInt chk k s.command (x :: p :: xs.reverse)⟩)) := by
  refine ⟨fun x => ?_, fun xs p x => ?_⟩
  · rw [← List.nil_append [x], cpid_get_feed chk k s hs, hk]; rfl
  · rw [List.append_cons, cpid_get_feed chk k s hs, hk, if_pos (by simp [delay])]
    simp only [specVal, hk, List.reverse_append, List.reverse_singleton, List.singleton_append]

/-- acceleration command: nothing after one or two samples, `Wₙ` from the third sample on -/
theorem cpid_eq_spec_acceleration (chk : Bool) (k : PIDK3 F) (s : CpidS F) (hs : Fresh s)
    (hk : s.command.kind = .acceleration) :
    (∀ x : Datum (State F), Cpid.get (feed chk k s [x]) = .ok none) ∧
    (∀ p x : Datum (State F), Cpid.get (feed chk k s [p, x]) = .ok none) ∧
    (∀ (xs : List (Datum (State F))) (q p x : Datum (State F)),
      Cpid.get (feed chk k s (xs ++ [q, p, x])) =
        .ok (some ⟨x.time, ctlIntInt chk k s.command (x :: p :: q :: xs.reverse)⟩)) := by
  refine ⟨fun x => ?_, fun p x => ?_, fun xs q p x => ?_⟩
  · rw [← List.nil_append [x], cpid_get_feed chk k s hs, hk]; rfl
  · rw [show [p, x] = [p] ++ [x] from rfl, cpid_get_feed chk k s hs, hk]; rfl
  · rw [show xs ++ [q, p, x] = (xs ++ [q, p]) ++ [x] by simp, cpid_get_feed chk k s hs, hk, if_pos (by simp [delay])]
    simp only [specVal, hk, List.reverse_append, List.reverse_cons, List.reverse_nil, List.nil_append, List.cons_append]

/-- the output is never an error during a run of present samples, and is stamped with the newest sample's time -/
theorem cpid_run_output_time (chk : Bool) (k : PIDK3 F) (s : CpidS F) (hs : Fresh s)
    (xs : List (Datum (State F))) (x : Datum (State F)) :
    Cpid.get (feed chk k s (xs ++ [x])) = .ok none ∨
      ∃ v, Cpid.get (feed chk k s (xs ++ [x])) = .ok (some ⟨x.time, v⟩) := by
  rw [cpid_get_feed chk k s hs]
  split
  · exact .inr ⟨_, rfl⟩
  · exact .inl rfl

/-- position: absent for exactly the first 0 samples — present after every non-empty run -/
theorem cpid_absent_prefix_position (chk : Bool) (k : PIDK3 F) (s : CpidS F) (hs : Fresh s)
    (hk : s.command.kind = .position) (xs : List (Datum (State F))) (hne : xs ≠ []) :
    Cpid.get (feed chk k s xs) ≠ .ok none ∧ ∃ d, Cpid.get (feed chk k s xs) = .ok (some d) := by
  have h := cpid_absent_prefix chk k s hs xs hne
  rw [hk] at h
  have hpos : delay .position < xs.length := List.length_pos_iff.mpr hne
  exact ⟨fun h0 => absurd (h.1.1 h0) (Nat.not_le.2 hpos), h.2.2 hpos⟩

/-- velocity: absent for exactly the first sample — after `n ≥ 1` samples the output is absent iff `n = 1`,
and present otherwise -/
theorem cpid_absent_prefix_velocity (chk : Bool) (k : PIDK3 F) (s : CpidS F) (hs : Fresh s)
    (hk : s.command.kind = .velocity) (xs : List (Datum (State F))) (hne : xs ≠ []) :
    (Cpid.get (feed chk k s xs) = .ok none ↔ xs.length = 1) ∧
    ((∃ d, Cpid.get (feed chk k s xs) = .ok (some d)) ↔ 2 ≤ xs.length) := by
  have hpos := List.length_pos_iff.mpr hne
  have h := cpid_absent_prefix chk k s hs xs hne
  rw [hk] at h
  exact ⟨h.1.trans ⟨fun h1 => Nat.le_antisymm h1 hpos, Nat.le_of_eq⟩, h.2⟩

/-- acceleration: absent for exactly the first two samples -/
theorem cpid_absent_prefix_acceleration (chk : Bool) (k : PIDK3 F) (s : CpidS F) (hs : Fresh s)
    (hk : s.command.kind = .acceleration) (xs : List (Datum (State F))) (hne : xs ≠ []) :
    (Cpid.get (feed chk k s xs) = .ok none ↔ xs.length ≤ 2) ∧
    ((∃ d, Cpid.get (feed chk k s xs) = .ok (some d)) ↔ 3 ≤ xs.length) := by
  have h := cpid_absent_prefix chk k s hs xs hne
  rwa [hk] at h

/-! non-vacuity / concrete instances (payloads in `Int`) -/
def exK : PIDK3 Int := ⟨⟨1, 2, 3⟩, ⟨2, 1, 4⟩, ⟨3, 1, 2⟩⟩
def exXs : List (Datum (State Int)) :=
  [⟨0, ⟨1, 2, 3⟩⟩, ⟨2000000000, ⟨3, 4, 1⟩⟩, ⟨4000000000, ⟨6, 5, 2⟩⟩, ⟨6000000000, ⟨8, 9, 4⟩⟩]
example : Fresh (Cpid.init (.position (10 : Int))) := .inl rfl
example : Fresh (⟨.velocity (10 : Int), .error (.other 3), none⟩ : CpidS Int) := .inr ⟨_, rfl⟩
example : exXs ≠ [] := by decide
example : (Cpid.init (.position (10 : Int))).command.kind = .position := rfl
example : (Cpid.init (.velocity (10 : Int))).command.kind = .velocity := rfl
example : (Cpid.init (.acceleration (10 : Int))).command.kind = .acceleration := rfl
/-- the hypothesis of `feed_spec` holds after the first sample -/
example : (Cpid.stepInput true exK (Cpid.init (.velocity 10)) (.ok (some ⟨0, ⟨1, 2, 3⟩⟩))).1.us =
    .ok (specU0 true exK (.velocity 10) [⟨0, ⟨1, 2, 3⟩⟩]) := rfl
/-- position: e = 9,7,4,2; dt = 2; I₃ = 32, D₃ = −1, u₃ = 1·2 + 2·32 + 3·(−1) = 63 -/
example : Cpid.get (feed true exK (Cpid.init (.position 10)) exXs) = .ok (some ⟨6000000000, 63⟩) := by rfl
example : specOut true exK (.position 10) exXs.reverse = .ok (some ⟨6000000000, 63⟩) := by rfl
example : Cpid.get (feed true exK (Cpid.init (.velocity 10)) exXs) = .ok (some ⟨6000000000, 144⟩) := by rfl
example : specOut true exK (.velocity 10) exXs.reverse = .ok (some ⟨6000000000, 144⟩) := by rfl
example : Cpid.get (feed true exK (Cpid.init (.acceleration 10)) exXs) = .ok (some ⟨6000000000, 674⟩) := by rfl
example : specOut true exK (.acceleration 10) exXs.reverse = .ok (some ⟨6000000000, 674⟩) := by rfl
example : Cpid.get (feed true exK (Cpid.init (.acceleration 10)) (exXs.take 2)) = .ok none := by rfl
example : Cpid.get (feed true exK (Cpid.init (.velocity 10)) (exXs.take 1)) = .ok none := by rfl

/-- `Cpid.step` and `applyEv` only compose `stepInput`, `set` and `reset`.  So if a second system `ap'` reads a followed
command the same way (`hfol`, which is `cpid_follow_is_set` for `applyEv`), a relation between the two states that the
three operations preserve is preserved by every event history. -/
theorem run_rel {S' : Type} (chk : Bool) (k : PIDK3 F) (R : CpidS F → S' → Prop) (ap' : S' → Ev F → S')
    (hfol : ∀ a o fol, ap' a (.input o (some fol)) = match fol with
      | .error _ => a
      | .ok none => ap' a (.input o none)
      | .ok (some d) => ap' (ap' a (.set d.value)) (.input o none))
    (hin : ∀ s a, R s a → ∀ o, R (Cpid.stepInput chk k s o).1 (ap' a (.input o none)))
    (hset : ∀ s a, R s a → ∀ c, R (Cpid.set s c) (ap' a (.set c)))
    (hreset : ∀ s a, R s a → R (Cpid.reset s) (ap' a .reset))
    (evs : List (Ev F)) (s : CpidS F) (a : S') (h : R s a) : R (run chk k s evs) (evs.foldl ap' a) := by
  refine List.foldl_rel h fun ev _ s a h => ?_
  cases ev with
  | set c => exact hset s a h c
  | reset => exact hreset s a h
  | input o fol =>
    rcases fol with _ | e | _ | d
    · exact hin s a h o
    · rw [hfol]; exact h
    · rw [hfol]; exact hin s a h o
    · rw [hfol]; exact hin _ _ (hset s a h d.value) o

theorem get_setLR (s : CpidS F) (l : Option (Command F)) : Cpid.get { s with lastRequest := l } = Cpid.get s := rfl

/-- Setting a command equal (w.r.t. the derived `PartialEq`, `Command.beq`) to the current one changes nothing but
the recorded last request: internal record and command are untouched. -/
theorem cpid_set_same_noop (s : CpidS F) (c : Command F) (h : Command.beq c s.command = true) :
    Cpid.set s c = { s with lastRequest := some c } ∧
    (Cpid.set s c).us = s.us ∧ (Cpid.set s c).command = s.command ∧ Cpid.get (Cpid.set s c) = Cpid.get s := by
  rw [Cpid.set_same s c h]; exact ⟨rfl, rfl, rfl, rfl⟩

/-- the whole future (every later output and every later return value) is independent of `lastRequest`: after any
events two states differing only in `lastRequest` again differ only in `lastRequest` (and the return values are equal
by `retEv_eq`) -/
theorem cpid_lastRequest_irrelevant (chk : Bool) (k : PIDK3 F) (evs : List (Ev F)) (s : CpidS F)
    (l : Option (Command F)) :
    ∃ l', run chk k { s with lastRequest := l } evs = { run chk k s evs with lastRequest := l' } :=
  run_rel chk k (fun s₁ s₂ => ∃ l', s₁ = { s₂ with lastRequest := l' }) (applyEv chk k)
    (fun _ _ fol => by rcases fol with _ | _ | _ <;> rfl)
    (fun _ s ⟨l', h⟩ o => ⟨l', by simp only [h, applyEv, Cpid.step, Cpid.stepInput_eq]⟩)
    (fun _ s ⟨l', h⟩ c => ⟨some c, by rw [h, Cpid.set_setLR]; rfl⟩)
    (fun _ s ⟨l', h⟩ => ⟨l', h ▸ rfl⟩) evs _ s ⟨l, rfl⟩

/-- … hence setting an equal command leaves every later output unchanged, whatever happens afterwards, and the
return value of every later call too. -/
theorem cpid_set_same_later_outputs (chk : Bool) (k : PIDK3 F) (s : CpidS F) (c : Command F)
    (h : Command.beq c s.command = true) (evs : List (Ev F)) :
    Cpid.get (run chk k (Cpid.set s c) evs) = Cpid.get (run chk k s evs) ∧
    ∀ ev, retEv chk k (run chk k (Cpid.set s c) evs) ev = retEv chk k (run chk k s evs) ev := by
  rw [Cpid.set_same s c h]
  obtain ⟨l', h'⟩ := cpid_lastRequest_irrelevant chk k evs s (some c)
  rw [h']
  exact ⟨rfl, fun ev => by rw [retEv_eq, retEv_eq]⟩

/-- Setting a different command (`Command.beq` false — includes NaN payloads, which differ from themselves) makes the
state fresh with the new command: the output is absent right away and the following samples are processed as after
construction with `c` (main theorem). -/
theorem cpid_set_diff_restarts (chk : Bool) (k : PIDK3 F) (s : CpidS F) (c : Command F)
    (h : Command.beq c s.command = false) :
    Cpid.set s c = ⟨c, .ok none, some c⟩ ∧ Fresh (Cpid.set s c) ∧ Cpid.get (Cpid.set s c) = .ok none ∧
    ∀ xs : List (Datum (State F)), xs ≠ [] →
      Cpid.get (feed chk k (Cpid.set s c) xs) = specOut chk k c xs.reverse := by
  rw [Cpid.set_diff s c h]
  refine ⟨rfl, .inl rfl, rfl, fun xs hne => ?_⟩
  exact cpid_eq_spec chk k ⟨c, .ok none, some c⟩ (.inl rfl) xs hne

theorem set_lastRequest (s : CpidS F) (c : Command F) : (Cpid.set s c).lastRequest = some c := rfl

/-- `reset` is a fresh start with the same command -/
theorem cpid_reset_restarts (chk : Bool) (k : PIDK3 F) (s : CpidS F) :
    Cpid.reset s = { s with us := .ok none } ∧ Fresh (Cpid.reset s) ∧ Cpid.get (Cpid.reset s) = .ok none ∧
    ∀ xs : List (Datum (State F)), xs ≠ [] →
      Cpid.get (feed chk k (Cpid.reset s) xs) = specOut chk k s.command xs.reverse :=
  ⟨rfl, .inl rfl, rfl, fun xs hne => cpid_eq_spec chk k (Cpid.reset s) (.inl rfl) xs hne⟩

theorem cpid_init_fresh (c : Command F) : Fresh (Cpid.init c) ∧ Cpid.get (Cpid.init c) = .ok none := ⟨.inl rfl, rfl⟩

/-! non-vacuity: both outcomes of the comparison occur -/
example : Command.beq (.velocity (10 : Int)) (Cpid.init (.velocity (10 : Int))).command = true := by decide
example : Command.beq (.velocity (11 : Int)) (Cpid.init (.velocity (10 : Int))).command = false := by decide
example : Command.beq (.position (10 : Int)) (Cpid.init (.velocity (10 : Int))).command = false := by decide
/-- a same-command `set` in the middle of a run does not disturb it; a differing one restarts it -/
example : Cpid.get (feed true exK (Cpid.set (feed true exK (Cpid.init (.velocity 10)) (exXs.take 2)) (.velocity 10))
    (exXs.drop 2)) = .ok (some ⟨6000000000, 144⟩) := by rfl
example : Cpid.get (feed true exK (Cpid.set (feed true exK (Cpid.init (.velocity 10)) (exXs.take 2)) (.velocity 11))
    (exXs.drop 2)) = specOut true exK (.velocity 11) (exXs.drop 2).reverse := by rfl

/-- an absent input resets the computation from any state: `update` returns `Ok`, the output is absent, and the state
is fresh (so the next samples start afresh by the main theorem).  The first conjunct alone is `C05.cpid_absent_resets`
(`Thm/C05.lean`). -/
theorem cpid_absent_resets (chk : Bool) (k : PIDK3 F) (s : CpidS F) :
    Cpid.stepInput chk k s (.ok none) = ({ s with us := .ok none }, .ok ()) ∧
    Fresh (Cpid.stepInput chk k s (.ok none)).1 ∧
    Cpid.get (Cpid.stepInput chk k s (.ok none)).1 = .ok none ∧
    ∀ xs : List (Datum (State F)), xs ≠ [] →
      Cpid.get (feed chk k (Cpid.stepInput chk k s (.ok none)).1 xs) = specOut chk k s.command xs.reverse :=
  ⟨rfl, .inl rfl, rfl, fun xs hne => cpid_eq_spec chk k (Cpid.reset s) (.inl rfl) xs hne⟩

/-- events under which a cached input error persists (relative to the current command `cmd`): setting an equal
command, and updates aborted by an error of the followed command getter -/
def Keeps (cmd : Command F) : Ev F → Prop
  | .set c => Command.beq c cmd = true
  | .input _ (some (.error _)) => True
  | _ => False

theorem cpid_err_stored (chk : Bool) (k : PIDK3 F) (s : CpidS F) (e : Err) :
    Cpid.stepInput chk k s (.error e) = ({ s with us := .error e }, .error e) ∧
    Cpid.get (Cpid.stepInput chk k s (.error e)).1 = .error e := ⟨rfl, rfl⟩

theorem applyEv_keeps (chk : Bool) (k : PIDK3 F) (s : CpidS F) (ev : Ev F) (hk : Keeps s.command ev) :
    (applyEv chk k s ev).us = s.us ∧ (applyEv chk k s ev).command = s.command := by
  cases ev with
  | set c =>
    obtain ⟨-, hus, hcmd, -⟩ := cpid_set_same_noop s c hk
    exact ⟨hus, hcmd⟩
  | reset => exact False.elim hk
  | input o fol =>
    rcases fol with _ | e | od
    · exact False.elim hk
    · exact ⟨rfl, rfl⟩
    · exact False.elim hk

/-- the error stays cached (and is what `get` reports) through any number of equal-command `set`s and of updates
aborted by the follower (such an update leaves the whole state untouched and returns the follower's error:
`cpid_follow_error_aborts`) -/
theorem cpid_err_cached_until (chk : Bool) (k : PIDK3 F) (e : Err) (evs : List (Ev F)) :
    ∀ s : CpidS F, s.us = .error e → (∀ ev ∈ evs, Keeps s.command ev) →
      (run chk k s evs).us = .error e ∧ (run chk k s evs).command = s.command ∧
      Cpid.get (run chk k s evs) = .error e := by
  intro s hs hall
  have h : (run chk k s evs).us = .error e ∧ (run chk k s evs).command = s.command :=
    List.foldlRecOn (motive := fun s' => s'.us = .error e ∧ s'.command = s.command) evs (applyEv chk k) ⟨hs, rfl⟩
      fun s' ⟨hu, hc⟩ ev hev =>
        have h1 := applyEv_keeps chk k s' ev (hc ▸ hall ev hev)
        ⟨h1.1.trans hu, h1.2.trans hc⟩
  exact ⟨h.1, h.2, (Cpid.get_error_iff _ e).2 h.1⟩

/-- the same, starting from the erroring update itself -/
theorem cpid_err_cached_after_error (chk : Bool) (k : PIDK3 F) (s : CpidS F) (e : Err)
    (fol : Option (Output (Command F))) (hf : ∀ e', fol ≠ some (.error e'))
    (evs : List (Ev F)) (hall : ∀ ev ∈ evs, Keeps (applyEv chk k s (.input (.error e) fol)).command ev) :
    retEv chk k s (.input (.error e) fol) = .error e ∧
    Cpid.get (run chk k s (.input (.error e) fol :: evs)) = .error e := by
  have hus : (applyEv chk k s (.input (.error e) fol)).us = .error e ∧
      retEv chk k s (.input (.error e) fol) = .error e := by
    rcases fol with _ | e' | od
    · exact ⟨rfl, rfl⟩
    · exact absurd rfl (hf e')
    · cases od <;> exact ⟨rfl, rfl⟩
  exact ⟨hus.2, (cpid_err_cached_until chk k e evs _ hus.1 hall).2.2⟩

/-- an update in which the followed getter errors aborts before the input is read -/
theorem cpid_follow_error_aborts (chk : Bool) (k : PIDK3 F) (s : CpidS F) (e : Err) (inp : Output (State F)) :
    Cpid.step chk k s (some (.error e)) inp = (s, .error e) := rfl

/-- the cached error ends with the next present sample: it and all the samples after it are treated exactly as from a
fresh state -/
theorem cpid_err_then_run_fresh (chk : Bool) (k : PIDK3 F) (s : CpidS F) (e : Err)
    (xs : List (Datum (State F))) (hne : xs ≠ []) :
    feed chk k { s with us := .error e } xs = feed chk k { s with us := .ok none } xs :=
  feed_of_error chk k _ e rfl xs hne

/-- the other three ways out of a cached error: absent input, differing `set`, `reset` — all give `us = Ok(None)` -/
theorem cpid_err_ended_by (chk : Bool) (k : PIDK3 F) (s : CpidS F) (c : Command F)
    (hc : Command.beq c s.command = false) :
    (Cpid.stepInput chk k s (.ok none)).1.us = .ok none ∧ (Cpid.set s c).us = .ok none ∧
    (Cpid.reset s).us = .ok none :=
  ⟨rfl, by rw [Cpid.set_diff s c hc], rfl⟩

/-! non-vacuity: a history of `Keeps` events exists, and the error is still shown after it -/
example : ∀ ev ∈ ([.set (.velocity 10), .input (.ok none) (some (.error .fromNone)), .set (.velocity 10)] : List (Ev Int)),
    Keeps (⟨.velocity 10, .error (.other 3), none⟩ : CpidS Int).command ev := by
  intro ev hev
  simp only [List.mem_cons, List.not_mem_nil, or_false] at hev
  rcases hev with rfl | rfl | rfl
  · show Command.beq _ _ = true; decide
  · exact trivial
  · show Command.beq _ _ = true; decide
example : ∀ e', (none : Option (Output (Command Int))) ≠ some (.error e') := nofun
example : Cpid.get (run true exK (Cpid.init (.velocity 10))
    [.input (.ok (some ⟨0, ⟨1, 2, 3⟩⟩)) none, .input (.error (.other 3)) none, .set (.velocity 10),
     .input (.ok none) (some (.error .fromNone))]) = .error (.other 3) := by rfl

/-- following a present command is `set` of its value followed by the plain update; following an absent value, or not
following, is the plain update; a follower error aborts without touching the state -/
theorem cpid_follow_is_set (chk : Bool) (k : PIDK3 F) (s : CpidS F) (inp : Output (State F)) :
    (∀ d : Datum (Command F),
      Cpid.step chk k s (some (.ok (some d))) inp = Cpid.stepInput chk k (Cpid.set s d.value) inp) ∧
    Cpid.step chk k s (some (.ok none)) inp = Cpid.stepInput chk k s inp ∧
    Cpid.step chk k s none inp = Cpid.stepInput chk k s inp ∧
    (∀ e, Cpid.step chk k s (some (.error e)) inp = (s, .error e)) :=
  ⟨fun _ => rfl, rfl, rfl, fun _ => rfl⟩

/-- as events: an update that follows a present command is the two events `set`, `update` -/
theorem cpid_follow_is_set_run (chk : Bool) (k : PIDK3 F) (s : CpidS F) (d : Datum (Command F))
    (inp : Output (State F)) (evs : List (Ev F)) :
    run chk k s (.input inp (some (.ok (some d))) :: evs) = run chk k s (.set d.value :: .input inp none :: evs) := rfl

/-- `last_request` bookkeeping: a followed command is recorded like an explicit `set`; the plain update never changes
`lastRequest` or `command`; the timestamp of the followed datum is not used -/
theorem cpid_follow_bookkeeping (chk : Bool) (k : PIDK3 F) (s : CpidS F) (inp : Output (State F)) :
    (∀ d : Datum (Command F), (Cpid.step chk k s (some (.ok (some d))) inp).1.lastRequest = some d.value) ∧
    (Cpid.stepInput chk k s inp).1.lastRequest = s.lastRequest ∧
    (Cpid.stepInput chk k s inp).1.command = s.command ∧
    (∀ d d' : Datum (Command F), d.value = d'.value →
      Cpid.step chk k s (some (.ok (some d))) inp = Cpid.step chk k s (some (.ok (some d'))) inp) := by
  refine ⟨fun d => ?_, Cpid.stepInput_lastRequest chk k s inp, Cpid.stepInput_command chk k s inp, fun d d' h => ?_⟩
  · simp only [Cpid.step, Cpid.stepInput_lastRequest]; rfl
  · simp only [Cpid.step, h]

/-! ### gains and state component are selected by the command kind -/

/-- explicit form of the error and of the control signal for the three kinds: a position command compares with the
position and uses the position gains, and so on -/
theorem cpid_gains_by_kind (chk : Bool) (k : PIDK3 F) (r : F) (x : Datum (State F)) (l : List (Datum (State F))) :
    (err chk (.position r) x = r - x.value.position ∧
      ctl chk k (.position r) (x :: l) =
        k.position.kp * (r - x.value.position) + k.position.ki * errInt chk (.position r) (x :: l)
          + k.position.kd * errDrv chk (.position r) (x :: l)) ∧
    (err chk (.velocity r) x = r - x.value.velocity ∧
      ctl chk k (.velocity r) (x :: l) =
        k.velocity.kp * (r - x.value.velocity) + k.velocity.ki * errInt chk (.velocity r) (x :: l)
          + k.velocity.kd * errDrv chk (.velocity r) (x :: l)) ∧
    (err chk (.acceleration r) x = r - x.value.acceleration ∧
      ctl chk k (.acceleration r) (x :: l) =
        k.acceleration.kp * (r - x.value.acceleration) + k.acceleration.ki * errInt chk (.acceleration r) (x :: l)
          + k.acceleration.kd * errDrv chk (.acceleration r) (x :: l)) :=
  ⟨⟨rfl, rfl⟩, ⟨rfl, rfl⟩, ⟨rfl, rfl⟩⟩

/-- the first control signal after a (re)start, fully explicit, for the three kinds -/
theorem cpid_first_output_by_kind (chk : Bool) (k : PIDK3 F) (r : F) (x : Datum (State F)) (lr : Option (Command F)) :
    Cpid.get (Cpid.stepInput chk k ⟨.position r, .ok none, lr⟩ (.ok (some x))).1 =
      .ok (some ⟨x.time, k.position.kp * (r - x.value.position) + k.position.ki * c0 + k.position.kd * c0⟩) ∧
    Cpid.get (Cpid.stepInput chk k ⟨.velocity r, .ok none, lr⟩ (.ok (some x))).1 = .ok none ∧
    Cpid.get (Cpid.stepInput chk k ⟨.acceleration r, .ok none, lr⟩ (.ok (some x))).1 = .ok none :=
  ⟨rfl, rfl, rfl⟩

/-- one update depends on the input state only through the component selected by the command kind (and the time) -/
theorem cpid_step_component_only (chk : Bool) (k : PIDK3 F) (s : CpidS F) (x x' : Datum (State F))
    (ht : x.time = x'.time)
    (hv : (x.value.getValue chk s.command.kind).value = (x'.value.getValue chk s.command.kind).value) :
    Cpid.stepInput chk k s (.ok (some x)) = Cpid.stepInput chk k s (.ok (some x')) := by
  rw [Cpid.stepInput_eq, Cpid.stepInput_eq, Cpid.nextUs_congr chk chk k k _ _ x x' rfl ht hv]
  rfl

/-- whole runs depend on the gains only through the triple selected by the command kind, `k.get c.kind` -/
theorem cpid_run_gains_only (chk : Bool) (k k' : PIDK3 F) (s : CpidS F) (xs : List (Datum (State F)))
    (h : k.get s.command.kind = k'.get s.command.kind) :
    feed chk k s xs = feed chk k' s xs := by
  induction xs generalizing s with
  | nil => rfl
  | cons x xs ih =>
    rw [feed_cons, feed_cons, Cpid.stepInput_eq, Cpid.stepInput_eq, Cpid.nextUs_congr chk chk k k' _ _ x x h rfl rfl]
    exact ih _ h

/-- the unit-checking feature does not influence the computation -/
theorem cpid_chk_irrelevant (k : PIDK3 F) (s : CpidS F) (inp : Output (State F)) :
    Cpid.stepInput true k s inp = Cpid.stepInput false k s inp := by
  rcases inp with e | _ | x
  · rfl
  · rfl
  · rw [Cpid.stepInput_eq, Cpid.stepInput_eq,
      Cpid.nextUs_congr true false k k _ _ x x rfl rfl (by cases s.command.kind <;> rfl)]

/-! non-vacuity: different gain tables agreeing on the selected triple; different states agreeing on the
selected component -/
example : exK.get (Cpid.init (.velocity (10 : Int))).command.kind =
    (⟨⟨7, 7, 7⟩, ⟨2, 1, 4⟩, ⟨9, 9, 9⟩⟩ : PIDK3 Int).get (Cpid.init (.velocity (10 : Int))).command.kind := rfl
example : ((⟨5, ⟨1, 2, 3⟩⟩ : Datum (State Int)).value.getValue true (Cpid.init (.velocity (10 : Int))).command.kind).value =
    ((⟨5, ⟨8, 2, 9⟩⟩ : Datum (State Int)).value.getValue true (Cpid.init (.velocity (10 : Int))).command.kind).value := rfl

/-! ### timestamp-shift invariance

Proved for the implementation, step by step, over every event history.  The specification inherits it through
`cpid_eq_spec` (`cpid_spec_shift_invariant`): no induction over `errInt`, `ctlInt`, `ctlIntInt` is needed. -/

def shiftD {α : Type} (d : Int) (x : Datum α) : Datum α := ⟨x.time + d, x.value⟩
def shiftO {α : Type} (d : Int) : Output α → Output α
  | .ok (some x) => .ok (some (shiftD d x))
  | o => o
def shiftUs (d : Int) : Except Err (Option (CpU0 F)) → Except Err (Option (CpU0 F))
  | .ok (some u0) => .ok (some { u0 with time := u0.time + d })
  | u => u
def shiftS (d : Int) (s : CpidS F) : CpidS F := { s with us := shiftUs d s.us }
/-- only the input sample moves: the timestamp of a followed command is never read (`cpid_follow_bookkeeping`) -/
def shiftEv (d : Int) : Ev F → Ev F
  | .input o fol => .input (shiftO d o) fol
  | e => e

theorem shiftS_fresh (d : Int) (s : CpidS F) (hs : Fresh s) : shiftS d s = s := by
  obtain ⟨c, u, lr⟩ := s
  rcases hs with rfl | ⟨e, rfl⟩ <;> rfl

theorem get_shiftS (d : Int) (s : CpidS F) : Cpid.get (shiftS d s) = shiftO d (Cpid.get s) := by
  obtain ⟨c, us, lr⟩ := s
  -- `get` reads `us` and the command kind; in each of the 5 × 3 shapes both sides compute
  rcases us with e | _ | ⟨t, o, er, _ | ⟨oi, ei, _ | oii⟩⟩ <;> rcases c with v | v | v <;> rfl

theorem stepInput_shift (chk : Bool) (k : PIDK3 F) (d : Int) (s : CpidS F) (inp : Output (State F)) :
    (Cpid.stepInput chk k (shiftS d s) (shiftO d inp)).1 = shiftS d (Cpid.stepInput chk k s inp).1 := by
  obtain ⟨c, u, lr⟩ := s
  rcases inp with e | _ | x
  · rfl
  · rfl
  · rcases u with e | _ | ⟨t, o, er, u1⟩
    · rfl
    · rfl
    · -- the only place where times enter: as a difference, formed in `Int`
      have ht : x.time + d - (t + d) = x.time - t := Int.add_sub_add_right ..
      cases u1 <;> simp only [Cpid.stepInput, shiftS, shiftUs, shiftO, shiftD, ht]

theorem set_shift (d : Int) (s : CpidS F) (c : Command F) : Cpid.set (shiftS d s) c = shiftS d (Cpid.set s c) := by
  cases h : Command.beq c s.command
  · rw [Cpid.set_diff s c h, Cpid.set_diff (shiftS d s) c h]; rfl
  · rw [Cpid.set_same s c h, Cpid.set_same (shiftS d s) c h]; rfl

theorem cpid_shift_invariant_run (chk : Bool) (k : PIDK3 F) (d : Int) (evs : List (Ev F)) (s : CpidS F) :
    run chk k (shiftS d s) (evs.map (shiftEv d)) = shiftS d (run chk k s evs) := by
  rw [run, List.foldl_map]
  exact run_rel chk k (fun s s' => s' = shiftS d s) (fun s ev => applyEv chk k s (shiftEv d ev))
    (fun _ _ fol => by rcases fol with _ | _ | _ <;> rfl)
    (fun s _ h o => h ▸ stepInput_shift chk k d s o) (fun s _ h c => h ▸ set_shift d s c) (fun _ _ h => h ▸ rfl)
    evs s _ rfl

/-- Shift invariance of the implementation, every event history from a fresh state (in particular from construction):
same output values, output timestamp moved by `d`, same return values. -/
theorem cpid_shift_invariant (chk : Bool) (k : PIDK3 F) (d : Int) (s : CpidS F) (hs : Fresh s) (evs : List (Ev F)) :
    Cpid.get (run chk k s (evs.map (shiftEv d))) = shiftO d (Cpid.get (run chk k s evs)) ∧
    ∀ ev, retEv chk k (run chk k s (evs.map (shiftEv d))) (shiftEv d ev) = retEv chk k (run chk k s evs) ev := by
  have h := cpid_shift_invariant_run chk k d evs s
  rw [shiftS_fresh d s hs] at h
  rw [h]
  refine ⟨get_shiftS d _, fun ev => ?_⟩
  -- the return value is read off the event's errors (`retEv_eq`), which do not move
  rw [retEv_eq, retEv_eq]
  rcases ev with ⟨_ | _ | _, _ | _ | _ | _⟩ | _ | _ <;> rfl

/-- the run-of-samples form -/
theorem cpid_shift_invariant_feed (chk : Bool) (k : PIDK3 F) (d : Int) (s : CpidS F) (hs : Fresh s)
    (xs : List (Datum (State F))) :
    Cpid.get (feed chk k s (xs.map (shiftD d))) = shiftO d (Cpid.get (feed chk k s xs)) := by
  have h := (cpid_shift_invariant chk k d s hs (xs.map fun x => Ev.input (.ok (some x)) none)).1
  rw [feed_eq_run, feed_eq_run]
  simpa only [List.map_map, Function.comp_def, shiftEv, shiftO] using h

/-- the specification itself is shift invariant: same values, time stamps moved by `d` -/
theorem cpid_spec_shift_invariant (chk : Bool) (k : PIDK3 F) (c : Command F) (d : Int)
    (h : List (Datum (State F))) :
    specOut chk k c (h.map (shiftD d)) = shiftO d (specOut chk k c h) := by
  by_cases hne : h = []
  · subst hne; rfl
  · have h1 := cpid_eq_spec chk k (Cpid.init c) (.inl rfl) (h.reverse.map (shiftD d)) (by simpa using hne)
    have h2 := cpid_eq_spec chk k (Cpid.init c) (.inl rfl) h.reverse (by simpa using hne)
    have h3 := cpid_shift_invariant_feed chk k d (Cpid.init c) (.inl rfl) h.reverse
    rw [h1, h2] at h3
    simpa only [List.map_reverse, List.reverse_reverse, Cpid.init] using h3

/-! ### the whole property for arbitrary event histories

A bookkeeping-only abstraction (no arithmetic): the current command, and either a cached error or the list of present
samples received since the last (re)start, newest first.  The theorem says that after *any* finite event history the
real state is the specified record of that list — i.e. the output is the textbook formula applied to exactly the
samples since the last start / reset / absent input / differing `set` / error. -/

inductive Phase (F : Type) where
  | failed (e : Err)
  | running (h : List (Datum (State F)))

structure Abs (F : Type) where
  command : Command F
  phase : Phase F

def absInput (a : Abs F) : Output (State F) → Abs F
  | .ok none => ⟨a.command, .running []⟩
  | .error e => ⟨a.command, .failed e⟩
  | .ok (some x) =>
    match a.phase with
    | .running h => ⟨a.command, .running (x :: h)⟩
    | .failed _ => ⟨a.command, .running [x]⟩

def absSet (a : Abs F) (c : Command F) : Abs F :=
  if Command.beq c a.command then a else ⟨c, .running []⟩

def absEv (a : Abs F) : Ev F → Abs F
  | .set c => absSet a c
  | .reset => ⟨a.command, .running []⟩
  | .input _ (some (.error _)) => a
  | .input o (some (.ok (some d))) => absInput (absSet a d.value) o
  | .input o (some (.ok none)) => absInput a o
  | .input o none => absInput a o

def absUs (chk : Bool) (k : PIDK3 F) (a : Abs F) : Except Err (Option (CpU0 F)) :=
  match a.phase with
  | .failed e => .error e
  | .running h => .ok (specU0 chk k a.command h)

def absOut (chk : Bool) (k : PIDK3 F) (a : Abs F) : Output F :=
  match a.phase with
  | .failed e => .error e
  | .running h => specOut chk k a.command h

/-- the real state has the abstract state's command and holds its specified record (`lastRequest` is free) -/
def Rel (chk : Bool) (k : PIDK3 F) (s : CpidS F) (a : Abs F) : Prop :=
  s.command = a.command ∧ s.us = absUs chk k a

/-- one equation for every input: `stepInput` takes the record of an abstract state to the record of `absInput` -/
theorem nextUs_abs (chk : Bool) (k : PIDK3 F) (a : Abs F) (inp : Output (State F)) :
    Cpid.nextUs chk k a.command (absUs chk k a) inp = absUs chk k (absInput a inp) := by
  obtain ⟨c, ph⟩ := a
  rcases inp with e | _ | x
  · exact Cpid.nextUs_error chk k c _ e
  · exact Cpid.nextUs_absent chk k c _
  · cases ph with
    | failed e => exact nextUs_sample chk k c [] x
    | running l => exact nextUs_sample chk k c l x

theorem absInput_command (a : Abs F) (inp : Output (State F)) : (absInput a inp).command = a.command := by
  obtain ⟨c, ph⟩ := a
  rcases inp with e | _ | x
  · rfl
  · rfl
  · cases ph <;> rfl

theorem rel_stepInput (chk : Bool) (k : PIDK3 F) (s : CpidS F) (a : Abs F) (h : Rel chk k s a)
    (inp : Output (State F)) : Rel chk k (Cpid.stepInput chk k s inp).1 (absInput a inp) := by
  obtain ⟨hc, hu⟩ := h
  rw [Cpid.stepInput_eq]
  refine ⟨hc.trans (absInput_command a inp).symm, ?_⟩
  show Cpid.nextUs chk k s.command s.us inp = _
  rw [hc, hu, nextUs_abs]

theorem rel_set (chk : Bool) (k : PIDK3 F) (s : CpidS F) (a : Abs F) (h : Rel chk k s a) (c : Command F) :
    Rel chk k (Cpid.set s c) (absSet a c) := by
  obtain ⟨hc, hu⟩ := h
  cases hb : Command.beq c a.command
  · rw [Cpid.set_diff s c (hc ▸ hb), absSet, hb]; exact ⟨rfl, rfl⟩
  · rw [Cpid.set_same s c (hc ▸ hb), absSet, hb]; exact ⟨hc, hu⟩

theorem get_of_rel (chk : Bool) (k : PIDK3 F) (s : CpidS F) (a : Abs F) (h : Rel chk k s a) :
    Cpid.get s = absOut chk k a := by
  obtain ⟨c, u, lr⟩ := s
  obtain ⟨ac, ph⟩ := a
  obtain ⟨rfl, rfl⟩ : c = ac ∧ u = absUs chk k ⟨ac, ph⟩ := h
  cases ph with
  | failed e => rfl
  | running l => exact get_specU0 chk k c lr l

theorem rel_run (chk : Bool) (k : PIDK3 F) (evs : List (Ev F)) (s : CpidS F) (a : Abs F) (h : Rel chk k s a) :
    Rel chk k (run chk k s evs) (evs.foldl absEv a) :=
  run_rel chk k (Rel chk k) absEv (fun _ _ fol => by rcases fol with _ | _ | _ <;> rfl)
    (rel_stepInput chk k) (rel_set chk k) (fun _ _ h => ⟨h.1, rfl⟩) evs s a h

/-- **C11 for every finite event history.**  From a newly constructed controller with command `c`, after any events
`evs` the real state corresponds to the abstract state obtained by pure bookkeeping, hence `get` is the specified
(non-incremental) output for the samples received since the last restart, or the cached error. -/
theorem cpid_eq_spec_events (chk : Bool) (k : PIDK3 F) (c : Command F) (evs : List (Ev F)) :
    Rel chk k (run chk k (Cpid.init c) evs) (evs.foldl absEv ⟨c, .running []⟩) ∧
    Cpid.get (run chk k (Cpid.init c) evs) = absOut chk k (evs.foldl absEv ⟨c, .running []⟩) := by
  have h := rel_run chk k evs (Cpid.init c) ⟨c, .running []⟩ ⟨rfl, rfl⟩
  exact ⟨h, get_of_rel chk k _ _ h⟩

/-! concrete instances: a shifted run, and the abstract state after an event history -/
example : Cpid.get (feed true exK (Cpid.init (.acceleration 10)) (exXs.map (shiftD 12345))) =
    .ok (some ⟨6000012345, 674⟩) := by rfl
example : absOut true exK (([.input (.ok (some ⟨0, ⟨1, 2, 3⟩⟩)) none, .input (.error (.other 3)) none,
    .set (.velocity 10), .input (.ok none) (some (.error .fromNone))] : List (Ev Int)).foldl absEv
      ⟨.velocity 10, .running []⟩) = .error (.other 3) := by rfl

end S
end Rrtk.Thm.C11
