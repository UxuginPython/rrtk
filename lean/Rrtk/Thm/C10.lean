/-
C10 — integral / derivative streams and the acceleration-, velocity-, position-to-state converters.

Tier S (no law on the scalar) for everything structural: which samples are used, in which order and with which operator,
timestamps, resets, panics, units, shift invariance.  On a present sample all five `update`s have one shape, `presentStep`
(`Lemmas/PresentStep.lean`, with the equations `integral_step_present`, `derivative_step_present` and, for the whole `update`
of a converter, `*_step_eq_convStep`): bookkeeping around numbers that see the timestamps only through the time step
(`trapStep`, `backdiffQ`; `accum`, `diffQ`).
The non-incremental specifications unfold to the same terms (`trapRev_cons₂`, `trapRunRev_cons₂`, `a2sPosRev_cons₃`, …), so a
relation between the state and the run it works on is kept by every step, and `runE_run_inv` carries it over every history.
Tier R (ordered field) at the end: every trapezoid sum of this file is the area under its run (`trapArea`).
Names: a `…Spec` takes the run oldest first and is what the statements use; its `…Rev` takes it newest first (`o, p, q`:
newest, previous, the one before) and is what the proofs use; `_cons₂`, `_cons₃` are its equations on two, three leading
samples.  The facts about `Quantity` operations and units (`Quantity.add_of_units`, `add_ok`, `sub_err`, `State.new_true`, …)
are in `Lemmas/Dim.lean`.
-/
import Rrtk.Streams.Stateful
import Rrtk.Thm.Lemmas.Exact
import Rrtk.Thm.Lemmas.Run
import Rrtk.Thm.Lemmas.Dim
import Rrtk.Thm.Lemmas.PresentStep
set_option linter.unusedSectionVars false
namespace Rrtk.Thm.C10
open Rrtk

/-! ## histories and runs -/
section Run
variable {S I α : Type}

/-- `Rrtk.runE` of `Lemmas/Run.lean` under the name the C10 statements use; `runE_eq` joins the two -/
def runE (step : S → I → Except Panic (S × UpdRet)) (s : S) : List I → Except Panic S
  | [] => .ok s
  | e :: es =>
    match step s e with
    | .error p => .error p
    | .ok (s', _) => runE step s' es

/-- the lemmas of `Lemmas/Run.lean`, and the C05 theorems about the same streams, apply through this equation -/
theorem runE_eq (step : S → I → Except Panic (S × UpdRet)) (s : S) (evs : List I) :
    runE step s evs = Rrtk.runE step s evs := by
  induction evs generalizing s with
  | nil => rfl
  | cons e es ih =>
    rw [runE, Rrtk.runE_cons]
    cases step s e with
    | error p => rfl
    | ok r => exact ih r.1

theorem runE_map (step : S → I → Except Panic (S × UpdRet)) (fS : S → S) (fI : I → I)
    (hstep : ∀ s e, step (fS s) (fI e) = (step s e).map (fun r => (fS r.1, r.2)))
    (s : S) (evs : List I) : runE step (fS s) (evs.map fI) = (runE step s evs).map fS := by
  induction evs generalizing s with
  | nil => rfl
  | cons e es ih =>
    simp only [List.map_cons, runE, hstep]
    cases step s e with
    | error p => rfl
    | ok r => cases r with | mk s' u => exact ih s'

/-- the leading present samples of a list of events -/
def presentPrefix : List (Output α) → List (Datum α)
  | [] => []
  | .ok (some d) :: es => d :: presentPrefix es
  | .ok none :: _ => []
  | .error _ :: _ => []

/-- the leading present samples, skipping absent events, up to the first error -/
def presentPrefixIgn : List (Output α) → List (Datum α)
  | [] => []
  | .ok (some d) :: es => d :: presentPrefixIgn es
  | .ok none :: es => presentPrefixIgn es
  | .error _ :: _ => []

/-- newest-first: the present samples back to the last absent/error event -/
def rrun (evs : List (Output α)) : List (Datum α) := presentPrefix evs.reverse
/-- newest-first: the present samples back to the last error event (absent events skipped) -/
def rrunIgn (evs : List (Output α)) : List (Datum α) := presentPrefixIgn evs.reverse

/-- "the run of present samples since the last reset" where a reset is an absent or an error event:
the samples (oldest first) of the longest all-present suffix of the history -/
def lastRun (evs : List (Output α)) : List (Datum α) := (rrun evs).reverse
/-- the same where only an error event resets and absent events are ignored -/
def lastRunIgnoringAbsent (evs : List (Output α)) : List (Datum α) := (rrunIgn evs).reverse

/-- what one event does to the newest-first run a stream works on: a sample is pushed, an error empties it, an absent
event empties it or (`ign`, the converters) leaves it alone -/
def pushEv (ign : Bool) (rr : List (Datum α)) : Output α → List (Datum α)
  | .ok (some d) => d :: rr
  | .ok none => if ign then rr else []
  | .error _ => []

theorem rrun_snoc (l : List (Output α)) (e : Output α) : rrun (l ++ [e]) = pushEv false (rrun l) e := by
  rw [rrun, List.reverse_append]
  rcases e with _ | _ | d <;> rfl
theorem rrunIgn_snoc (l : List (Output α)) (e : Output α) : rrunIgn (l ++ [e]) = pushEv true (rrunIgn l) e := by
  rw [rrunIgn, List.reverse_append]
  rcases e with _ | _ | d <;> rfl
theorem rrunIgn_nil : rrunIgn ([] : List (Output α)) = [] := rfl

/-- the last two samples of a run given oldest first lead it when it is given newest first -/
theorem reverse_snoc₂ (l : List α) (p o : α) : (l ++ [p, o]).reverse = o :: p :: l.reverse :=
  List.reverse_append

theorem rrun_eq_foldl (evs : List (Output α)) : rrun evs = evs.foldl (pushEv false) [] := by
  induction evs using snoc_induction with
  | nil => rfl
  | snoc l e ih => rw [rrun_snoc, List.foldl_append, ih]; rfl
theorem rrunIgn_eq_foldl (evs : List (Output α)) : rrunIgn evs = evs.foldl (pushEv true) [] := by
  induction evs using snoc_induction with
  | nil => rfl
  | snoc l e ih => rw [rrunIgn_snoc, List.foldl_append, ih]; rfl

theorem lastRun_snoc (l : List (Output α)) (e : Output α) :
    lastRun (l ++ [e]) = match e with
      | .ok (some d) => lastRun l ++ [d]
      | _ => [] := by
  rw [lastRun, rrun_snoc]
  rcases e with _ | _ | d <;> simp [pushEv, lastRun]

theorem lastRunIgnoringAbsent_snoc (l : List (Output α)) (e : Output α) :
    lastRunIgnoringAbsent (l ++ [e]) = match e with
      | .ok (some d) => lastRunIgnoringAbsent l ++ [d]
      | .ok none => lastRunIgnoringAbsent l
      | .error _ => [] := by
  rw [lastRunIgnoringAbsent, rrunIgn_snoc]
  rcases e with _ | _ | d <;> simp [pushEv, lastRunIgnoringAbsent]

theorem lastRun_map_present (run : List (Datum α)) :
    lastRun (run.map (fun d => (.ok (some d) : Output α))) = run := by
  induction run using snoc_induction with
  | nil => rfl
  | snoc l a ih => rw [List.map_append, List.map_cons, List.map_nil, lastRun_snoc, ih]

/-- `lastRun` really is the all-present tail of the history: the history is some `pre` followed by exactly these
samples, and `pre` is empty or ends with a non-present event -/
theorem lastRun_decomp (evs : List (Output α)) :
    ∃ pre, evs = pre ++ (lastRun evs).map (fun d => (.ok (some d) : Output α)) ∧
      ∀ e, pre.getLast? = some e → ∀ d, e ≠ .ok (some d) := by
  induction evs using snoc_induction with
  | nil => exact ⟨[], rfl, by simp⟩
  | snoc l e ih =>
    obtain ⟨pre, h1, h2⟩ := ih
    rw [lastRun_snoc]
    match e with
    | .ok (some d) =>
      refine ⟨pre, ?_, h2⟩
      rw [List.map_append, ← List.append_assoc, ← h1]; rfl
    | .ok none | .error _ =>
      -- the run is empty and the whole history is `pre`, which ends with this event
      refine ⟨_, (List.append_nil _).symm, fun e he d => ?_⟩
      rw [List.getLast?_concat] at he
      cases he; nofun

theorem mem_rrun (evs : List (Output α)) (d : Datum α) (h : d ∈ rrun evs) : (.ok (some d) : Output α) ∈ evs := by
  obtain ⟨pre, he, -⟩ := lastRun_decomp evs
  rw [he]
  exact List.mem_append_right _ (List.mem_map_of_mem (List.mem_reverse.2 h))

def notAbsent : Output α → Bool
  | .ok none => false
  | _ => true

theorem pushEv_true (rr : List (Datum α)) (e : Output α) :
    pushEv true rr e = if notAbsent e then pushEv false rr e else rr := by
  rcases e with _ | _ | d <;> rfl

/-- "ignoring absent events" is literally that: the last run of the history with the absent events deleted -/
theorem lastRunIgnoringAbsent_eq_filter (evs : List (Output α)) :
    lastRunIgnoringAbsent evs = lastRun (evs.filter notAbsent) := by
  -- a fold guarded by `notAbsent` is the fold over the filtered list
  rw [lastRunIgnoringAbsent, lastRun, rrunIgn_eq_foldl, rrun_eq_foldl, List.foldl_filter]
  simp only [← pushEv_true]

theorem mem_rrunIgn (evs : List (Output α)) (d : Datum α) (h : d ∈ rrunIgn evs) :
    (.ok (some d) : Output α) ∈ evs := by
  have e : rrunIgn evs = rrun (evs.filter notAbsent) := List.reverse_injective (lastRunIgnoringAbsent_eq_filter evs)
  exact List.mem_of_mem_filter (mem_rrun _ d (e ▸ h))

/-- a relation between the state and the run it works on that holds initially and is kept by every non-panicking step
holds after every non-panicking history (`run` is `rrun` or `rrunIgn`, by `rrun_eq_foldl`, `rrunIgn_eq_foldl`) -/
theorem runE_run_inv (step : S → Output α → Except Panic (S × UpdRet)) {ign : Bool}
    {run : List (Output α) → List (Datum α)} (hrun : ∀ evs, run evs = evs.foldl (pushEv ign) [])
    (Inv : S → List (Datum α) → Prop)
    (hstep : ∀ s rr e s' r, Inv s rr → step s e = .ok (s', r) → Inv s' (pushEv ign rr e))
    (init : S) (h0 : Inv init []) (evs : List (Output α)) (s : S) (h : runE step init evs = .ok s) :
    Inv s (run evs) :=
  hrun evs ▸ Rrtk.runE_rel step (pushEv ign) Inv (fun s rr e r => hstep s rr e r.1 r.2) init [] evs s h0
    (runE_eq step init evs ▸ h)
end Run

/-! ## the value of one trapezoid, in both ways of writing it, and of one difference quotient

The value of a whole sum, for any scalar type (`trapVals`, `sumR`, `trapRev_value`, `integral_get_trapsum`), is in
`Lemmas/C10Rounding.lean`. -/
section
variable {F : Type} [Add F] [Mul F] [Div F] [FloatLike F]

/-- one trapezoid between the samples `p` (older) and `o`, as the code computes it -/
def trapVal (p o : Datum (Quantity F)) : F :=
  (FloatLike.ofInt (o.time - p.time) : F) / c1e9 * (p.value.value + o.value.value) / c2

theorem trapAddend_value (chk : Bool) (p o : Datum (Quantity F)) (a : Quantity F) (h : trapAddend chk p o = .ok a) :
    a.value = trapVal p o := by
  unfold trapAddend at h
  split at h
  · cases h
  · next sm hs =>
    cases h
    rw [Quantity.div_value, Quantity.mul_value, (Quantity.add_ok hs).1]
    rfl
end

section
variable {F : Type}
theorem diffQ_value [Sub F] [Div F] (chk : Bool) (dt a b v : Quantity F) (h : diffQ chk dt a b = .ok v) :
    v.value = (a.value - b.value) / dt.value := by
  unfold diffQ at h
  split at h
  · cases h
  · next d hs => cases h; simp only [Quantity.div_value, (Quantity.sub_ok hs).1]

theorem qHalfTimes_value [Add F] [Mul F] [Div F] [FloatLike F] (chk : Bool) (a b dt q : Quantity F)
    (h : qHalfTimes chk a b dt = .ok q) :
    q.value = (a.value + b.value) / c2 * dt.value := by
  unfold qHalfTimes at h
  split at h
  · cases h
  · next sm hs =>
    cases h
    simp only [Quantity.mul_value, Quantity.div_value, Quantity.dimensionless, (Quantity.add_ok hs).1]
end

/-! ## integral and derivative streams -/
section S
variable {F : Type} [Add F] [Sub F] [Mul F] [Div F] [Neg F] [LT F] [LE F] [BEq F]
  [DecidableLT F] [DecidableLE F] [FloatLike F]

/-- what `update` returns for an input event: the input's error, otherwise `Ok(())` -/
def updRetOf {α : Type} : Output α → UpdRet
  | .error x => .error x
  | .ok _ => .ok ()

/-- what `get` returns after the history `evs` when the specification of the last run evaluates to `r`:
nothing yet → absent; last event an error → that error; last event absent → absent; last event a sample → `r` -/
def expectedGet (evs : List (Output (Quantity F))) (r : Option (Datum (Quantity F))) : Output (Quantity F) :=
  match evs.getLast? with
  | none => .ok none
  | some (.error e) => .error e
  | some (.ok none) => .ok none
  | some (.ok (some _)) => .ok r

theorem expectedGet_eq_some {evs : List (Output (Quantity F))} {r : Option (Datum (Quantity F))}
    {d : Datum (Quantity F)} (h : expectedGet evs r = .ok (some d)) : r = some d := by
  unfold expectedGet at h
  split at h <;> cases h
  rfl

/-! ### generic part shared by the two streams (state = cached value + previous sample) -/
/-- invariant tying a state to the (newest-first) run of samples since the last reset -/
def DiInv (specRev : List (Datum (Quantity F)) → Except Panic (Option (Datum (Quantity F))))
    (s : DiS F) (rr : List (Datum (Quantity F))) : Prop :=
  s.prev = rr.head? ∧ (rr ≠ [] → ∃ r, specRev rr = .ok r ∧ s.value = .ok r)

/-- what we need of a step function to relate it to a specification on runs -/
structure DiLaws (step : DiS F → Output (Quantity F) → Except Panic (DiS F × UpdRet))
    (specRev : List (Datum (Quantity F)) → Except Panic (Option (Datum (Quantity F)))) : Prop where
  nil : specRev [] = .ok none
  err : ∀ s e, step s (.error e) = .ok (⟨.error e, none⟩, .error e)
  absent : ∀ s, step s (.ok none) = .ok (⟨.ok none, none⟩, .ok ())
  present : ∀ s rr d, DiInv specRev s rr →
    step s (.ok (some d)) = match specRev (d :: rr) with
      | .error p => .error p
      | .ok r => .ok (⟨.ok r, some d⟩, .ok ())

section Di
variable {step : DiS F → Output (Quantity F) → Except Panic (DiS F × UpdRet)}
  {specRev : List (Datum (Quantity F)) → Except Panic (Option (Datum (Quantity F)))}

theorem di_run_inv (L : DiLaws step specRev) (evs : List (Output (Quantity F))) (s : DiS F)
    (h : runE step ⟨.ok none, none⟩ evs = .ok s) : DiInv specRev s (rrun evs) := by
  refine runE_run_inv step rrun_eq_foldl (DiInv specRev) ?_ _ ⟨rfl, fun h => absurd rfl h⟩ evs s h
  intro s rr e s' r hinv hs
  match e with
  | .error x => rw [L.err] at hs; cases hs; exact ⟨rfl, fun h => absurd rfl h⟩
  | .ok none => rw [L.absent] at hs; cases hs; exact ⟨rfl, fun h => absurd rfl h⟩
  | .ok (some d) =>
    rw [L.present s rr d hinv] at hs
    cases hr : specRev (d :: rr) with
    | error p => rw [hr] at hs; cases hs
    | ok r' => rw [hr] at hs; cases hs; exact ⟨rfl, fun _ => ⟨r', hr, rfl⟩⟩

/-- the cached value (what `get` shows) is decided by the last event, and after a sample it is the specification's value
on the run -/
theorem di_run_ok (L : DiLaws step specRev) (evs : List (Output (Quantity F))) (s : DiS F)
    (h : runE step ⟨.ok none, none⟩ evs = .ok s) :
    ∃ r, specRev (rrun evs) = .ok r ∧ s.value = expectedGet evs r := by
  rcases List.eq_nil_or_concat evs with rfl | ⟨pre, e, rfl⟩
  · cases h; exact ⟨none, L.nil, rfl⟩
  · rw [List.concat_eq_append] at h ⊢
    have hinv := di_run_inv L _ s h
    rw [runE_eq] at h
    obtain ⟨s0, r, -, hs, rfl⟩ := Rrtk.runE_concat_ok h
    rw [rrun_snoc] at hinv ⊢
    match e with
    | .error x => rw [L.err] at hs; cases hs; exact ⟨none, L.nil, by rw [expectedGet, List.getLast?_concat]⟩
    | .ok none => rw [L.absent] at hs; cases hs; exact ⟨none, L.nil, by rw [expectedGet, List.getLast?_concat]⟩
    | .ok (some d) =>
      obtain ⟨r', hr', hv⟩ := hinv.2 (List.cons_ne_nil _ _)
      exact ⟨r', hr', by rw [expectedGet, List.getLast?_concat]; exact hv⟩

theorem di_run_snoc_error (L : DiLaws step specRev) (l : List (Output (Quantity F))) (e : Output (Quantity F))
    (s0 : DiS F) (hl : runE step ⟨.ok none, none⟩ l = .ok s0) (p : Panic) :
    runE step ⟨.ok none, none⟩ (l ++ [e]) = .error p ↔ specRev (rrun (l ++ [e])) = .error p := by
  have hinv := di_run_inv L l s0 hl
  rw [runE_eq] at hl ⊢
  rw [Rrtk.runE_append, hl, rrun_snoc]
  -- an error or absent event fails on neither side; on a sample the step is the specification on the pushed run
  match e with
  | .error x => simp [Rrtk.runE_cons, Rrtk.runE_nil, L.err, L.nil, pushEv]
  | .ok none => simp [Rrtk.runE_cons, Rrtk.runE_nil, L.absent, L.nil, pushEv]
  | .ok (some d) =>
    simp only [Rrtk.runE_cons, L.present s0 (rrun l) d hinv, pushEv]
    cases specRev (d :: rrun l) with
    | error q => simp
    | ok r => simp [Rrtk.runE_nil]

theorem di_run_panic (L : DiLaws step specRev) (evs : List (Output (Quantity F))) :
    (∃ p, runE step ⟨.ok none, none⟩ evs = .error p) ↔
      ∃ pre, pre <+: evs ∧ ∃ p, specRev (rrun pre) = .error p := by
  constructor
  · -- the first update that panics: the specification fails on the history up to it
    induction evs using snoc_induction with
    | nil => rintro ⟨p, h⟩; cases h
    | snoc l e ih =>
      rintro ⟨p, h⟩
      cases hl : runE step ⟨.ok none, none⟩ l with
      | error q =>
        obtain ⟨pre, hpre, hq⟩ := ih ⟨q, hl⟩
        exact ⟨pre, hpre.trans (List.prefix_append _ _), hq⟩
      | ok s0 => exact ⟨l ++ [e], List.prefix_refl _, p, (di_run_snoc_error L l e s0 hl p).1 h⟩
  · -- the run over `pre` cannot have succeeded (`di_run_ok`), and a run that has panicked stays so
    rintro ⟨pre, ⟨post, rfl⟩, p, h⟩
    cases hpre : runE step ⟨.ok none, none⟩ pre with
    | ok s =>
      obtain ⟨r, hr, -⟩ := di_run_ok L pre s hpre
      rw [hr] at h; cases h
    | error q =>
      rw [runE_eq] at hpre ⊢
      exact ⟨q, by rw [Rrtk.runE_append, hpre]⟩

theorem di_never_panics (L : DiLaws step specRev) (evs : List (Output (Quantity F)))
    (hspec : ∀ pre, pre <+: evs → ∃ r, specRev (rrun pre) = .ok r) :
    ∃ s, runE step ⟨.ok none, none⟩ evs = .ok s := by
  cases h : runE step ⟨.ok none, none⟩ evs with
  | ok s => exact ⟨s, rfl⟩
  | error p =>
    obtain ⟨pre, hpre, q, hq⟩ := (di_run_panic L evs).1 ⟨p, h⟩
    obtain ⟨r, hr⟩ := hspec pre hpre
    rw [hr] at hq; cases hq

theorem di_value_some (L : DiLaws step specRev) (evs : List (Output (Quantity F))) (s : DiS F)
    (h : runE step ⟨.ok none, none⟩ evs = .ok s) (d : Datum (Quantity F)) (hg : s.value = .ok (some d)) :
    specRev (rrun evs) = .ok (some d) := by
  obtain ⟨r, hr, hv⟩ := di_run_ok L evs s h
  rw [hr, expectedGet_eq_some (hv.symm.trans hg)]
end Di

/-! ### the integral stream -/

/-- trapezoidal sum of a run given newest-first: nothing for fewer than two samples, otherwise (newest `o`, before
it `p`) `addend(p,o)` for exactly two samples and `addend(p,o) + (sum of the run up to p)` for more — the addend is
the *left* operand of the addition, as in the code.  Carries the newest sample's time. -/
def trapRev (chk : Bool) : List (Datum (Quantity F)) → Except Panic (Option (Datum (Quantity F)))
  | [] => .ok none
  | [_] => .ok none
  | o :: p :: rest =>
    match trapRev chk (p :: rest) with
    | .error e => .error e
    | .ok prevSum =>
      match trapAddend chk p o with
      | .error e => .error e
      | .ok a =>
        match prevSum with
        | none => .ok (some ⟨o.time, a⟩)
        | some r =>
          match Quantity.add chk a r.value with
          | .error e => .error e
          | .ok v => .ok (some ⟨o.time, v⟩)

/-- NON-incremental specification of the integral stream on a run `d₀ … dₙ` (oldest first): absent for `n = 0` or the
empty run; for `n ≥ 1` the time is `dₙ.time` and the value is `aₙ + (aₙ₋₁ + (… + a₁))` with
`aᵢ = ofTime(tᵢ − tᵢ₋₁) * (vᵢ₋₁ + vᵢ) / dimensionless 2` -/
def trapSpec (chk : Bool) (run : List (Datum (Quantity F))) : Except Panic (Option (Datum (Quantity F))) :=
  trapRev chk run.reverse

theorem trapSpec_lastRun (chk : Bool) (evs : List (Output (Quantity F))) :
    trapSpec chk (lastRun evs) = trapRev chk (rrun evs) :=
  congrArg (trapRev chk) (List.reverse_reverse _)

theorem trapRev_cons₂ (chk : Bool) (o p : Datum (Quantity F)) (rest : List (Datum (Quantity F))) :
    trapRev chk (o :: p :: rest) =
      (trapRev chk (p :: rest)).bind fun prev =>
        (trapStep chk p o (prev.map (·.value))).map fun v => some ⟨o.time, v⟩ := by
  rw [trapRev]
  cases trapRev chk (p :: rest) with
  | error e => rfl
  | ok prev =>
    simp only [trapStep, Except.bind]
    cases trapAddend chk p o with
    | error e => rfl
    | ok a =>
      cases prev with
      | none => rfl
      | some r => simp only [Option.map]; cases Quantity.add chk a r.value <;> rfl

theorem trapRev_cons₂_ok (chk : Bool) (o p : Datum (Quantity F)) (rest : List (Datum (Quantity F)))
    (r : Option (Datum (Quantity F))) (h : trapRev chk (o :: p :: rest) = .ok r) : ∃ v, r = some ⟨o.time, v⟩ := by
  rw [trapRev_cons₂] at h
  obtain ⟨prev, -, h⟩ := Except.bind_eq_ok.1 h
  obtain ⟨v, -, hv⟩ := Except.map_eq_ok.1 h
  exact ⟨v, hv.symm⟩

theorem trapSpec_nil (chk : Bool) : trapSpec chk ([] : List (Datum (Quantity F))) = .ok none := rfl
theorem trapSpec_one (chk : Bool) (d : Datum (Quantity F)) : trapSpec chk [d] = .ok none := rfl
theorem trapSpec_two (chk : Bool) (d₀ d₁ : Datum (Quantity F)) :
    trapSpec chk [d₀, d₁] = match trapAddend chk d₀ d₁ with
      | .error e => .error e
      | .ok a => .ok (some ⟨d₁.time, a⟩) := by
  simp only [trapSpec, List.reverse_cons, List.reverse_nil, List.nil_append, List.cons_append, trapRev]
/-- recurrence: appending a sample `o` after `… p` adds the trapezoid over `(p, o)` on the left of the old sum -/
theorem trapSpec_snoc (chk : Bool) (run : List (Datum (Quantity F))) (q p o : Datum (Quantity F)) :
    trapSpec chk (run ++ [q, p, o]) =
      match trapSpec chk (run ++ [q, p]) with
      | .error e => .error e
      | .ok none => .ok none
      | .ok (some r) =>
        match trapAddend chk p o with
        | .error e => .error e
        | .ok a =>
          match Quantity.add chk a r.value with
          | .error e => .error e
          | .ok v => .ok (some ⟨o.time, v⟩) := by
  have e1 : (run ++ [q, p, o]).reverse = o :: p :: q :: run.reverse := by simp
  simp only [trapSpec, e1, reverse_snoc₂]
  rw [trapRev]
  cases h : trapRev chk (p :: q :: run.reverse) with
  | error e => rfl
  | ok r => obtain ⟨v, rfl⟩ := trapRev_cons₂_ok chk p q _ r h; rfl

theorem integral_laws (chk : Bool) : DiLaws (Integral.step (F := F) chk) (trapRev chk) where
  nil := rfl
  err := fun _ _ => rfl
  absent := fun _ => rfl
  present := by
    intro s rr d ⟨hp, hv⟩
    rw [integral_step_present, hp]
    cases rr with
    | nil => rfl
    | cons p rest =>
      obtain ⟨r, hr, hval⟩ := hv (List.cons_ne_nil _ _)
      simp only [List.head?_cons, presentStep, trapRev_cons₂, hr, diAcc_of_value hval, Except.bind]
      cases trapStep chk p d (r.map (·.value)) <;> rfl

/-- **Integral = trapezoidal sum.**  After any history that did not panic, `get` returns: absent before the first
event; the error if the last event was an error; absent if the last event was absent; otherwise the trapezoidal sum
(non-incremental `trapSpec`) of the run of present samples since the last absent/error event — absent when that run has
one sample, and carrying the newest sample's time. -/
theorem integral_eq_trapsum (chk : Bool) (evs : List (Output (Quantity F))) (s : DiS F)
    (h : runE (Integral.step chk) Integral.init evs = .ok s) :
    ∃ r, trapSpec chk (lastRun evs) = .ok r ∧ Integral.get s = expectedGet evs r := by
  obtain ⟨r, hr, hv⟩ := di_run_ok (integral_laws chk) evs s h
  exact ⟨r, (trapSpec_lastRun chk evs).trans hr, hv⟩

/-- the previous-sample slot holds the newest sample of the current run (nothing after a reset) -/
theorem integral_prev (chk : Bool) (evs : List (Output (Quantity F))) (s : DiS F)
    (h : runE (Integral.step chk) Integral.init evs = .ok s) : s.prev = (lastRun evs).getLast? := by
  have := (di_run_inv (integral_laws chk) evs s h).1
  simpa [lastRun] using this

/-- **Panics.**  Running a history panics exactly when the trapezoidal-sum specification of the current run panics
at some point of the history (i.e. for some prefix). -/
theorem integral_panics_iff (chk : Bool) (evs : List (Output (Quantity F))) :
    (∃ p, runE (Integral.step chk) Integral.init evs = .error p) ↔
      ∃ pre, pre <+: evs ∧ ∃ p, trapSpec chk (lastRun pre) = .error p := by
  simp only [trapSpec_lastRun]
  exact di_run_panic (integral_laws chk) evs

/-- `update`'s return value: the error on an error event, `Ok(())` otherwise -/
theorem integral_update_ret (chk : Bool) (s s' : DiS F) (e : Output (Quantity F)) (r : UpdRet)
    (h : Integral.step chk s e = .ok (s', r)) :
    r = updRetOf e := by
  match e with
  | .error x => cases h; rfl
  | .ok none => cases h; rfl
  | .ok (some o) => rw [integral_step_present] at h; exact (presentStep_ok h).2.1

/-! ### the derivative stream -/

/-- backward difference quotient of the two newest samples of a run given newest-first -/
def backdiffRev (chk : Bool) : List (Datum (Quantity F)) → Except Panic (Option (Datum (Quantity F)))
  | [] => .ok none
  | [_] => .ok none
  | o :: p :: _ =>
    match Quantity.sub chk o.value p.value with
    | .error e => .error e
    | .ok d => .ok (some ⟨o.time, Quantity.div chk d (Quantity.ofTime chk (o.time - p.time))⟩)

/-- NON-incremental specification of the derivative stream on a run (oldest first): absent with fewer than two
samples, otherwise `(vₙ − vₙ₋₁) / ofTime(tₙ − tₙ₋₁)` at time `tₙ` -/
def backdiffSpec (chk : Bool) (run : List (Datum (Quantity F))) : Except Panic (Option (Datum (Quantity F))) :=
  backdiffRev chk run.reverse

theorem backdiffSpec_lastRun (chk : Bool) (evs : List (Output (Quantity F))) :
    backdiffSpec chk (lastRun evs) = backdiffRev chk (rrun evs) :=
  congrArg (backdiffRev chk) (List.reverse_reverse _)

theorem backdiffRev_cons₂ (chk : Bool) (o p : Datum (Quantity F)) (rest : List (Datum (Quantity F))) :
    backdiffRev chk (o :: p :: rest) = (backdiffQ chk o p).map fun v => some ⟨o.time, v⟩ := by
  simp only [backdiffRev, backdiffQ]
  cases Quantity.sub chk o.value p.value <;> rfl

theorem backdiffSpec_nil (chk : Bool) : backdiffSpec chk ([] : List (Datum (Quantity F))) = .ok none := rfl
theorem backdiffSpec_one (chk : Bool) (d : Datum (Quantity F)) : backdiffSpec chk [d] = .ok none := rfl
/-- the specification only looks at the last two samples of the run -/
theorem backdiffSpec_snoc (chk : Bool) (run : List (Datum (Quantity F))) (p o : Datum (Quantity F)) :
    backdiffSpec chk (run ++ [p, o]) =
      match Quantity.sub chk o.value p.value with
      | .error e => .error e
      | .ok d => .ok (some ⟨o.time, Quantity.div chk d (Quantity.ofTime chk (o.time - p.time))⟩) := by
  simp only [backdiffSpec, reverse_snoc₂, backdiffRev]

theorem derivative_laws (chk : Bool) : DiLaws (Derivative.step (F := F) chk) (backdiffRev chk) where
  nil := rfl
  err := fun _ _ => rfl
  absent := fun _ => rfl
  present := by
    intro s rr d ⟨hp, _⟩
    rw [derivative_step_present, hp]
    cases rr with
    | nil => rfl
    | cons p rest =>
      simp only [List.head?_cons, presentStep, backdiffRev_cons₂]
      cases backdiffQ chk d p <;> rfl

/-- **Derivative = backward difference quotient of the last two samples.**  Same shape as `integral_eq_trapsum`. -/
theorem derivative_eq_backdiff (chk : Bool) (evs : List (Output (Quantity F))) (s : DiS F)
    (h : runE (Derivative.step chk) Derivative.init evs = .ok s) :
    ∃ r, backdiffSpec chk (lastRun evs) = .ok r ∧ Derivative.get s = expectedGet evs r := by
  obtain ⟨r, hr, hv⟩ := di_run_ok (derivative_laws chk) evs s h
  exact ⟨r, (backdiffSpec_lastRun chk evs).trans hr, hv⟩

theorem derivative_prev (chk : Bool) (evs : List (Output (Quantity F))) (s : DiS F)
    (h : runE (Derivative.step chk) Derivative.init evs = .ok s) : s.prev = (lastRun evs).getLast? := by
  have := (di_run_inv (derivative_laws chk) evs s h).1
  simpa [lastRun] using this

theorem derivative_panics_iff (chk : Bool) (evs : List (Output (Quantity F))) :
    (∃ p, runE (Derivative.step chk) Derivative.init evs = .error p) ↔
      ∃ pre, pre <+: evs ∧ ∃ p, backdiffSpec chk (lastRun pre) = .error p := by
  simp only [backdiffSpec_lastRun]
  exact di_run_panic (derivative_laws chk) evs

theorem derivative_update_ret (chk : Bool) (s s' : DiS F) (e : Output (Quantity F)) (r : UpdRet)
    (h : Derivative.step chk s e = .ok (s', r)) :
    r = updRetOf e := by
  match e with
  | .error x => cases h; rfl
  | .ok none => cases h; rfl
  | .ok (some o) => rw [derivative_step_present] at h; exact (presentStep_ok h).2.1

/-- outputs carry the newest sample's time (both streams) -/
theorem trapSpec_time (chk : Bool) (run : List (Datum (Quantity F))) (r : Datum (Quantity F))
    (h : trapSpec chk run = .ok (some r)) : ∃ dn, run.getLast? = some dn ∧ r.time = dn.time := by
  unfold trapSpec at h
  rw [← List.head?_reverse]
  match hrr : run.reverse with
  | [] => rw [hrr] at h; cases h
  | [_] => rw [hrr] at h; cases h
  | o :: p :: rest =>
    rw [hrr] at h
    obtain ⟨v, hv⟩ := trapRev_cons₂_ok chk o p rest _ h
    cases hv; exact ⟨o, rfl, rfl⟩

theorem backdiffSpec_time (chk : Bool) (run : List (Datum (Quantity F))) (r : Datum (Quantity F))
    (h : backdiffSpec chk run = .ok (some r)) : ∃ dn, run.getLast? = some dn ∧ r.time = dn.time := by
  unfold backdiffSpec at h
  rw [← List.head?_reverse]
  match hrr : run.reverse with
  | [] => rw [hrr] at h; cases h
  | [_] => rw [hrr] at h; cases h
  | o :: p :: rest =>
    rw [hrr, backdiffRev_cons₂] at h
    obtain ⟨v, -, hv⟩ := Except.map_eq_ok.1 h
    cases hv; exact ⟨o, rfl, rfl⟩

/-- absent until two samples exist; present (if no panic) from two samples on -/
theorem trapRev_none_iff (chk : Bool) (rr : List (Datum (Quantity F))) :
    trapRev chk rr = .ok none ↔ rr.length < 2 := by
  match rr with
  | [] => exact iff_of_true rfl Nat.zero_lt_two
  | [_] => exact iff_of_true rfl Nat.one_lt_two
  | o :: p :: rest =>
    refine iff_of_false (fun h => ?_) (Nat.not_lt.2 (Nat.le_add_left 2 _))
    obtain ⟨v, hv⟩ := trapRev_cons₂_ok chk o p rest _ h
    cases hv

theorem trapSpec_none_iff (chk : Bool) (run : List (Datum (Quantity F))) :
    trapSpec chk run = .ok none ↔ run.length < 2 := by
  rw [trapSpec, trapRev_none_iff, List.length_reverse]

theorem backdiffSpec_none_iff (chk : Bool) (run : List (Datum (Quantity F))) :
    backdiffSpec chk run = .ok none ↔ run.length < 2 := by
  unfold backdiffSpec
  rw [← List.length_reverse]
  match run.reverse with
  | [] => exact iff_of_true rfl Nat.zero_lt_two
  | [_] => exact iff_of_true rfl Nat.one_lt_two
  | o :: p :: rest =>
    refine iff_of_false (fun h => ?_) (Nat.not_lt.2 (Nat.le_add_left 2 _))
    rw [backdiffRev_cons₂] at h
    obtain ⟨v, -, hv⟩ := Except.map_eq_ok.1 h
    cases hv

/-! ### units of the two streams -/

theorem assertEq_false (a b : DUnit) : DUnit.assertEqAssumeOk false a b = .ok () :=
  DUnit.assertEqAssumeOk_false a b

theorem trapAddend_ok (chk : Bool) (u : DUnit) (p o : Datum (Quantity F)) (hp : chk = true → p.value.unit = u)
    (ho : chk = true → o.value.unit = u) :
    ∃ a, trapAddend chk p o = .ok a ∧ (chk = true → a.unit = ⟨u.mm, u.s + 1⟩) := by
  rw [trapAddend, Quantity.add_of_units fun hc => (hp hc).trans (ho hc).symm]
  refine ⟨_, rfl, fun hc => ?_⟩
  subst hc
  simp only [Quantity.div_unit, Quantity.mul_unit, Quantity.ofTime_unit, Quantity.dimensionless_unit, DUnit.div_true,
    DUnit.mul_true, DUnit.mk.injEq, hp rfl]
  omega

/-- the sum exists as soon as the units that are checked agree, and then has unit `u·s`: one statement for both builds,
since every addition succeeds for the same reason (`Quantity.add_of_units`) -/
theorem trapRev_ok (chk : Bool) (u : DUnit) (rr : List (Datum (Quantity F)))
    (hall : chk = true → ∀ d ∈ rr, d.value.unit = u) :
    ∃ r, trapRev chk rr = .ok r ∧ (chk = true → ∀ d, r = some d → d.value.unit = ⟨u.mm, u.s + 1⟩) := by
  induction rr with
  | nil => exact ⟨none, rfl, by intro _ d hd; cases hd⟩
  | cons o tl ih =>
    cases tl with
    | nil => exact ⟨none, rfl, by intro _ d hd; cases hd⟩
    | cons p rest =>
      obtain ⟨r0, h0, hu0⟩ := ih fun hc d hd => hall hc d (List.mem_cons_of_mem _ hd)
      obtain ⟨a, ha, hau⟩ := trapAddend_ok chk u p o (fun hc => hall hc p (by simp)) (fun hc => hall hc o (by simp))
      rw [trapRev_cons₂, h0]
      simp only [Except.bind, trapStep, ha]
      cases r0 with
      | none => exact ⟨_, rfl, by intro hc d hd; cases hd; exact hau hc⟩
      | some r =>
        simp only [Option.map, Quantity.add_of_units fun hc => (hau hc).trans (hu0 hc r rfl).symm]
        exact ⟨_, rfl, by intro hc d hd; cases hd; exact hau hc⟩

theorem trapRev_unit (u : DUnit) (rr : List (Datum (Quantity F))) (hall : ∀ d ∈ rr, d.value.unit = u) :
    ∃ r, trapRev true rr = .ok r ∧ ∀ d, r = some d → d.value.unit = ⟨u.mm, u.s + 1⟩ :=
  (trapRev_ok true u rr fun _ => hall).imp fun _ h => ⟨h.1, h.2 rfl⟩

theorem trapRev_nochk_ok (rr : List (Datum (Quantity F))) : ∃ r, trapRev false rr = .ok r :=
  (trapRev_ok false ⟨0, 0⟩ rr nofun).imp fun _ h => h.1

theorem trapSpec_nochk_some (run : List (Datum (Quantity F))) (hlen : 2 ≤ run.length) :
    ∃ r, trapSpec false run = .ok (some r) := by
  obtain ⟨r, hr⟩ := trapRev_nochk_ok (F := F) run.reverse
  cases r with
  | some r => exact ⟨r, hr⟩
  | none =>
    have := (trapSpec_none_iff false run).1 hr
    omega

theorem trapStep_err (chk : Bool) (p o : Datum (Quantity F)) (acc : Option (Quantity F)) (e : Panic)
    (h : trapStep chk p o acc = .error e) : e = .dim := by
  unfold trapStep trapAddend at h
  cases ha : Quantity.add chk p.value o.value with
  | error q => rw [ha] at h; cases h; exact Quantity.add_err ha
  | ok sm =>
    rw [ha] at h
    cases acc with
    | none => cases h
    | some r => exact Quantity.add_err h

def AllUnit (u : DUnit) (evs : List (Output (Quantity F))) : Prop :=
  ∀ d : Datum (Quantity F), (.ok (some d) : Output (Quantity F)) ∈ evs → d.value.unit = u

/-- **Integral never panics on uniformly dimensioned input** (checking on) -/
theorem integral_same_unit_never_panics (u : DUnit) (evs : List (Output (Quantity F))) (hu : AllUnit u evs) :
    ∃ s, runE (Integral.step true) Integral.init evs = .ok s :=
  di_never_panics (integral_laws true) evs fun pre hpre =>
    (trapRev_unit u (rrun pre) fun d hd => hu d (hpre.subset (mem_rrun pre d hd))).imp fun _ h => h.1

theorem integral_nochk_never_panics (evs : List (Output (Quantity F))) :
    ∃ s, runE (Integral.step false) Integral.init evs = .ok s :=
  di_never_panics (integral_laws false) evs fun pre _ => trapRev_nochk_ok (rrun pre)

/-- **Integral output unit** = input unit × second -/
theorem integral_output_unit (u : DUnit) (evs : List (Output (Quantity F))) (hu : AllUnit u evs) (s : DiS F)
    (h : runE (Integral.step true) Integral.init evs = .ok s) (d : Datum (Quantity F))
    (hg : Integral.get s = .ok (some d)) : d.value.unit = ⟨u.mm, u.s + 1⟩ := by
  obtain ⟨r, hr, hunit⟩ := trapRev_unit u (rrun evs) (fun d hd => hu d (mem_rrun evs d hd))
  exact hunit d (Except.ok.inj (hr.symm.trans (di_value_some (integral_laws true) evs s h d hg)))

theorem integral_unit_mismatch_panics (s : DiS F) (p o : Datum (Quantity F)) (hp : s.prev = some p)
    (hne : p.value.unit ≠ o.value.unit) : Integral.step true s (.ok (some o)) = .error .dim := by
  simp only [integral_step_present, hp, presentStep, trapStep, trapAddend, Quantity.add_true, hne, if_false, Except.bind]; rfl

theorem integral_panic_is_dim (chk : Bool) (s : DiS F) (e : Output (Quantity F)) (p : Panic)
    (h : Integral.step chk s e = .error p) : p = .dim := by
  match e with
  | .error x => cases h
  | .ok none => cases h
  | .ok (some o) =>
    rw [integral_step_present] at h
    rcases presentStep_error h with ha | ⟨q, _, hq⟩
    · cases ha
    · exact trapStep_err chk q o _ p hq

theorem diffQ_unit (m k : Int) (a b : Quantity F) (t : Int) (ha : a.unit = ⟨m, k⟩) (hb : b.unit = ⟨m, k⟩) :
    ∃ q, diffQ true (Quantity.ofTime true t) a b = .ok q ∧ q.unit = ⟨m, k - 1⟩ := by
  simp only [diffQ, Quantity.sub_true, ha, hb, if_true]
  refine ⟨_, rfl, ?_⟩
  rw [Quantity.div_unit, Quantity.ofTime_unit, DUnit.div_true, Int.sub_zero]

theorem backdiffRev_unit (u : DUnit) (rr : List (Datum (Quantity F))) (hall : ∀ d ∈ rr, d.value.unit = u) :
    ∃ r, backdiffRev true rr = .ok r ∧ ∀ d, r = some d → d.value.unit = ⟨u.mm, u.s - 1⟩ := by
  match rr with
  | [] => exact ⟨none, rfl, by simp⟩
  | [_] => exact ⟨none, rfl, by simp⟩
  | o :: p :: rest =>
    obtain ⟨q, hq, hu⟩ := diffQ_unit u.mm u.s o.value p.value (o.time - p.time) (hall o (by simp)) (hall p (by simp))
    rw [backdiffRev_cons₂, show backdiffQ true o p = .ok q from hq]
    exact ⟨_, rfl, by intro d hd; cases hd; exact hu⟩

theorem backdiffRev_nochk_ok (rr : List (Datum (Quantity F))) : ∃ r, backdiffRev false rr = .ok r := by
  match rr with
  | [] => exact ⟨none, rfl⟩
  | [_] => exact ⟨none, rfl⟩
  | o :: p :: rest => exact ⟨_, rfl⟩

theorem backdiffQ_err (chk : Bool) (o p : Datum (Quantity F)) (e : Panic) (h : backdiffQ chk o p = .error e) :
    e = .dim := by
  unfold backdiffQ at h
  split at h
  · next q hs => cases h; exact Quantity.sub_err hs
  · cases h

theorem derivative_same_unit_never_panics (u : DUnit) (evs : List (Output (Quantity F))) (hu : AllUnit u evs) :
    ∃ s, runE (Derivative.step true) Derivative.init evs = .ok s :=
  di_never_panics (derivative_laws true) evs fun pre hpre =>
    (backdiffRev_unit u (rrun pre) fun d hd => hu d (hpre.subset (mem_rrun pre d hd))).imp fun _ h => h.1

theorem derivative_nochk_never_panics (evs : List (Output (Quantity F))) :
    ∃ s, runE (Derivative.step false) Derivative.init evs = .ok s :=
  di_never_panics (derivative_laws false) evs fun pre _ => backdiffRev_nochk_ok (rrun pre)

/-- **Derivative output unit** = input unit / second -/
theorem derivative_output_unit (u : DUnit) (evs : List (Output (Quantity F))) (hu : AllUnit u evs) (s : DiS F)
    (h : runE (Derivative.step true) Derivative.init evs = .ok s) (d : Datum (Quantity F))
    (hg : Derivative.get s = .ok (some d)) : d.value.unit = ⟨u.mm, u.s - 1⟩ := by
  obtain ⟨r, hr, hunit⟩ := backdiffRev_unit u (rrun evs) (fun d hd => hu d (mem_rrun evs d hd))
  exact hunit d (Except.ok.inj (hr.symm.trans (di_value_some (derivative_laws true) evs s h d hg)))

theorem derivative_unit_mismatch_panics (s : DiS F) (p o : Datum (Quantity F)) (hp : s.prev = some p)
    (hne : o.value.unit ≠ p.value.unit) : Derivative.step true s (.ok (some o)) = .error .dim := by
  simp only [derivative_step_present, hp, presentStep, backdiffQ, Quantity.sub_true, hne, if_false]; rfl

theorem derivative_panic_is_dim (chk : Bool) (s : DiS F) (e : Output (Quantity F)) (p : Panic)
    (h : Derivative.step chk s e = .error p) : p = .dim := by
  match e with
  | .error x => cases h
  | .ok none => cases h
  | .ok (some o) =>
    rw [derivative_step_present] at h
    rcases presentStep_error h with ha | ⟨q, _, hq⟩
    · cases ha
    · exact backdiffQ_err chk o q p hq

/-! ## to-state converters -/

/-- what a to-state converter reports: time and the three quantities handed to `State::new` -/
structure StateSpec (F : Type) where
  time : Int
  pos : Quantity F
  vel : Quantity F
  acc : Quantity F

/-- the converter's `get` from a specification value: absent, or `State::new(pos, vel, acc)` (with its three unit
assertions) stamped with the time -/
def stateOut (chk : Bool) : Option (StateSpec F) → Except Panic (Output (State F))
  | none => .ok (.ok none)
  | some sp =>
    match State.new chk sp.pos sp.vel sp.acc with
    | .error e => .error e
    | .ok st => .ok (.ok (some ⟨sp.time, st⟩))

theorem stateOut_some (chk : Bool) (r : Option (StateSpec F)) (d : Datum (State F))
    (h : stateOut chk r = .ok (.ok (some d))) :
    ∃ sp, r = some sp ∧ d = ⟨sp.time, ⟨sp.pos.value, sp.vel.value, sp.acc.value⟩⟩ := by
  unfold stateOut at h
  split at h
  · cases h
  · next sp =>
    split at h
    · cases h
    · next st hn => cases h; exact ⟨sp, rfl, by rw [State.new_ok hn]⟩
theorem stateOut_nochk (sp : StateSpec F) :
    stateOut false (some sp) = .ok (.ok (some ⟨sp.time, ⟨sp.pos.value, sp.vel.value, sp.acc.value⟩⟩)) := rfl

/-- running trapezoid sum as the converters write it, on a run given newest-first: nothing for fewer than two
samples; `h(p,o) = ((p + o) / 2) * ofTime(o.time − p.time)` (`qHalfTimes`) for two; `old + h(p,o)` after that
(the old sum is the *left* operand) -/
def trapRunRev (chk : Bool) : List (Datum (Quantity F)) → Except Panic (Option (Quantity F))
  | [] => .ok none
  | [_] => .ok none
  | o :: p :: rest =>
    match trapRunRev chk (p :: rest) with
    | .error e => .error e
    | .ok prev =>
      match qHalfTimes chk p.value o.value (Quantity.ofTime chk (o.time - p.time)) with
      | .error e => .error e
      | .ok h =>
        match prev with
        | none => .ok (some h)
        | some v =>
          match Quantity.add chk v h with
          | .error e => .error e
          | .ok nv => .ok (some nv)

theorem trapRunRev_cons₂ (chk : Bool) (o p : Datum (Quantity F)) (rest : List (Datum (Quantity F))) :
    trapRunRev chk (o :: p :: rest) =
      (trapRunRev chk (p :: rest)).bind fun old =>
        (accum chk (Quantity.ofTime chk (o.time - p.time)) old p.value o.value).map some := by
  rw [trapRunRev]
  cases trapRunRev chk (p :: rest) with
  | error e => rfl
  | ok old =>
    simp only [accum, Except.bind]
    cases qHalfTimes chk p.value o.value (Quantity.ofTime chk (o.time - p.time)) with
    | error e => rfl
    | ok h =>
      cases old with
      | none => rfl
      | some x => simp only; cases Quantity.add chk x h <;> rfl

theorem trapRunRev_some (chk : Bool) (o p : Datum (Quantity F)) (rest : List (Datum (Quantity F)))
    (v : Option (Quantity F)) (h : trapRunRev chk (o :: p :: rest) = .ok v) : ∃ x, v = some x := by
  rw [trapRunRev_cons₂] at h
  obtain ⟨old, -, h⟩ := Except.bind_eq_ok.1 h
  obtain ⟨x, -, hx⟩ := Except.map_eq_ok.1 h
  exact ⟨x, hx.symm⟩

theorem trapRunRev_none_iff (chk : Bool) (rr : List (Datum (Quantity F))) :
    trapRunRev chk rr = .ok none ↔ rr.length < 2 := by
  match rr with
  | [] => exact iff_of_true rfl Nat.zero_lt_two
  | [_] => exact iff_of_true rfl Nat.one_lt_two
  | o :: p :: rest =>
    refine iff_of_false (fun h => ?_) (Nat.not_lt.2 (Nat.le_add_left 2 _))
    obtain ⟨x, hx⟩ := trapRunRev_some chk o p rest _ h
    cases hx

/-! ### what the three converters share: each `update` is a `convStep` (`*_step_eq_convStep`)

The lemmas take that equation as the hypothesis `hc` and speak of `step`, not of `convStep …` itself: what an instance has to
supply (`hstep` of `convStep_run_inv`) is then a fact about the converter's own `step`, and no instance rewrites. -/
section ConvStep
variable {α U N : Type} {assert : Datum α → Except Panic Unit} {first : Datum α → U}
  {num : Datum α → U → Except Panic N} {next : Datum α → N → U}
  {step : Option U → Output α → Except Panic (Option U × UpdRet)}

/-- an error event is returned by `update` (and resets); everything else returns `Ok(())` -/
theorem convStep_update_ret (hc : step = convStep assert first num next) {s s' : Option U} {e : Output α} {r : UpdRet}
    (h : step s e = .ok (s', r)) : r = updRetOf e := by
  subst hc
  match e with
  | .error x => cases h; rfl
  | .ok none => cases h; rfl
  | .ok (some d) => exact (presentStep_ok h).2.1

/-- a relation between the state and the run since the last error that holds of the empty state and the empty run and
is kept by every sample holds after every history: an error event empties both, an absent event changes neither -/
theorem convStep_run_inv (hc : step = convStep assert first num next) (Inv : Option U → List (Datum α) → Prop)
    (h0 : Inv none [])
    (hstep : ∀ s s' rr d r, Inv s rr → step s (.ok (some d)) = .ok (s', r) → Inv s' (d :: rr))
    (evs : List (Output α)) (s : Option U) (h : runE step none evs = .ok s) : Inv s (rrunIgn evs) := by
  refine runE_run_inv step rrunIgn_eq_foldl Inv ?_ none h0 evs s h
  intro s rr e s' r hinv hs
  match e with
  | .error x => subst hc; cases hs; exact h0
  | .ok none => subst hc; cases hs; exact hinv
  | .ok (some d) => exact hstep s s' rr d r hinv hs

/-- a property of what is stored (`P`) and one of the samples (`G`): if on samples with `G` the assertion holds, a first
sample establishes `P`, the numbers exist and keep it, and `get` does not panic on a state with `P`, then after a history
whose samples all have `G` neither `update` nor `get` has panicked, and `P` holds -/
theorem convStep_never_panics {O : Type} (hc : step = convStep assert first num next) (P : U → Prop) (G : Datum α → Prop)
    (get : Option U → Except Panic O) (hassert : ∀ d, G d → assert d = .ok ()) (hfirst : ∀ d, G d → P (first d))
    (hnext : ∀ d u0, G d → P u0 → ∃ n, num d u0 = .ok n ∧ P (next d n))
    (hget : ∀ s, (∀ u0, s = some u0 → P u0) → ∃ o, get s = .ok o)
    (evs : List (Output α)) (he : ∀ e ∈ evs, ∀ d, e = .ok (some d) → G d) :
    ∃ s, runE step none evs = .ok s ∧ (∀ u0, s = some u0 → P u0) ∧ ∃ o, get s = .ok o := by
  have hstep : ∀ s e, (∀ u0, s = some u0 → P u0) → (∀ d, e = .ok (some d) → G d) →
      ∃ r, step s e = .ok r ∧ ∀ u0, r.1 = some u0 → P u0 := by
    subst hc
    intro s e hs hg
    rcases e with x | _ | d
    · exact ⟨_, rfl, nofun⟩
    · exact ⟨_, rfl, hs⟩
    have hd := hg d rfl
    simp only [convStep, presentStep, hassert d hd]
    match s, hs with
    | none, _ => exact ⟨_, rfl, fun u0 h => by cases h; exact hfirst d hd⟩
    | some u0, hs =>
      obtain ⟨n, hn, hp⟩ := hnext d u0 hd (hs u0 rfl)
      exact ⟨_, by simp only [hn]; rfl, fun u0' h => by cases h; exact hp⟩
  obtain ⟨s, h, hs⟩ := Rrtk.runE_inv step _ _ hstep none nofun evs he
  exact ⟨s, (runE_eq _ _ _).trans h, hs, hget s hs⟩
end ConvStep

/-! ### AccelerationToState -/
/-- position for the acceleration converter: the trapezoid sum of the velocities `velᵢ = trapRun(d₀…dᵢ)`:
nothing for fewer than three samples, `((vel₁ + vel₂)/2)·dt₂` for three, `old + ((velᵢ₋₁ + velᵢ)/2)·dtᵢ` after. -/
def a2sPosRev (chk : Bool) : List (Datum (Quantity F)) → Except Panic (Option (Quantity F))
  | [] => .ok none
  | [_] => .ok none
  | o :: p :: rest =>
    match a2sPosRev chk (p :: rest) with
    | .error e => .error e
    | .ok prevPos =>
      match trapRunRev chk (p :: rest) with
      | .error e => .error e
      | .ok none => .ok none
      | .ok (some v0) =>
        match trapRunRev chk (o :: p :: rest) with
        | .error e => .error e
        | .ok none => .ok none
        | .ok (some v1) =>
          match qHalfTimes chk v0 v1 (Quantity.ofTime chk (o.time - p.time)) with
          | .error e => .error e
          | .ok h =>
            match prevPos with
            | none => .ok (some h)
            | some x =>
              match Quantity.add chk x h with
              | .error e => .error e
              | .ok np => .ok (some np)

def a2sSpecRev (chk : Bool) : List (Datum (Quantity F)) → Except Panic (Option (StateSpec F))
  | [] => .ok none
  | o :: rest =>
    match trapRunRev chk (o :: rest) with
    | .error e => .error e
    | .ok vel =>
      match a2sPosRev chk (o :: rest) with
      | .error e => .error e
      | .ok pos =>
        match vel, pos with
        | some v, some x => .ok (some ⟨o.time, x, v, o.value⟩)
        | _, _ => .ok none

/-- NON-incremental specification of `AccelerationToState` on the run `d₀ … dₙ` of present samples since the last
error: acceleration = the newest sample, velocity = running trapezoid sum of the accelerations, position = running
trapezoid sum of those velocities; absent until both exist; time of the newest sample -/
def a2sSpec (chk : Bool) (run : List (Datum (Quantity F))) : Except Panic (Option (StateSpec F)) :=
  a2sSpecRev chk run.reverse

theorem a2sPosRev_cons₃ (chk : Bool) (o p q : Datum (Quantity F)) (rest : List (Datum (Quantity F)))
    (v0 v1 : Quantity F) (h0 : trapRunRev chk (p :: q :: rest) = .ok (some v0))
    (h1 : trapRunRev chk (o :: p :: q :: rest) = .ok (some v1)) :
    a2sPosRev chk (o :: p :: q :: rest) =
      (a2sPosRev chk (p :: q :: rest)).bind fun old =>
        (accum chk (Quantity.ofTime chk (o.time - p.time)) old v0 v1).map some := by
  rw [a2sPosRev, h0, h1]
  cases a2sPosRev chk (p :: q :: rest) with
  | error e => rfl
  | ok old =>
    simp only [accum, Except.bind]
    cases qHalfTimes chk v0 v1 (Quantity.ofTime chk (o.time - p.time)) with
    | error e => rfl
    | ok h =>
      cases old with
      | none => rfl
      | some x => simp only; cases Quantity.add chk x h <;> rfl

theorem a2sPosRev_vels (chk : Bool) (o p q : Datum (Quantity F)) (rest : List (Datum (Quantity F)))
    (x : Option (Quantity F)) (h : a2sPosRev chk (o :: p :: q :: rest) = .ok x) :
    ∃ v0 v1, trapRunRev chk (p :: q :: rest) = .ok (some v0) ∧ trapRunRev chk (o :: p :: q :: rest) = .ok (some v1) := by
  cases h0 : trapRunRev chk (p :: q :: rest) with
  | error e => rw [a2sPosRev, h0] at h; split at h <;> cases h
  | ok ov0 =>
    obtain ⟨v0, rfl⟩ := trapRunRev_some chk p q rest _ h0
    cases h1 : trapRunRev chk (o :: p :: q :: rest) with
    | error e => rw [a2sPosRev, h0, h1] at h; split at h <;> cases h
    | ok ov1 =>
      obtain ⟨v1, rfl⟩ := trapRunRev_some chk o p (q :: rest) _ h1
      exact ⟨v0, v1, rfl, rfl⟩

theorem a2sPosRev_some (chk : Bool) (o p q : Datum (Quantity F)) (rest : List (Datum (Quantity F)))
    (x : Option (Quantity F)) (h : a2sPosRev chk (o :: p :: q :: rest) = .ok x) : ∃ y, x = some y := by
  obtain ⟨v0, v1, h0, h1⟩ := a2sPosRev_vels chk o p q rest x h
  rw [a2sPosRev_cons₃ chk o p q rest v0 v1 h0 h1] at h
  obtain ⟨old, -, h⟩ := Except.bind_eq_ok.1 h
  obtain ⟨y, -, hy⟩ := Except.map_eq_ok.1 h
  exact ⟨y, hy.symm⟩

/-- what a value of `a2sSpec` is: nothing on fewer than three samples; from three on (newest first `o, p, q, …`)
both running sums exist and the value is this one -/
theorem a2sSpecRev_ok (chk : Bool) (rr : List (Datum (Quantity F))) (r : Option (StateSpec F))
    (h : a2sSpecRev chk rr = .ok r) :
    (rr.length < 3 ∧ r = none) ∨
      ∃ o p q rest v x, rr = o :: p :: q :: rest ∧ trapRunRev chk rr = .ok (some v) ∧
        a2sPosRev chk rr = .ok (some x) ∧ r = some ⟨o.time, x, v, o.value⟩ := by
  match rr, h with
  | [], h => cases h; exact .inl ⟨by simp, rfl⟩
  | [_], h => cases h; exact .inl ⟨by simp, rfl⟩
  | [o, p], h =>
    -- two samples: one velocity, no position yet
    simp only [a2sSpecRev, a2sPosRev, trapRunRev] at h
    split at h <;> cases h
    exact .inl ⟨by simp, rfl⟩
  | o :: p :: q :: rest, h =>
    rw [a2sSpecRev] at h
    split at h
    · cases h
    · next vel hv =>
      obtain ⟨v, rfl⟩ := trapRunRev_some chk o p (q :: rest) _ hv
      split at h
      · cases h
      · next pos hp =>
        obtain ⟨x, rfl⟩ := a2sPosRev_some chk o p q rest _ hp
        cases h
        exact .inr ⟨o, p, q, rest, v, x, rfl, hv, hp, rfl⟩

theorem a2sSpec_short (chk : Bool) (run : List (Datum (Quantity F))) (r : Option (StateSpec F))
    (hlen : run.length < 3) (h : a2sSpec chk run = .ok r) : r = none := by
  rcases a2sSpecRev_ok chk _ r h with ⟨_, rfl⟩ | ⟨o, p, q, rest, _, _, hrr, _⟩
  · rfl
  · have := congrArg List.length hrr
    simp only [List.length_reverse, List.length_cons] at this; omega

theorem a2sSpec_long (chk : Bool) (run : List (Datum (Quantity F))) (r : Option (StateSpec F))
    (hlen : 3 ≤ run.length) (h : a2sSpec chk run = .ok r) : ∃ sp, r = some sp := by
  rcases a2sSpecRev_ok chk _ r h with ⟨hl, _⟩ | ⟨_, _, _, _, _, _, _, _, _, rfl⟩
  · rw [List.length_reverse] at hl; omega
  · exact ⟨_, rfl⟩

/-- the state holds the newest sample of the run and the two running sums of the run, as far as they exist -/
def A2sInv (chk : Bool) (s : Option (A2sU0 F)) : List (Datum (Quantity F)) → Prop
  | [] => s = none
  | o :: rest => ∃ vel pos, trapRunRev chk (o :: rest) = .ok vel ∧ a2sPosRev chk (o :: rest) = .ok pos ∧
      s = some ⟨o.time, o.value, vel.map (fun v => ⟨v, pos⟩)⟩

/-- the step keeps the invariant: the specification's recursion and `a2sNum` are the same `accum` terms -/
theorem a2s_step_inv (chk : Bool) (s s' : Option (A2sU0 F)) (rr : List (Datum (Quantity F)))
    (d : Datum (Quantity F)) (r : UpdRet) (hinv : A2sInv chk s rr)
    (h : A2s.step chk s (.ok (some d)) = .ok (s', r)) : A2sInv chk s' (d :: rr) := by
  rw [a2s_step_eq_convStep] at h
  rcases (presentStep_ok h).2.2 with ⟨rfl, rfl⟩ | ⟨u0, u1, rfl, hu1, rfl⟩
  · cases rr with
    | nil => exact ⟨none, none, rfl, rfl, rfl⟩
    | cons p rest => obtain ⟨_, _, _, _, hs⟩ := hinv; cases hs
  match rr, hinv with
  | p :: rest, ⟨vel, pos, hv, hp, hs⟩ =>
    -- the stored sample is `p`, the stored sums the two running sums up to `p`
    cases hs
    obtain ⟨nv, hnv, hu1⟩ := Except.bind_eq_ok.1 hu1
    -- the velocity `a2sNum` adds to is the stored one, `vel`
    have hvel : (vel.map fun v => (⟨v, pos⟩ : A2sU1 F)).map (·.vel) = vel := by cases vel <;> rfl
    rw [hvel] at hnv
    have hv' : trapRunRev chk (d :: p :: rest) = .ok (some nv) := by
      rw [trapRunRev_cons₂, hv]
      simp only [Except.bind, hnv]; rfl
    cases vel with
    | none =>
      cases hu1
      refine ⟨some nv, none, hv', ?_, rfl⟩
      rw [a2sPosRev, hp]; simp only [hv]
    | some v =>
      obtain ⟨np, hnp, hu⟩ := Except.map_eq_ok.1 hu1
      cases hu
      match rest, hv, hp, hv' with
      | [], hv, _, _ => cases hv
      | q :: rest, hv, hp, hv' =>
        refine ⟨some nv, some np, hv', ?_, rfl⟩
        rw [a2sPosRev_cons₃ chk d p q rest v nv hv hv', hp]
        simp only [Except.bind, hnp]; rfl

/-- **AccelerationToState = its specification.**  After any history that did not panic, `get` is the converter
output (`State::new` + time) of the specification applied to the present samples since the last error event
(absent events ignored).  In particular right after an error event `get` is absent, not the error. -/
theorem a2s_eq_spec (chk : Bool) (evs : List (Output (Quantity F))) (s : Option (A2sU0 F))
    (h : runE (A2s.step chk) A2s.init evs = .ok s) :
    ∃ r, a2sSpec chk (lastRunIgnoringAbsent evs) = .ok r ∧ A2s.get chk s = stateOut chk r := by
  have hinv := convStep_run_inv (a2s_step_eq_convStep chk) (A2sInv chk) rfl (a2s_step_inv chk) evs s h
  simp only [a2sSpec, lastRunIgnoringAbsent, List.reverse_reverse]
  match hrr : rrunIgn evs, hinv with
  | [], hinv => cases hinv; exact ⟨none, rfl, rfl⟩
  | o :: rest, hinv =>
    obtain ⟨vel, pos, hv, hp, hs⟩ := hinv
    subst hs
    simp only [a2sSpecRev, hv, hp]
    cases vel with
    | none => exact ⟨none, rfl, rfl⟩
    | some v =>
      cases pos with
      | none => exact ⟨none, rfl, rfl⟩
      | some x => exact ⟨_, rfl, rfl⟩

/-- **absent until three samples since the last error** -/
theorem a2s_absent_until (chk : Bool) (evs : List (Output (Quantity F))) (s : Option (A2sU0 F))
    (h : runE (A2s.step chk) A2s.init evs = .ok s) (hlen : (lastRunIgnoringAbsent evs).length < 3) :
    A2s.get chk s = .ok (.ok none) := by
  obtain ⟨r, hr, hg⟩ := a2s_eq_spec chk evs s h
  rw [hg, a2sSpec_short chk _ r hlen hr]; rfl

/-- a reported state, unfolded: the run (newest first `o, p, q, …`) has three samples, both running sums exist, and
the state is their numbers with the newest sample's, at its time -/
theorem a2s_get_some (chk : Bool) (evs : List (Output (Quantity F))) (s : Option (A2sU0 F))
    (h : runE (A2s.step chk) A2s.init evs = .ok s) (d : Datum (State F))
    (hg : A2s.get chk s = .ok (.ok (some d))) :
    ∃ o p q rest v x, (lastRunIgnoringAbsent evs).reverse = o :: p :: q :: rest ∧
      trapRunRev chk (o :: p :: q :: rest) = .ok (some v) ∧ a2sPosRev chk (o :: p :: q :: rest) = .ok (some x) ∧
      d = ⟨o.time, ⟨x.value, v.value, o.value.value⟩⟩ := by
  obtain ⟨r, hr, hg'⟩ := a2s_eq_spec chk evs s h
  obtain ⟨sp, rfl, rfl⟩ := stateOut_some chk r d (hg'.symm.trans hg)
  rcases a2sSpecRev_ok chk _ _ hr with ⟨_, h0⟩ | ⟨o, p, q, rest, v, x, hrr, hv, hx, hsp⟩
  · cases h0
  · cases hsp; exact ⟨o, p, q, rest, v, x, hrr, hrr ▸ hv, hrr ▸ hx, rfl⟩

/-- the reported acceleration of the acceleration converter is the newest sample -/
theorem a2s_acc_newest (chk : Bool) (evs : List (Output (Quantity F))) (s : Option (A2sU0 F))
    (h : runE (A2s.step chk) A2s.init evs = .ok s) (d : Datum (State F))
    (hg : A2s.get chk s = .ok (.ok (some d))) :
    ∃ dn, (lastRunIgnoringAbsent evs).getLast? = some dn ∧ d.value.acceleration = dn.value.value ∧
      d.time = dn.time := by
  obtain ⟨o, _, _, _, _, _, hrr, -, -, rfl⟩ := a2s_get_some chk evs s h d hg
  exact ⟨o, by rw [← List.head?_reverse, hrr]; rfl, rfl, rfl⟩

/-- **output time = newest sample's time** -/
theorem a2s_time_newest (chk : Bool) (evs : List (Output (Quantity F))) (s : Option (A2sU0 F))
    (h : runE (A2s.step chk) A2s.init evs = .ok s) (d : Datum (State F))
    (hg : A2s.get chk s = .ok (.ok (some d))) :
    ∃ dn, (lastRunIgnoringAbsent evs).getLast? = some dn ∧ d.time = dn.time := by
  obtain ⟨dn, h1, -, h2⟩ := a2s_acc_newest chk evs s h d hg
  exact ⟨dn, h1, h2⟩

/-- an error event is returned by `update` (and resets); everything else returns `Ok(())` -/
theorem a2s_update_ret (chk : Bool) (s s' : Option (A2sU0 F)) (e : Output (Quantity F)) (r : UpdRet)
    (h : A2s.step chk s e = .ok (s', r)) :
    r = updRetOf e :=
  convStep_update_ret (a2s_step_eq_convStep chk) h

/-- after an error event the converter is reset and `get` is absent (the error is not cached) -/
theorem a2s_error_resets (chk : Bool) (s : Option (A2sU0 F)) (x : Err) :
    A2s.step chk s (.error x) = .ok (none, .error x) ∧ A2s.get chk (none : Option (A2sU0 F)) = .ok (.ok none) :=
  ⟨rfl, rfl⟩

/-! ### VelocityToState -/
/-- NON-incremental specification (newest-first run): absent for fewer than two samples; otherwise velocity = newest
sample, acceleration = backward difference quotient of the last two samples, position = running trapezoid sum -/
def v2sSpecRev (chk : Bool) : List (Datum (Quantity F)) → Except Panic (Option (StateSpec F))
  | [] => .ok none
  | [_] => .ok none
  | o :: p :: rest =>
    match trapRunRev chk (o :: p :: rest) with
    | .error e => .error e
    | .ok none => .ok none
    | .ok (some pos) =>
      match Quantity.sub chk o.value p.value with
      | .error e => .error e
      | .ok dv => .ok (some ⟨o.time, pos, o.value, Quantity.div chk dv (Quantity.ofTime chk (o.time - p.time))⟩)

def v2sSpec (chk : Bool) (run : List (Datum (Quantity F))) : Except Panic (Option (StateSpec F)) :=
  v2sSpecRev chk run.reverse

theorem v2sSpecRev_cons₂ (chk : Bool) (o p : Datum (Quantity F)) (rest : List (Datum (Quantity F)))
    (pos : Quantity F) (hpos : trapRunRev chk (o :: p :: rest) = .ok (some pos)) :
    v2sSpecRev chk (o :: p :: rest) = (backdiffQ chk o p).map fun acc => some ⟨o.time, pos, o.value, acc⟩ := by
  simp only [v2sSpecRev, hpos, backdiffQ]
  cases Quantity.sub chk o.value p.value <;> rfl

/-- what a value of `v2sSpec` is: nothing on fewer than two samples; from two on (newest first `o, p, …`) the running
sum and the difference quotient exist and the value is this one -/
theorem v2sSpecRev_ok (chk : Bool) (rr : List (Datum (Quantity F))) (r : Option (StateSpec F))
    (h : v2sSpecRev chk rr = .ok r) :
    (rr.length < 2 ∧ r = none) ∨
      ∃ o p rest pos acc, rr = o :: p :: rest ∧ trapRunRev chk rr = .ok (some pos) ∧ backdiffQ chk o p = .ok acc ∧
        r = some ⟨o.time, pos, o.value, acc⟩ := by
  match rr, h with
  | [], h => cases h; exact .inl ⟨by simp, rfl⟩
  | [_], h => cases h; exact .inl ⟨by simp, rfl⟩
  | o :: p :: rest, h =>
    cases hpos : trapRunRev chk (o :: p :: rest) with
    | error e => rw [v2sSpecRev, hpos] at h; cases h
    | ok opos =>
      obtain ⟨pos, rfl⟩ := trapRunRev_some chk o p rest _ hpos
      rw [v2sSpecRev_cons₂ chk o p rest pos hpos] at h
      obtain ⟨acc, hacc, hr⟩ := Except.map_eq_ok.1 h
      exact .inr ⟨o, p, rest, pos, acc, rfl, rfl, hacc, hr.symm⟩

theorem v2sSpec_short (chk : Bool) (run : List (Datum (Quantity F))) (r : Option (StateSpec F))
    (hlen : run.length < 2) (h : v2sSpec chk run = .ok r) : r = none := by
  rcases v2sSpecRev_ok chk _ r h with ⟨_, rfl⟩ | ⟨o, p, rest, _, _, hrr, _⟩
  · rfl
  · have := congrArg List.length hrr
    simp only [List.length_reverse, List.length_cons] at this; omega

theorem v2sSpec_long (chk : Bool) (run : List (Datum (Quantity F))) (r : Option (StateSpec F))
    (hlen : 2 ≤ run.length) (h : v2sSpec chk run = .ok r) : ∃ sp, r = some sp := by
  rcases v2sSpecRev_ok chk _ r h with ⟨hl, _⟩ | ⟨_, _, _, _, _, _, _, _, rfl⟩
  · rw [List.length_reverse] at hl; omega
  · exact ⟨_, rfl⟩

def V2sInv (chk : Bool) (s : Option (V2sU0 F)) : List (Datum (Quantity F)) → Prop
  | [] => s = none
  | [o] => s = some ⟨o.time, o.value, none⟩
  | o :: p :: rest => ∃ pos acc, trapRunRev chk (o :: p :: rest) = .ok (some pos) ∧ backdiffQ chk o p = .ok acc ∧
      s = some ⟨o.time, o.value, some ⟨acc, pos⟩⟩

theorem v2s_step_inv (chk : Bool) (s s' : Option (V2sU0 F)) (rr : List (Datum (Quantity F)))
    (d : Datum (Quantity F)) (r : UpdRet) (hinv : V2sInv chk s rr)
    (h : V2s.step chk s (.ok (some d)) = .ok (s', r)) : V2sInv chk s' (d :: rr) := by
  rw [v2s_step_eq_convStep] at h
  rcases (presentStep_ok h).2.2 with ⟨rfl, rfl⟩ | ⟨u0, u1, rfl, hu1, rfl⟩
  · match rr, hinv with
    | [], _ => rfl
    | [_], hinv => cases hinv
    | _ :: _ :: _, ⟨_, _, _, _, hs⟩ => cases hs
  match rr, hinv with
  | p :: rest, hinv =>
    -- the stored sample is `p`, the stored position the running sum up to `p`
    have hs : ∃ u1o, u0 = ⟨p.time, p.value, u1o⟩ ∧ trapRunRev chk (p :: rest) = .ok (u1o.map (·.pos)) := by
      match rest, hinv with
      | [], hinv => cases hinv; exact ⟨none, rfl, rfl⟩
      | _ :: _, ⟨pos, acc, hpos, _, hs⟩ => cases hs; exact ⟨some ⟨acc, pos⟩, rfl, hpos⟩
    obtain ⟨u1o, rfl, hrun⟩ := hs
    obtain ⟨acc, hacc, hu1⟩ := Except.bind_eq_ok.1 hu1
    obtain ⟨pos, hpos, hu⟩ := Except.map_eq_ok.1 hu1
    cases hu
    exact ⟨pos, acc, by rw [trapRunRev_cons₂, hrun]; simp only [Except.bind, hpos]; rfl, hacc, rfl⟩

/-- **VelocityToState = its specification** -/
theorem v2s_eq_spec (chk : Bool) (evs : List (Output (Quantity F))) (s : Option (V2sU0 F))
    (h : runE (V2s.step chk) V2s.init evs = .ok s) :
    ∃ r, v2sSpec chk (lastRunIgnoringAbsent evs) = .ok r ∧ V2s.get chk s = stateOut chk r := by
  have hinv := convStep_run_inv (v2s_step_eq_convStep chk) (V2sInv chk) rfl (v2s_step_inv chk) evs s h
  simp only [v2sSpec, lastRunIgnoringAbsent, List.reverse_reverse]
  match hrr : rrunIgn evs, hinv with
  | [], hinv => cases hinv; exact ⟨none, rfl, rfl⟩
  | [o], hinv => cases hinv; exact ⟨none, rfl, rfl⟩
  | o :: p :: rest, ⟨pos, acc, hpos, hacc, hs⟩ =>
    cases hs
    rw [v2sSpecRev_cons₂ chk o p rest pos hpos, hacc]
    exact ⟨_, rfl, rfl⟩

/-- **absent until two samples since the last error** -/
theorem v2s_absent_until (chk : Bool) (evs : List (Output (Quantity F))) (s : Option (V2sU0 F))
    (h : runE (V2s.step chk) V2s.init evs = .ok s) (hlen : (lastRunIgnoringAbsent evs).length < 2) :
    V2s.get chk s = .ok (.ok none) := by
  obtain ⟨r, hr, hg⟩ := v2s_eq_spec chk evs s h
  rw [hg, v2sSpec_short chk _ r hlen hr]; rfl

/-- a reported state, unfolded: two samples (newest first `o, p, …`), the running sum and the difference quotient -/
theorem v2s_get_some (chk : Bool) (evs : List (Output (Quantity F))) (s : Option (V2sU0 F))
    (h : runE (V2s.step chk) V2s.init evs = .ok s) (d : Datum (State F))
    (hg : V2s.get chk s = .ok (.ok (some d))) :
    ∃ o p rest pos acc, (lastRunIgnoringAbsent evs).reverse = o :: p :: rest ∧
      trapRunRev chk (o :: p :: rest) = .ok (some pos) ∧ backdiffQ chk o p = .ok acc ∧
      d = ⟨o.time, ⟨pos.value, o.value.value, acc.value⟩⟩ := by
  obtain ⟨r, hr, hg'⟩ := v2s_eq_spec chk evs s h
  obtain ⟨sp, rfl, rfl⟩ := stateOut_some chk r d (hg'.symm.trans hg)
  rcases v2sSpecRev_ok chk _ _ hr with ⟨_, h0⟩ | ⟨o, p, rest, pos, acc, hrr, hpos, hacc, hsp⟩
  · cases h0
  · cases hsp; exact ⟨o, p, rest, pos, acc, hrr, hrr ▸ hpos, hacc, rfl⟩

/-- the reported velocity is the newest sample -/
theorem v2s_vel_newest (chk : Bool) (evs : List (Output (Quantity F))) (s : Option (V2sU0 F))
    (h : runE (V2s.step chk) V2s.init evs = .ok s) (d : Datum (State F))
    (hg : V2s.get chk s = .ok (.ok (some d))) :
    ∃ dn, (lastRunIgnoringAbsent evs).getLast? = some dn ∧ d.value.velocity = dn.value.value ∧ d.time = dn.time := by
  obtain ⟨o, _, _, _, _, hrr, -, -, rfl⟩ := v2s_get_some chk evs s h d hg
  exact ⟨o, by rw [← List.head?_reverse, hrr]; rfl, rfl, rfl⟩

theorem v2s_time_newest (chk : Bool) (evs : List (Output (Quantity F))) (s : Option (V2sU0 F))
    (h : runE (V2s.step chk) V2s.init evs = .ok s) (d : Datum (State F))
    (hg : V2s.get chk s = .ok (.ok (some d))) :
    ∃ dn, (lastRunIgnoringAbsent evs).getLast? = some dn ∧ d.time = dn.time := by
  obtain ⟨dn, h1, -, h2⟩ := v2s_vel_newest chk evs s h d hg
  exact ⟨dn, h1, h2⟩

theorem v2s_update_ret (chk : Bool) (s s' : Option (V2sU0 F)) (e : Output (Quantity F)) (r : UpdRet)
    (h : V2s.step chk s e = .ok (s', r)) : r = updRetOf e :=
  convStep_update_ret (v2s_step_eq_convStep chk) h

theorem v2s_error_resets (chk : Bool) (s : Option (V2sU0 F)) (x : Err) :
    V2s.step chk s (.error x) = .ok (none, .error x) ∧ V2s.get chk (none : Option (V2sU0 F)) = .ok (.ok none) :=
  ⟨rfl, rfl⟩

/-! ### PositionToState -/
/-- NON-incremental specification (newest-first run `o, p, q, …`): absent for fewer than three samples; position =
newest sample, velocity = backward difference of the last two samples, acceleration = (that velocity − the previous
backward-difference velocity) / ofTime(o.time − p.time) -/
def p2sSpecRev (chk : Bool) : List (Datum (Quantity F)) → Except Panic (Option (StateSpec F))
  | [] => .ok none
  | [_] => .ok none
  | [_, _] => .ok none
  | o :: p :: q :: _ =>
    match backdiffQ chk p q with
    | .error e => .error e
    | .ok v0 =>
      match backdiffQ chk o p with
      | .error e => .error e
      | .ok v1 =>
        match Quantity.sub chk v1 v0 with
        | .error e => .error e
        | .ok dv => .ok (some ⟨o.time, o.value, v1, Quantity.div chk dv (Quantity.ofTime chk (o.time - p.time))⟩)

def p2sSpec (chk : Bool) (run : List (Datum (Quantity F))) : Except Panic (Option (StateSpec F)) :=
  p2sSpecRev chk run.reverse

theorem p2sSpecRev_cons₃ (chk : Bool) (o p q : Datum (Quantity F)) (rest : List (Datum (Quantity F)))
    (v0 v1 : Quantity F) (h0 : backdiffQ chk p q = .ok v0) (h1 : backdiffQ chk o p = .ok v1) :
    p2sSpecRev chk (o :: p :: q :: rest) =
      (diffQ chk (Quantity.ofTime chk (o.time - p.time)) v1 v0).map fun acc => some ⟨o.time, o.value, v1, acc⟩ := by
  simp only [p2sSpecRev, h0, h1, diffQ]
  cases Quantity.sub chk v1 v0 <;> rfl

/-- what a value of `p2sSpec` is: nothing on fewer than three samples; from three on (newest first `o, p, q, …`) the
two difference quotients and their difference quotient exist and the value is this one -/
theorem p2sSpecRev_ok (chk : Bool) (rr : List (Datum (Quantity F))) (r : Option (StateSpec F))
    (h : p2sSpecRev chk rr = .ok r) :
    (rr.length < 3 ∧ r = none) ∨
      ∃ o p q rest v0 v1 acc, rr = o :: p :: q :: rest ∧ backdiffQ chk p q = .ok v0 ∧ backdiffQ chk o p = .ok v1 ∧
        diffQ chk (Quantity.ofTime chk (o.time - p.time)) v1 v0 = .ok acc ∧ r = some ⟨o.time, o.value, v1, acc⟩ := by
  match rr, h with
  | [], h => cases h; exact .inl ⟨by simp, rfl⟩
  | [_], h => cases h; exact .inl ⟨by simp, rfl⟩
  | [_, _], h => cases h; exact .inl ⟨by simp, rfl⟩
  | o :: p :: q :: rest, h =>
    cases h0 : backdiffQ chk p q with
    | error e => rw [p2sSpecRev, h0] at h; cases h
    | ok v0 =>
      cases h1 : backdiffQ chk o p with
      | error e => rw [p2sSpecRev, h0, h1] at h; cases h
      | ok v1 =>
        rw [p2sSpecRev_cons₃ chk o p q rest v0 v1 h0 h1] at h
        obtain ⟨acc, hacc, hr⟩ := Except.map_eq_ok.1 h
        exact .inr ⟨o, p, q, rest, v0, v1, acc, rfl, h0, h1, hacc, hr.symm⟩

theorem p2sSpec_short (chk : Bool) (run : List (Datum (Quantity F))) (r : Option (StateSpec F))
    (hlen : run.length < 3) (h : p2sSpec chk run = .ok r) : r = none := by
  rcases p2sSpecRev_ok chk _ r h with ⟨_, rfl⟩ | ⟨o, p, q, rest, _, _, _, hrr, _⟩
  · rfl
  · have := congrArg List.length hrr
    simp only [List.length_reverse, List.length_cons] at this; omega

theorem p2sSpec_long (chk : Bool) (run : List (Datum (Quantity F))) (r : Option (StateSpec F))
    (hlen : 3 ≤ run.length) (h : p2sSpec chk run = .ok r) : ∃ sp, r = some sp := by
  rcases p2sSpecRev_ok chk _ r h with ⟨hl, _⟩ | ⟨_, _, _, _, _, _, _, _, _, _, _, rfl⟩
  · rw [List.length_reverse] at hl; omega
  · exact ⟨_, rfl⟩

def P2sInv (chk : Bool) (s : Option (P2sU0 F)) : List (Datum (Quantity F)) → Prop
  | [] => s = none
  | [o] => s = some ⟨o.time, o.value, none⟩
  | [o, p] => ∃ v1, backdiffQ chk o p = .ok v1 ∧ s = some ⟨o.time, o.value, some ⟨v1, none⟩⟩
  | o :: p :: q :: _ => ∃ v0 v1 acc, backdiffQ chk p q = .ok v0 ∧ backdiffQ chk o p = .ok v1 ∧
      diffQ chk (Quantity.ofTime chk (o.time - p.time)) v1 v0 = .ok acc ∧
      s = some ⟨o.time, o.value, some ⟨v1, some acc⟩⟩

theorem p2s_step_inv (chk : Bool) (s s' : Option (P2sU0 F)) (rr : List (Datum (Quantity F)))
    (d : Datum (Quantity F)) (r : UpdRet) (hinv : P2sInv chk s rr)
    (h : P2s.step chk s (.ok (some d)) = .ok (s', r)) : P2sInv chk s' (d :: rr) := by
  rw [p2s_step_eq_convStep] at h
  rcases (presentStep_ok h).2.2 with ⟨rfl, rfl⟩ | ⟨u0, u1, rfl, hu1, rfl⟩
  · match rr, hinv with
    | [], _ => rfl
    | [_], hinv => cases hinv
    | [_, _], ⟨_, _, hs⟩ => cases hs
    | _ :: _ :: _ :: _, ⟨_, _, _, _, _, _, hs⟩ => cases hs
  obtain ⟨v1, hv1, hu1⟩ := Except.bind_eq_ok.1 hu1
  match rr, hinv with
  | [p], hinv => cases hinv; cases hu1; exact ⟨v1, hv1, rfl⟩
  | p :: q :: rest, hinv =>
    -- the stored sample is `p`, the stored velocity the difference quotient of `(q, p)`
    have hs : ∃ v0 a0, backdiffQ chk p q = .ok v0 ∧ u0 = ⟨p.time, p.value, some ⟨v0, a0⟩⟩ := by
      match rest, hinv with
      | [], ⟨v0, hv0, hs⟩ => cases hs; exact ⟨v0, none, hv0, rfl⟩
      | _ :: _, ⟨_, v0, acc, _, hv0, _, hs⟩ => cases hs; exact ⟨v0, some acc, hv0, rfl⟩
    obtain ⟨v0, a0, hv0, rfl⟩ := hs
    obtain ⟨acc, hacc, hu⟩ := Except.map_eq_ok.1 hu1
    cases hu
    exact ⟨v0, v1, acc, hv0, hv1, hacc, rfl⟩

/-- **PositionToState = its specification** -/
theorem p2s_eq_spec (chk : Bool) (evs : List (Output (Quantity F))) (s : Option (P2sU0 F))
    (h : runE (P2s.step chk) P2s.init evs = .ok s) :
    ∃ r, p2sSpec chk (lastRunIgnoringAbsent evs) = .ok r ∧ P2s.get chk s = stateOut chk r := by
  have hinv := convStep_run_inv (p2s_step_eq_convStep chk) (P2sInv chk) rfl (p2s_step_inv chk) evs s h
  simp only [p2sSpec, lastRunIgnoringAbsent, List.reverse_reverse]
  match hrr : rrunIgn evs, hinv with
  | [], hinv => cases hinv; exact ⟨none, rfl, rfl⟩
  | [o], hinv => cases hinv; exact ⟨none, rfl, rfl⟩
  | [o, p], ⟨v1, _, hs⟩ => cases hs; exact ⟨none, rfl, rfl⟩
  | o :: p :: q :: rest, ⟨v0, v1, acc, hv0, hv1, hacc, hs⟩ =>
    cases hs
    rw [p2sSpecRev_cons₃ chk o p q rest v0 v1 hv0 hv1, hacc]
    exact ⟨_, rfl, rfl⟩

/-- **absent until three samples since the last error** -/
theorem p2s_absent_until (chk : Bool) (evs : List (Output (Quantity F))) (s : Option (P2sU0 F))
    (h : runE (P2s.step chk) P2s.init evs = .ok s) (hlen : (lastRunIgnoringAbsent evs).length < 3) :
    P2s.get chk s = .ok (.ok none) := by
  obtain ⟨r, hr, hg⟩ := p2s_eq_spec chk evs s h
  rw [hg, p2sSpec_short chk _ r hlen hr]; rfl

/-- a reported state, unfolded: three samples (newest first `o, p, q, …`), the two difference quotients and theirs -/
theorem p2s_get_some (chk : Bool) (evs : List (Output (Quantity F))) (s : Option (P2sU0 F))
    (h : runE (P2s.step chk) P2s.init evs = .ok s) (d : Datum (State F))
    (hg : P2s.get chk s = .ok (.ok (some d))) :
    ∃ o p q rest v0 v1 acc, (lastRunIgnoringAbsent evs).reverse = o :: p :: q :: rest ∧
      backdiffQ chk p q = .ok v0 ∧ backdiffQ chk o p = .ok v1 ∧
      diffQ chk (Quantity.ofTime chk (o.time - p.time)) v1 v0 = .ok acc ∧
      d = ⟨o.time, ⟨o.value.value, v1.value, acc.value⟩⟩ := by
  obtain ⟨r, hr, hg'⟩ := p2s_eq_spec chk evs s h
  obtain ⟨sp, rfl, rfl⟩ := stateOut_some chk r d (hg'.symm.trans hg)
  rcases p2sSpecRev_ok chk _ _ hr with ⟨_, h0⟩ | ⟨o, p, q, rest, v0, v1, acc, hrr, hv0, hv1, hacc, hsp⟩
  · cases h0
  · cases hsp; exact ⟨o, p, q, rest, v0, v1, acc, hrr, hv0, hv1, hacc, rfl⟩

/-- the reported position is the newest sample -/
theorem p2s_pos_newest (chk : Bool) (evs : List (Output (Quantity F))) (s : Option (P2sU0 F))
    (h : runE (P2s.step chk) P2s.init evs = .ok s) (d : Datum (State F))
    (hg : P2s.get chk s = .ok (.ok (some d))) :
    ∃ dn, (lastRunIgnoringAbsent evs).getLast? = some dn ∧ d.value.position = dn.value.value ∧ d.time = dn.time := by
  obtain ⟨o, _, _, _, _, _, _, hrr, -, -, -, rfl⟩ := p2s_get_some chk evs s h d hg
  exact ⟨o, by rw [← List.head?_reverse, hrr]; rfl, rfl, rfl⟩

theorem p2s_time_newest (chk : Bool) (evs : List (Output (Quantity F))) (s : Option (P2sU0 F))
    (h : runE (P2s.step chk) P2s.init evs = .ok s) (d : Datum (State F))
    (hg : P2s.get chk s = .ok (.ok (some d))) :
    ∃ dn, (lastRunIgnoringAbsent evs).getLast? = some dn ∧ d.time = dn.time := by
  obtain ⟨dn, h1, -, h2⟩ := p2s_pos_newest chk evs s h d hg
  exact ⟨dn, h1, h2⟩

theorem p2s_update_ret (chk : Bool) (s s' : Option (P2sU0 F)) (e : Output (Quantity F)) (r : UpdRet)
    (h : P2s.step chk s e = .ok (s', r)) : r = updRetOf e :=
  convStep_update_ret (p2s_step_eq_convStep chk) h

theorem p2s_error_resets (chk : Bool) (s : Option (P2sU0 F)) (x : Err) :
    P2s.step chk s (.error x) = .ok (none, .error x) ∧ P2s.get chk (none : Option (P2sU0 F)) = .ok (.ok none) :=
  ⟨rfl, rfl⟩

/-- right after an error event the converters report absent (they do not cache the error) -/
theorem a2s_get_after_error (chk : Bool) (l : List (Output (Quantity F))) (x : Err) (s : Option (A2sU0 F))
    (h : runE (A2s.step chk) A2s.init (l ++ [.error x]) = .ok s) : A2s.get chk s = .ok (.ok none) :=
  a2s_absent_until chk _ s h (by rw [lastRunIgnoringAbsent_snoc]; simp)
theorem v2s_get_after_error (chk : Bool) (l : List (Output (Quantity F))) (x : Err) (s : Option (V2sU0 F))
    (h : runE (V2s.step chk) V2s.init (l ++ [.error x]) = .ok s) : V2s.get chk s = .ok (.ok none) :=
  v2s_absent_until chk _ s h (by rw [lastRunIgnoringAbsent_snoc]; simp)
theorem p2s_get_after_error (chk : Bool) (l : List (Output (Quantity F))) (x : Err) (s : Option (P2sU0 F))
    (h : runE (P2s.step chk) P2s.init (l ++ [.error x]) = .ok s) : P2s.get chk s = .ok (.ok none) :=
  p2s_absent_until chk _ s h (by rw [lastRunIgnoringAbsent_snoc]; simp)

/-! ### wrongly dimensioned input panics; correctly dimensioned input never does -/

/-- **wrong unit ⇒ panic**, from any state (checking on) -/
theorem a2s_wrong_unit_panics (s : Option (A2sU0 F)) (d : Datum (Quantity F)) (h : d.value.unit ≠ ⟨1, -2⟩) :
    A2s.step true s (.ok (some d)) = .error .dim := by
  simp only [a2s_step_eq_convStep, convStep, presentStep, DUnit.assertEqAssumeOk_true, MILLIMETER_PER_SECOND_SQUARED,
    DUnit.new_true, if_neg h]
theorem v2s_wrong_unit_panics (s : Option (V2sU0 F)) (d : Datum (Quantity F)) (h : d.value.unit ≠ ⟨1, -1⟩) :
    V2s.step true s (.ok (some d)) = .error .dim := by
  simp only [v2s_step_eq_convStep, convStep, presentStep, DUnit.assertEqAssumeOk_true, MILLIMETER_PER_SECOND,
    DUnit.new_true, if_neg h]
theorem p2s_wrong_unit_panics (s : Option (P2sU0 F)) (d : Datum (Quantity F)) (h : d.value.unit ≠ ⟨1, 0⟩) :
    P2s.step true s (.ok (some d)) = .error .dim := by
  simp only [p2s_step_eq_convStep, convStep, presentStep, DUnit.assertEqAssumeOk_true, MILLIMETER, DUnit.new_true,
    if_neg h]

theorem qHalfTimes_unit (m k : Int) (a b : Quantity F) (t : Int) (ha : a.unit = ⟨m, k⟩) (hb : b.unit = ⟨m, k⟩) :
    ∃ q, qHalfTimes true a b (Quantity.ofTime true t) = .ok q ∧ q.unit = ⟨m, k + 1⟩ := by
  simp only [qHalfTimes, Quantity.add_true, ha, hb, if_true]
  refine ⟨_, rfl, ?_⟩
  rw [Quantity.mul_unit, Quantity.div_unit, Quantity.ofTime_unit, Quantity.dimensionless_unit, DUnit.div_true,
    DUnit.mul_true, Int.sub_zero, Int.sub_zero, Int.add_zero]

theorem accum_unit (m k : Int) (a b : Quantity F) (old : Option (Quantity F)) (t : Int) (ha : a.unit = ⟨m, k⟩)
    (hb : b.unit = ⟨m, k⟩) (hold : ∀ x, old = some x → x.unit = ⟨m, k + 1⟩) :
    ∃ q, accum true (Quantity.ofTime true t) old a b = .ok q ∧ q.unit = ⟨m, k + 1⟩ := by
  obtain ⟨h, hh, hu⟩ := qHalfTimes_unit m k a b t ha hb
  simp only [accum, hh, Except.bind]
  cases old with
  | none => exact ⟨h, rfl, hu⟩
  | some x =>
    simp only [Quantity.add_true, hold x rfl, hu, if_true]
    exact ⟨_, rfl, rfl⟩

/-- one event: if it is a present sample, its unit is `u` (a history is good if every event is, `∀ e ∈ evs, GoodUnit u e`) -/
def GoodUnit (u : DUnit) (e : Output (Quantity F)) : Prop := ∀ d, e = .ok (some d) → d.value.unit = u

/-- what is stored has the units the next step's assertions ask for (checking on) -/
def A2sUnits (s : Option (A2sU0 F)) : Prop :=
  ∀ u0, s = some u0 → u0.acc.unit = ⟨1, -2⟩ ∧
    ∀ u1, u0.u1 = some u1 → u1.vel.unit = ⟨1, -1⟩ ∧ ∀ x, u1.pos = some x → x.unit = ⟨1, 0⟩

theorem a2sNum_units (t : Int) (acc0 v : Quantity F) (u1 : Option (A2sU1 F)) (hacc : acc0.unit = ⟨1, -2⟩)
    (hv : v.unit = ⟨1, -2⟩) (hu1 : ∀ u, u1 = some u → u.vel.unit = ⟨1, -1⟩ ∧ ∀ x, u.pos = some x → x.unit = ⟨1, 0⟩) :
    ∃ u', a2sNum true (Quantity.ofTime true t) acc0 u1 v = .ok u' ∧ u'.vel.unit = ⟨1, -1⟩ ∧
      ∀ x, u'.pos = some x → x.unit = ⟨1, 0⟩ := by
  obtain ⟨nv, hnv, hnvu⟩ := accum_unit 1 (-2) acc0 v (u1.map (·.vel)) t hacc hv (by
    intro x hx
    cases u1 with
    | none => cases hx
    | some u => cases hx; exact (hu1 u rfl).1)
  have hnvu' : nv.unit = ⟨1, -1⟩ := hnvu
  simp only [a2sNum, hnv, Except.bind]
  cases u1 with
  | none => exact ⟨_, rfl, hnvu', by intro x h; cases h⟩
  | some u =>
    obtain ⟨np, hnp, hnpu⟩ := accum_unit 1 (-1) u.vel nv u.pos t (hu1 u rfl).1 hnvu' (hu1 u rfl).2
    simp only [hnp]
    exact ⟨_, rfl, hnvu', by intro x h; cases h; exact hnpu⟩

theorem a2s_get_units (s : Option (A2sU0 F)) (hinv : A2sUnits s) : ∃ o, A2s.get true s = .ok o := by
  match s, hinv with
  | none, _ => exact ⟨_, rfl⟩
  | some ⟨t0, acc, none⟩, _ => exact ⟨_, rfl⟩
  | some ⟨t0, acc, some ⟨vel, none⟩⟩, _ => exact ⟨_, rfl⟩
  | some ⟨t0, acc, some ⟨vel, some pos⟩⟩, hinv =>
    obtain ⟨hacc, hu1⟩ := hinv _ rfl
    obtain ⟨hvel, hpos⟩ := hu1 _ rfl
    simp only [A2s.get, State.new_true, if_pos (And.intro (hpos _ rfl) (And.intro hvel hacc))]
    exact ⟨_, rfl⟩

/-- **correctly dimensioned input never panics** (checking on): neither `update` nor `get`, after any history whose
present samples are all in mm/s²; all intermediate unit arithmetic is consistent -/
theorem a2s_right_unit_never_panics (evs : List (Output (Quantity F))) (hu : ∀ e ∈ evs, GoodUnit ⟨1, -2⟩ e) :
    ∃ s, runE (A2s.step true) A2s.init evs = .ok s ∧ A2sUnits s ∧ ∃ o, A2s.get true s = .ok o := by
  refine convStep_never_panics (a2s_step_eq_convStep true) _ (fun d => d.value.unit = ⟨1, -2⟩) _ ?_ ?_ ?_ a2s_get_units
    evs hu
  · intro d hd; rw [DUnit.assertEqAssumeOk_true, hd]; rfl
  · intro d hd; exact ⟨hd, by intro u1 h; cases h⟩
  · intro d u0 hd ⟨hacc, hu1⟩
    obtain ⟨u', hu', hvel, hpos⟩ := a2sNum_units (d.time - u0.time) u0.acc d.value u0.u1 hacc hd hu1
    exact ⟨u', hu', hd, by intro u1 h; cases h; exact ⟨hvel, hpos⟩⟩

def V2sUnits (s : Option (V2sU0 F)) : Prop :=
  ∀ u0, s = some u0 → u0.vel.unit = ⟨1, -1⟩ ∧
    ∀ u1, u0.u1 = some u1 → u1.acc.unit = ⟨1, -2⟩ ∧ u1.pos.unit = ⟨1, 0⟩

theorem v2sNum_units (t : Int) (vel0 v : Quantity F) (u1 : Option (V2sU1 F)) (hvel : vel0.unit = ⟨1, -1⟩)
    (hv : v.unit = ⟨1, -1⟩) (hu1 : ∀ u, u1 = some u → u.pos.unit = ⟨1, 0⟩) :
    ∃ u', v2sNum true (Quantity.ofTime true t) vel0 u1 v = .ok u' ∧ u'.acc.unit = ⟨1, -2⟩ ∧ u'.pos.unit = ⟨1, 0⟩ := by
  obtain ⟨acc, hacc, haccu⟩ := diffQ_unit 1 (-1) v vel0 t hv hvel
  obtain ⟨pos, hpos, hposu⟩ := accum_unit 1 (-1) vel0 v (u1.map (·.pos)) t hvel hv (by
    intro x hx
    cases u1 with
    | none => cases hx
    | some u => cases hx; exact hu1 u rfl)
  simp only [v2sNum, hacc, hpos, Except.bind]
  exact ⟨_, rfl, haccu, hposu⟩

theorem v2s_get_units (s : Option (V2sU0 F)) (hinv : V2sUnits s) : ∃ o, V2s.get true s = .ok o := by
  match s, hinv with
  | none, _ => exact ⟨_, rfl⟩
  | some ⟨t0, vel, none⟩, _ => exact ⟨_, rfl⟩
  | some ⟨t0, vel, some ⟨acc, pos⟩⟩, hinv =>
    obtain ⟨hvel, hu1⟩ := hinv _ rfl
    obtain ⟨hacc, hpos⟩ := hu1 _ rfl
    simp only [V2s.get, State.new_true, if_pos (And.intro hpos (And.intro hvel hacc))]
    exact ⟨_, rfl⟩

theorem v2s_right_unit_never_panics (evs : List (Output (Quantity F))) (hu : ∀ e ∈ evs, GoodUnit ⟨1, -1⟩ e) :
    ∃ s, runE (V2s.step true) V2s.init evs = .ok s ∧ V2sUnits s ∧ ∃ o, V2s.get true s = .ok o := by
  refine convStep_never_panics (v2s_step_eq_convStep true) _ (fun d => d.value.unit = ⟨1, -1⟩) _ ?_ ?_ ?_ v2s_get_units
    evs hu
  · intro d hd; rw [DUnit.assertEqAssumeOk_true, hd]; rfl
  · intro d hd; exact ⟨hd, by intro u1 h; cases h⟩
  · intro d u0 hd ⟨hvel, hu1⟩
    obtain ⟨u', hu', hacc, hpos⟩ := v2sNum_units (d.time - u0.time) u0.vel d.value u0.u1 hvel hd
      (fun u hu => (hu1 u hu).2)
    exact ⟨u', hu', hd, by intro u1 h; cases h; exact ⟨hacc, hpos⟩⟩

def P2sUnits (s : Option (P2sU0 F)) : Prop :=
  ∀ u0, s = some u0 → u0.pos.unit = ⟨1, 0⟩ ∧
    ∀ u1, u0.u1 = some u1 → u1.vel.unit = ⟨1, -1⟩ ∧ ∀ x, u1.acc = some x → x.unit = ⟨1, -2⟩

theorem p2sNum_units (t : Int) (pos0 v : Quantity F) (u1 : Option (P2sU1 F)) (hpos : pos0.unit = ⟨1, 0⟩)
    (hv : v.unit = ⟨1, 0⟩) (hu1 : ∀ u, u1 = some u → u.vel.unit = ⟨1, -1⟩) :
    ∃ u', p2sNum true (Quantity.ofTime true t) pos0 u1 v = .ok u' ∧ u'.vel.unit = ⟨1, -1⟩ ∧
      ∀ x, u'.acc = some x → x.unit = ⟨1, -2⟩ := by
  obtain ⟨v1, hv1, hv1u⟩ := diffQ_unit 1 0 v pos0 t hv hpos
  have hv1u' : v1.unit = ⟨1, -1⟩ := hv1u
  simp only [p2sNum, hv1, Except.bind]
  cases u1 with
  | none => exact ⟨_, rfl, hv1u', by intro x h; cases h⟩
  | some u =>
    obtain ⟨a, ha, hau⟩ := diffQ_unit 1 (-1) v1 u.vel t hv1u' (hu1 u rfl)
    simp only [ha]
    exact ⟨_, rfl, hv1u', by intro x h; cases h; exact hau⟩

theorem p2s_get_units (s : Option (P2sU0 F)) (hinv : P2sUnits s) : ∃ o, P2s.get true s = .ok o := by
  match s, hinv with
  | none, _ => exact ⟨_, rfl⟩
  | some ⟨t0, pos, none⟩, _ => exact ⟨_, rfl⟩
  | some ⟨t0, pos, some ⟨vel, none⟩⟩, _ => exact ⟨_, rfl⟩
  | some ⟨t0, pos, some ⟨vel, some acc⟩⟩, hinv =>
    obtain ⟨hpos, hu1⟩ := hinv _ rfl
    obtain ⟨hvel, hacc⟩ := hu1 _ rfl
    simp only [P2s.get, State.new_true, if_pos (And.intro hpos (And.intro hvel (hacc _ rfl)))]
    exact ⟨_, rfl⟩

theorem p2s_right_unit_never_panics (evs : List (Output (Quantity F))) (hu : ∀ e ∈ evs, GoodUnit ⟨1, 0⟩ e) :
    ∃ s, runE (P2s.step true) P2s.init evs = .ok s ∧ P2sUnits s ∧ ∃ o, P2s.get true s = .ok o := by
  refine convStep_never_panics (p2s_step_eq_convStep true) _ (fun d => d.value.unit = ⟨1, 0⟩) _ ?_ ?_ ?_ p2s_get_units
    evs hu
  · intro d hd; rw [DUnit.assertEqAssumeOk_true, hd]; rfl
  · intro d hd; exact ⟨hd, by intro u1 h; cases h⟩
  · intro d u0 hd ⟨hpos, hu1⟩
    obtain ⟨u', hu', hvel, hacc⟩ := p2sNum_units (d.time - u0.time) u0.pos d.value u0.u1 hpos hd
      (fun u hu => (hu1 u hu).1)
    exact ⟨u', hu', hd, by intro u1 h; cases h; exact ⟨hvel, hacc⟩⟩

/-! ## invariance under a constant shift of all timestamps (tier S: `dt` is formed in `Int`) -/

def shiftDatum {α : Type} (c : Int) (d : Datum α) : Datum α := ⟨d.time + c, d.value⟩
def shiftOut {α : Type} (c : Int) : Output α → Output α
  | .ok (some d) => .ok (some (shiftDatum c d))
  | .ok none => .ok none
  | .error e => .error e
def shiftHist {α : Type} (c : Int) (evs : List (Output α)) : List (Output α) := evs.map (shiftOut c)
def shiftDiS (c : Int) (s : DiS F) : DiS F := ⟨shiftOut c s.value, s.prev.map (shiftDatum c)⟩

/-- the numbers of a step see the timestamps only through their difference -/
theorem trapStep_shift (chk : Bool) (c : Int) (p o : Datum (Quantity F)) (acc : Option (Quantity F)) :
    trapStep chk (shiftDatum c p) (shiftDatum c o) acc = trapStep chk p o acc := by
  simp only [trapStep, trapAddend, shiftDatum, Int.add_sub_add_right]

theorem backdiffQ_shift (chk : Bool) (c : Int) (o p : Datum (Quantity F)) :
    backdiffQ chk (shiftDatum c o) (shiftDatum c p) = backdiffQ chk o p := by
  simp only [backdiffQ, shiftDatum, Int.add_sub_add_right]

theorem diAcc_shift (c : Int) (s : DiS F) : diAcc (shiftDiS c s) = diAcc s := by
  unfold diAcc shiftDiS
  rcases s.value with _ | _ | real <;> rfl

theorem integral_step_shift (chk : Bool) (c : Int) (s : DiS F) (e : Output (Quantity F)) :
    Integral.step chk (shiftDiS c s) (shiftOut c e) =
      (Integral.step chk s e).map (fun r => (shiftDiS c r.1, r.2)) := by
  match e with
  | .error x => rfl
  | .ok none => rfl
  | .ok (some d) =>
    rw [shiftOut, integral_step_present, integral_step_present, diAcc_shift]
    exact presentStep_comm (shiftDatum c) (shiftDiS c) rfl (fun p => trapStep_shift chk c p d _) (fun _ => rfl)

theorem derivative_step_shift (chk : Bool) (c : Int) (s : DiS F) (e : Output (Quantity F)) :
    Derivative.step chk (shiftDiS c s) (shiftOut c e) =
      (Derivative.step chk s e).map (fun r => (shiftDiS c r.1, r.2)) := by
  match e with
  | .error x => rfl
  | .ok none => rfl
  | .ok (some d) =>
    rw [shiftOut, derivative_step_present, derivative_step_present]
    exact presentStep_comm (shiftDatum c) (shiftDiS c) rfl (fun p => backdiffQ_shift chk c d p) (fun _ => rfl)

/-- **Shift invariance, integral.**  Shifting every timestamp of a history by `c` gives the same run with all
stored times shifted by `c` (values bit-identical), including the same panics. -/
theorem integral_shift_invariant (chk : Bool) (c : Int) (evs : List (Output (Quantity F))) :
    runE (Integral.step chk) Integral.init (shiftHist c evs) =
      (runE (Integral.step chk) Integral.init evs).map (shiftDiS c) :=
  runE_map (Integral.step chk) (shiftDiS c) (shiftOut c) (integral_step_shift (F := F) chk c) Integral.init evs

theorem derivative_shift_invariant (chk : Bool) (c : Int) (evs : List (Output (Quantity F))) :
    runE (Derivative.step chk) Derivative.init (shiftHist c evs) =
      (runE (Derivative.step chk) Derivative.init evs).map (shiftDiS c) :=
  runE_map (Derivative.step chk) (shiftDiS c) (shiftOut c) (derivative_step_shift (F := F) chk c) Derivative.init evs

theorem integral_get_shift (c : Int) (s : DiS F) : Integral.get (shiftDiS c s) = shiftOut c (Integral.get s) := rfl
theorem derivative_get_shift (c : Int) (s : DiS F) :
    Derivative.get (shiftDiS c s) = shiftOut c (Derivative.get s) := rfl

/-- hence: the observable output after a shifted history is the shifted output -/
theorem integral_output_shift (chk : Bool) (c : Int) (evs : List (Output (Quantity F))) :
    (runE (Integral.step chk) Integral.init (shiftHist c evs)).map Integral.get =
      (runE (Integral.step chk) Integral.init evs).map (fun s => shiftOut c (Integral.get s)) := by
  rw [integral_shift_invariant]
  cases runE (Integral.step chk) Integral.init evs <;> rfl
theorem derivative_output_shift (chk : Bool) (c : Int) (evs : List (Output (Quantity F))) :
    (runE (Derivative.step chk) Derivative.init (shiftHist c evs)).map Derivative.get =
      (runE (Derivative.step chk) Derivative.init evs).map (fun s => shiftOut c (Derivative.get s)) := by
  rw [derivative_shift_invariant]
  cases runE (Derivative.step chk) Derivative.init evs <;> rfl

def shiftA2s (c : Int) (s : Option (A2sU0 F)) : Option (A2sU0 F) :=
  s.map (fun u0 => ⟨u0.time + c, u0.acc, u0.u1⟩)
def shiftV2s (c : Int) (s : Option (V2sU0 F)) : Option (V2sU0 F) :=
  s.map (fun u0 => ⟨u0.time + c, u0.vel, u0.u1⟩)
def shiftP2s (c : Int) (s : Option (P2sU0 F)) : Option (P2sU0 F) :=
  s.map (fun u0 => ⟨u0.time + c, u0.pos, u0.u1⟩)

/-- a shift of all timestamps that the assertion and the numbers do not see, with the matching change `k` of what is
stored, goes through every step and so through the run: same values, same panics -/
theorem convStep_shift_invariant {α U N : Type} {assert : Datum α → Except Panic Unit} {first : Datum α → U}
    {num : Datum α → U → Except Panic N} {next : Datum α → N → U}
    {step : Option U → Output α → Except Panic (Option U × UpdRet)} (hc : step = convStep assert first num next)
    (c : Int) (k : U → U) (hassert : ∀ d, assert (shiftDatum c d) = assert d)
    (hfirst : ∀ d, first (shiftDatum c d) = k (first d)) (hnum : ∀ d u, num (shiftDatum c d) (k u) = num d u)
    (hnext : ∀ d n, next (shiftDatum c d) n = k (next d n)) (evs : List (Output α)) :
    runE step none (shiftHist c evs) = (runE step none evs).map (Option.map k) := by
  refine runE_map step (Option.map k) (shiftOut c) (fun s e => ?_) none evs
  subst hc
  match e with
  | .error x => rfl
  | .ok none => rfl
  | .ok (some d) =>
    simp only [shiftOut, convStep, hassert]
    exact presentStep_comm k (Option.map k) (by rw [hfirst]; rfl) (hnum d) (fun n => by rw [hnext]; rfl)

/-- **Shift invariance, converters**: same values, same panics, stored time shifted -/
theorem a2s_shift_invariant (chk : Bool) (c : Int) (evs : List (Output (Quantity F))) :
    runE (A2s.step chk) A2s.init (shiftHist c evs) = (runE (A2s.step chk) A2s.init evs).map (shiftA2s c) :=
  convStep_shift_invariant (a2s_step_eq_convStep chk) c _ (fun _ => rfl) (fun _ => rfl)
    (fun d u0 => by simp only [shiftDatum, Int.add_sub_add_right]) (fun _ _ => rfl) evs
theorem v2s_shift_invariant (chk : Bool) (c : Int) (evs : List (Output (Quantity F))) :
    runE (V2s.step chk) V2s.init (shiftHist c evs) = (runE (V2s.step chk) V2s.init evs).map (shiftV2s c) :=
  convStep_shift_invariant (v2s_step_eq_convStep chk) c _ (fun _ => rfl) (fun _ => rfl)
    (fun d u0 => by simp only [shiftDatum, Int.add_sub_add_right]) (fun _ _ => rfl) evs
theorem p2s_shift_invariant (chk : Bool) (c : Int) (evs : List (Output (Quantity F))) :
    runE (P2s.step chk) P2s.init (shiftHist c evs) = (runE (P2s.step chk) P2s.init evs).map (shiftP2s c) :=
  convStep_shift_invariant (p2s_step_eq_convStep chk) c _ (fun _ => rfl) (fun _ => rfl)
    (fun d u0 => by simp only [shiftDatum, Int.add_sub_add_right]) (fun _ _ => rfl) evs

/-- `get` commutes with the shift: the reported state is identical, its time is shifted -/
theorem a2s_get_shift (chk : Bool) (c : Int) (s : Option (A2sU0 F)) :
    A2s.get chk (shiftA2s c s) = (A2s.get chk s).map (shiftOut c) := by
  match s with
  | none => rfl
  | some ⟨t0, acc, none⟩ => rfl
  | some ⟨t0, acc, some ⟨vel, none⟩⟩ => rfl
  | some ⟨t0, acc, some ⟨vel, some pos⟩⟩ =>
    simp only [A2s.get, shiftA2s, Option.map]
    cases State.new chk pos vel acc <;> rfl
theorem v2s_get_shift (chk : Bool) (c : Int) (s : Option (V2sU0 F)) :
    V2s.get chk (shiftV2s c s) = (V2s.get chk s).map (shiftOut c) := by
  match s with
  | none => rfl
  | some ⟨t0, vel, none⟩ => rfl
  | some ⟨t0, vel, some ⟨acc, pos⟩⟩ =>
    simp only [V2s.get, shiftV2s, Option.map]
    cases State.new chk pos vel acc <;> rfl
theorem p2s_get_shift (chk : Bool) (c : Int) (s : Option (P2sU0 F)) :
    P2s.get chk (shiftP2s c s) = (P2s.get chk s).map (shiftOut c) := by
  match s with
  | none => rfl
  | some ⟨t0, pos, none⟩ => rfl
  | some ⟨t0, pos, some ⟨vel, none⟩⟩ => rfl
  | some ⟨t0, pos, some ⟨vel, some acc⟩⟩ =>
    simp only [P2s.get, shiftP2s, Option.map]
    cases State.new chk pos vel acc <;> rfl

/-! ### the bookkeeping of a step does not depend on the VALUE of the trapezoid

Seeded defect `C10_r10m1`: an early return on a zero-area trapezoid skipped the restamp and kept the older sample.  No law on the
scalar is used, so whatever the addend is — zero, negative zero, NaN — a successful step on a present sample with a stored
predecessor restamps the output with the new sample's time, makes it present, and stores the new sample as the predecessor of
the next trapezoid. -/
/-- every successful integral step on a present sample stores THAT sample as the next trapezoid's left edge -/
theorem integral_step_stores_sample (chk : Bool) (s s' : DiS F) (o : Datum (Quantity F)) (r : UpdRet)
    (h : Integral.step chk s (.ok (some o)) = .ok (s', r)) : s'.prev = some o ∧ r = .ok () := by
  rw [integral_step_present] at h
  obtain ⟨-, hr, hs⟩ := presentStep_ok h
  refine ⟨?_, hr⟩
  rcases hs with ⟨-, hs⟩ | ⟨_, _, -, -, hs⟩ <;> cases hs <;> rfl

/-- … and, when a predecessor was stored, the output is present and carries the NEW sample's time, whatever the trapezoid's area -/
theorem integral_step_restamps (chk : Bool) (s s' : DiS F) (p o : Datum (Quantity F)) (r : UpdRet) (hp : s.prev = some p)
    (h : Integral.step chk s (.ok (some o)) = .ok (s', r)) : ∃ v, s'.value = .ok (some ⟨o.time, v⟩) := by
  rw [integral_step_present, hp] at h
  rcases (presentStep_ok h).2.2 with ⟨hn, -⟩ | ⟨_, v, -, -, hs⟩
  · cases hn
  · cases hs; exact ⟨v, rfl⟩

/-- the derivative stream likewise: a zero difference (a signal at rest) is a sample like any other -/
theorem derivative_step_stores_sample (chk : Bool) (s s' : DiS F) (o : Datum (Quantity F)) (r : UpdRet)
    (h : Derivative.step chk s (.ok (some o)) = .ok (s', r)) : s'.prev = some o ∧ r = .ok () := by
  rw [derivative_step_present] at h
  obtain ⟨-, hr, hs⟩ := presentStep_ok h
  refine ⟨?_, hr⟩
  rcases hs with ⟨-, hs⟩ | ⟨_, _, -, -, hs⟩ <;> cases hs <;> rfl

theorem derivative_step_restamps (chk : Bool) (s s' : DiS F) (p o : Datum (Quantity F)) (r : UpdRet) (hp : s.prev = some p)
    (h : Derivative.step chk s (.ok (some o)) = .ok (s', r)) : ∃ v, s'.value = .ok (some ⟨o.time, v⟩) := by
  rw [derivative_step_present, hp] at h
  rcases (presentStep_ok h).2.2 with ⟨hn, -⟩ | ⟨_, v, -, -, hs⟩
  · cases hn
  · cases hs; exact ⟨v, rfl⟩

end S

/-! ## tier R: in exact arithmetic every trapezoid sum of this file is the area under the run; sanity corollaries -/
section R
variable {F : Type} [Field F] [LinearOrder F] [IsStrictOrderedRing F] [FloatLike F] [ExactScalar F]

/-- the trapezoidal area under a run given newest-first, in seconds — no units, no panics, no order of operations -/
def trapArea : List (Datum (Quantity F)) → F
  | o :: p :: rest => trapArea (p :: rest) + (sec o.time - sec p.time) * (p.value.value + o.value.value) / 2
  | _ => 0

/-- the run of areas along a run (newest first): one datum per sample from the second on -/
def velRun : List (Datum (Quantity F)) → List (Datum (Quantity F))
  | o :: p :: rest => ⟨o.time, ⟨trapArea (o :: p :: rest), o.value.unit⟩⟩ :: velRun (p :: rest)
  | _ => []

theorem trapArea_cons₂ (o p : Datum (Quantity F)) (rest : List (Datum (Quantity F))) : trapArea (o :: p :: rest) =
    trapArea (p :: rest) + (sec o.time - sec p.time) * (p.value.value + o.value.value) / 2 := rfl
theorem velRun_cons₂ (o p : Datum (Quantity F)) (rest : List (Datum (Quantity F))) : velRun (o :: p :: rest) =
    ⟨o.time, ⟨trapArea (o :: p :: rest), o.value.unit⟩⟩ :: velRun (p :: rest) := rfl

/-- the area under the run of areas grows by the trapezoid under the two newest areas -/
theorem trapArea_velRun_cons₃ (o p q : Datum (Quantity F)) (rest : List (Datum (Quantity F))) :
    trapArea (velRun (o :: p :: q :: rest)) = trapArea (velRun (p :: q :: rest)) +
      (sec o.time - sec p.time) * (trapArea (p :: q :: rest) + trapArea (o :: p :: q :: rest)) / 2 := rfl

theorem trapArea_cons_of_head? (x y : Datum (Quantity F)) (l : List (Datum (Quantity F))) (h : l.head? = some y) :
    trapArea (x :: l) = trapArea l + (sec x.time - sec y.time) * (y.value.value + x.value.value) / 2 := by
  cases l with
  | nil => cases h
  | cons y' l' => cases h; rfl

theorem velRun_head? (o : Datum (Quantity F)) (m : List (Datum (Quantity F))) (hm : m ≠ []) :
    (velRun (o :: m)).head? = some ⟨o.time, ⟨trapArea (o :: m), o.value.unit⟩⟩ := by
  cases m with
  | nil => exact absurd rfl hm
  | cons p r => rfl

/-- the number a sum holds; no sum yet counts as `0` -/
def heldVal : Option (Quantity F) → F
  | some q => q.value
  | none => 0

/-- one integral-stream step adds one trapezoid to the area: `dt * (p + o) / 2` in front -/
theorem trapStep_area (chk : Bool) (p o : Datum (Quantity F)) (acc : Option (Quantity F)) (v : Quantity F)
    (h : trapStep chk p o acc = .ok v) :
    v.value = heldVal acc + (sec o.time - sec p.time) * (p.value.value + o.value.value) / 2 := by
  obtain ⟨a, ha, h⟩ := Except.bind_eq_ok.1 h
  have key : a.value = (sec o.time - sec p.time) * (p.value.value + o.value.value) / 2 := by
    rw [trapAddend_value chk p o a ha, trapVal, ExactScalar.ofInt_eq, c1e9_eq, c2_eq, cast_sub_div_e9]
  cases acc with
  | none => cases h; show _ = 0 + _; rw [zero_add, key]
  | some r => show _ = r.value + _; rw [(Quantity.add_ok h).1, key, add_comm]

/-- one converter accumulation step adds one trapezoid to the area: `(a + b) / 2 * dt` behind -/
theorem accum_area (chk : Bool) (s t : Int) (old : Option (Quantity F)) (a b v : Quantity F)
    (h : accum chk (Quantity.ofTime chk (s - t)) old a b = .ok v) :
    v.value = heldVal old + (sec s - sec t) * (a.value + b.value) / 2 := by
  obtain ⟨x, hh, h⟩ := Except.bind_eq_ok.1 h
  have key : x.value = (sec s - sec t) * (a.value + b.value) / 2 := by
    rw [qHalfTimes_value chk _ _ _ _ hh, ofTime_value, c2_eq, mul_comm, mul_div_assoc]
  cases old with
  | none => cases h; show _ = 0 + _; rw [zero_add, key]
  | some r => show _ = r.value + _; rw [(Quantity.add_ok h).1, key]

/-- the integral stream's sum is the area -/
theorem trapRev_area (chk : Bool) : ∀ (rr : List (Datum (Quantity F))) (r : Option (Datum (Quantity F))),
    trapRev chk rr = .ok r → heldVal (r.map (·.value)) = trapArea rr
  | [], r, h => by cases h; rfl
  | [_], r, h => by cases h; rfl
  | o :: p :: rest, r, h => by
    rw [trapRev_cons₂] at h
    obtain ⟨prev, hp, h⟩ := Except.bind_eq_ok.1 h
    obtain ⟨v, hv, hr⟩ := Except.map_eq_ok.1 h
    cases hr
    rw [trapArea_cons₂, ← trapRev_area chk _ prev hp]
    exact trapStep_area chk p o _ v hv

/-- the converters' running sum is the area -/
theorem trapRunRev_area (chk : Bool) : ∀ (rr : List (Datum (Quantity F))) (v : Option (Quantity F)),
    trapRunRev chk rr = .ok v → heldVal v = trapArea rr
  | [], v, h => by cases h; rfl
  | [_], v, h => by cases h; rfl
  | o :: p :: rest, v, h => by
    rw [trapRunRev_cons₂] at h
    obtain ⟨old, hp, h⟩ := Except.bind_eq_ok.1 h
    obtain ⟨x, hx, hv⟩ := Except.map_eq_ok.1 h
    cases hv
    rw [trapArea_cons₂, ← trapRunRev_area chk _ old hp]
    exact accum_area chk o.time p.time old p.value o.value x hx

/-- the acceleration converter's position is the area under the run of areas -/
theorem a2sPosRev_area (chk : Bool) : ∀ (rr : List (Datum (Quantity F))) (y : Option (Quantity F)),
    a2sPosRev chk rr = .ok y → heldVal y = trapArea (velRun rr)
  | [], y, h => by cases h; rfl
  | [_], y, h => by cases h; rfl
  | [_, _], y, h => by cases h; rfl
  | o :: p :: q :: rest, y, h => by
    obtain ⟨v0, v1, k0, k1⟩ := a2sPosRev_vels chk o p q rest _ h
    rw [a2sPosRev_cons₃ chk o p q rest v0 v1 k0 k1] at h
    obtain ⟨old, hp, h⟩ := Except.bind_eq_ok.1 h
    obtain ⟨x, hx, hy⟩ := Except.map_eq_ok.1 h
    cases hy
    rw [trapArea_velRun_cons₃, ← a2sPosRev_area chk _ old hp,
      ← show v0.value = _ from trapRunRev_area chk _ (some v0) k0,
      ← show v1.value = _ from trapRunRev_area chk _ (some v1) k1]
    exact accum_area chk o.time p.time old v0 v1 x hx

/-- the trapezoid rule is exact on linear signals: the area under `v(T) = m·T + c` sampled at arbitrary times -/
theorem trapArea_linear (m c : F) : ∀ (tl : List (Datum (Quantity F))) (o l : Datum (Quantity F)),
    (∀ d ∈ o :: tl, d.value.value = m * sec d.time + c) → (o :: tl).getLast? = some l →
    trapArea (o :: tl) = (sec o.time - sec l.time) * (l.value.value + o.value.value) / 2
  | [], o, l, _, hl => by
    simp only [List.getLast?_singleton, Option.some.injEq] at hl
    subst hl
    simp only [trapArea, sub_self, zero_mul, zero_div]
  | p :: rest, o, l, hlin, hl => by
    rw [List.getLast?_cons_cons] at hl
    rw [trapArea, trapArea_linear m c rest p l (fun d hd => hlin d (List.mem_cons_of_mem _ hd)) hl,
      hlin o (by simp), hlin p (by simp), hlin l (List.mem_cons_of_mem _ (List.mem_of_getLast? hl))]
    ring

/-- **Trapezoid rule is exact on linear signals** (this distinguishes it from a rectangle rule): for samples of
`v(t) = m·t + c` (t in seconds = ns/10⁹) at arbitrary times — increasing or not — the specification's value is
`(tₙ − t₀)·(v₀ + vₙ)/2`, the exact integral.  Holds in either checking mode whenever the specification yields a
value (from two samples on it always does with checking off, `trapSpec_nochk_some`, or with one common unit, `trapRev_unit`). -/
theorem trapsum_linear_exact (chk : Bool) (m c : F) (run : List (Datum (Quantity F)))
    (hlin : ∀ d ∈ run, d.value.value = m * ((d.time : F) / 1000000000) + c)
    (d0 dn r : Datum (Quantity F)) (h0 : run.head? = some d0) (hn : run.getLast? = some dn)
    (h : trapSpec chk run = .ok (some r)) :
    r.value.value = ((dn.time - d0.time : Int) : F) / 1000000000 * (d0.value.value + dn.value.value) / 2 ∧
      r.time = dn.time := by
  refine ⟨?_, ?_⟩
  · rw [← List.head?_reverse] at hn
    rw [← List.getLast?_reverse] at h0
    rw [cast_sub_div_e9, show r.value.value = _ from trapRev_area chk _ (some r) h]
    cases hrr : run.reverse with
    | nil => rw [hrr] at hn; cases hn
    | cons o tl =>
      rw [hrr] at hn h0; cases hn
      exact trapArea_linear m c tl _ d0 (fun d hd => hlin d (by rw [← List.mem_reverse, hrr]; exact hd)) h0
  · obtain ⟨dn', h1, h2⟩ := trapSpec_time chk run r h
    rw [hn] at h1; cases h1; exact h2

/-- **Backward difference is exact on linear signals**: the value is the slope -/
theorem backdiff_linear_exact (chk : Bool) (m c : F) (pre : List (Datum (Quantity F))) (p o r : Datum (Quantity F))
    (hp : p.value.value = m * ((p.time : F) / 1000000000) + c)
    (ho : o.value.value = m * ((o.time : F) / 1000000000) + c)
    (hne : o.time ≠ p.time)
    (h : backdiffSpec chk (pre ++ [p, o]) = .ok (some r)) : r.value.value = m ∧ r.time = o.time := by
  rw [backdiffSpec, reverse_snoc₂, backdiffRev_cons₂] at h
  obtain ⟨v, hv, hr⟩ := Except.map_eq_ok.1 h
  cases hr
  refine ⟨?_, rfl⟩
  have hne' : (sec o.time : F) - sec p.time ≠ 0 := fun h0 => hne (sec_inj (sub_eq_zero.1 h0))
  rw [diffQ_value chk _ _ _ v hv, ofTime_value, ho, hp]
  change (m * sec o.time + c - (m * sec p.time + c)) / _ = m
  rw [add_sub_add_right_eq_sub, ← mul_sub, mul_div_cancel_right₀ _ hne']
end R

/-! ## non-vacuity: concrete histories (integer payloads; times in whole seconds so that `/ 10⁹` is exact) -/
section Examples
/-- an integer "scalar" only used to evaluate the examples below -/
local instance : FloatLike Int := ⟨id, id, fun _ _ => 1, fun x => (x.natAbs : Int)⟩

/-- sample `v` of unit `u` at `t` seconds -/
private def smp (t v : Int) (u : DUnit) : Output (Quantity Int) := .ok (some ⟨t * 1000000000, ⟨v, u⟩⟩)
private def MM : DUnit := ⟨1, 0⟩
private def MMS : DUnit := ⟨1, -1⟩
private def MMS2 : DUnit := ⟨1, -2⟩
private def histI : List (Output (Quantity Int)) :=
  [smp 0 7 MM, .error (.other 3), smp 1 1 MM, .ok none, smp 2 1 MM, smp 3 3 MM, smp 5 5 MM]

/-- `lastRun` / `lastRunIgnoringAbsent` on a history with an error and an absent event -/
example : lastRun histI = [⟨2000000000, ⟨1, MM⟩⟩, ⟨3000000000, ⟨3, MM⟩⟩, ⟨5000000000, ⟨5, MM⟩⟩] := by rfl
example : lastRunIgnoringAbsent histI =
    [⟨1000000000, ⟨1, MM⟩⟩, ⟨2000000000, ⟨1, MM⟩⟩, ⟨3000000000, ⟨3, MM⟩⟩, ⟨5000000000, ⟨5, MM⟩⟩] := by rfl

/-- integral (checking on): the run after the reset is (2s,1) (3s,3) (5s,5): 1·(1+3)/2 + 2·(3+5)/2 = 10 mm·s at 5 s (a
rectangle rule would give 1·3 + 2·5 = 13 or 1·1 + 2·3 = 7); this is the hypothesis `runE … = .ok s` of
`integral_eq_trapsum`, `integral_prev`, `integral_output_unit` -/
example : ∃ s, runE (Integral.step true) Integral.init histI = .ok s ∧
    Integral.get s = .ok (some ⟨5000000000, ⟨10, ⟨1, 1⟩⟩⟩) := ⟨_, rfl, rfl⟩
example : trapSpec true (lastRun histI) = .ok (some ⟨5000000000, ⟨10, ⟨1, 1⟩⟩⟩) := by rfl
example : AllUnit MM histI := by
  intro d hd
  simp [histI, smp] at hd
  rcases hd with rfl | rfl | rfl | rfl | rfl <;> rfl
/-- derivative: (5 − 3) / 2 s = 1 mm/s -/
example : ∃ s, runE (Derivative.step true) Derivative.init histI = .ok s ∧
    Derivative.get s = .ok (some ⟨5000000000, ⟨1, ⟨1, -1⟩⟩⟩) := ⟨_, rfl, rfl⟩
example : backdiffSpec true (lastRun histI) = .ok (some ⟨5000000000, ⟨1, ⟨1, -1⟩⟩⟩) := by rfl
/-- last event an error / absent -/
example : ∃ s, runE (Integral.step true) Integral.init [smp 0 1 MM, smp 1 1 MM, .error .fromNone] = .ok s ∧
    Integral.get s = .error .fromNone := ⟨_, rfl, rfl⟩
example : ∃ s, runE (Derivative.step true) Derivative.init [smp 0 1 MM, smp 1 1 MM, .ok none] = .ok s ∧
    Derivative.get s = .ok none := ⟨_, rfl, rfl⟩
/-- a unit mismatch between consecutive samples panics (hypotheses of `*_unit_mismatch_panics`, right-hand side of
`integral_panics_iff`) -/
example : runE (Integral.step true) Integral.init [smp 0 1 MM, smp 1 1 MMS] = .error .dim := by rfl
example : runE (Derivative.step true) Derivative.init [smp 0 1 MM, smp 1 1 MMS] = .error .dim := by rfl
example : trapSpec true (lastRun [smp 0 1 MM, smp 1 1 MMS]) = .error .dim := by rfl
/-- … but not with checking off -/
example : ∃ s, runE (Integral.step false) Integral.init [smp 0 1 MM, smp 1 1 MMS] = .ok s := ⟨_, rfl⟩

/-- acceleration converter: constant 2 mm/s² at 0,1,2,3 s (an absent event in between is ignored):
vel = 2, 4, 6; pos = 3, 8 -/
private def histA : List (Output (Quantity Int)) := [smp 0 2 MMS2, .ok none, smp 1 2 MMS2, smp 2 2 MMS2, smp 3 2 MMS2]
example : ∃ s, runE (A2s.step true) A2s.init histA = .ok s ∧
    A2s.get true s = .ok (.ok (some ⟨3000000000, ⟨8, 6, 2⟩⟩)) := ⟨_, rfl, rfl⟩
example : ∃ sp, a2sSpec true (lastRunIgnoringAbsent histA) = .ok (some sp) ∧
    sp.pos = ⟨8, ⟨1, 0⟩⟩ ∧ sp.vel = ⟨6, ⟨1, -1⟩⟩ ∧ sp.acc = ⟨2, ⟨1, -2⟩⟩ ∧ sp.time = 3000000000 :=
  ⟨_, rfl, rfl, rfl, rfl, rfl⟩
example : ∀ e ∈ histA, GoodUnit MMS2 e := by
  intro e he d hd
  subst hd
  simp [histA, smp] at he
  rcases he with rfl | rfl | rfl | rfl <;> rfl
/-- fewer than three samples since the last error: absent (hypothesis of `a2s_absent_until`) -/
example : ∃ s, runE (A2s.step true) A2s.init (histA ++ [.error .fromNone, smp 4 2 MMS2, smp 5 2 MMS2]) = .ok s ∧
    (lastRunIgnoringAbsent (histA ++ [.error .fromNone, smp 4 2 MMS2, smp 5 2 MMS2])).length < 3 ∧
    A2s.get true s = .ok (.ok none) := ⟨_, rfl, by decide, rfl⟩
example : A2s.step true (none : Option (A2sU0 Int)) (smp 0 2 MM) = .error .dim := by rfl
example : V2s.step true (none : Option (V2sU0 Int)) (smp 0 2 MM) = .error .dim := by rfl
example : P2s.step true (none : Option (P2sU0 Int)) (smp 0 2 MMS) = .error .dim := by rfl

/-- velocity converter: v = 0, 2, 6 mm/s at 0, 1, 3 s: pos = 1, 1 + 8 = 9; acc = (6 − 2)/2 = 2 -/
private def histV : List (Output (Quantity Int)) := [smp 0 0 MMS, smp 1 2 MMS, .ok none, smp 3 6 MMS]
example : ∃ s, runE (V2s.step true) V2s.init histV = .ok s ∧
    V2s.get true s = .ok (.ok (some ⟨3000000000, ⟨9, 6, 2⟩⟩)) := ⟨_, rfl, rfl⟩
example : ∃ sp, v2sSpec true (lastRunIgnoringAbsent histV) = .ok (some sp) ∧
    sp.pos = ⟨9, ⟨1, 0⟩⟩ ∧ sp.vel = ⟨6, ⟨1, -1⟩⟩ ∧ sp.acc = ⟨2, ⟨1, -2⟩⟩ ∧ sp.time = 3000000000 :=
  ⟨_, rfl, rfl, rfl, rfl, rfl⟩
example : ∃ s, runE (V2s.step true) V2s.init [smp 0 0 MMS] = .ok s ∧
    (lastRunIgnoringAbsent [smp 0 0 MMS]).length < 2 ∧ V2s.get true s = .ok (.ok none) := ⟨_, rfl, by decide, rfl⟩

/-- position converter: p = 0, 1, 4, 10 mm at 0, 1, 2, 4 s: vel = 1, 3, 3; acc = (3 − 3)/2 = 0 -/
private def histP : List (Output (Quantity Int)) := [smp 0 0 MM, smp 1 1 MM, smp 2 4 MM, smp 4 10 MM]
example : ∃ s, runE (P2s.step true) P2s.init histP = .ok s ∧
    P2s.get true s = .ok (.ok (some ⟨4000000000, ⟨10, 3, 0⟩⟩)) := ⟨_, rfl, rfl⟩
example : ∃ s, runE (P2s.step true) P2s.init (histP.take 3) = .ok s ∧
    P2s.get true s = .ok (.ok (some ⟨2000000000, ⟨4, 3, 2⟩⟩)) := ⟨_, rfl, rfl⟩
example : ∃ sp, p2sSpec true (lastRunIgnoringAbsent histP) = .ok (some sp) ∧
    sp.pos = ⟨10, ⟨1, 0⟩⟩ ∧ sp.vel = ⟨3, ⟨1, -1⟩⟩ ∧ sp.acc = ⟨0, ⟨1, -2⟩⟩ ∧ sp.time = 4000000000 :=
  ⟨_, rfl, rfl, rfl, rfl, rfl⟩
example : ∃ s, runE (P2s.step true) P2s.init (histP.take 2) = .ok s ∧
    (lastRunIgnoringAbsent (histP.take 2)).length < 3 ∧ P2s.get true s = .ok (.ok none) := ⟨_, rfl, by decide, rfl⟩

/-- shift invariance instance: the same history one hour later -/
example : ∃ s, runE (Integral.step true) Integral.init (shiftHist 3600000000000 histI) = .ok s ∧
    Integral.get s = .ok (some ⟨3605000000000, ⟨10, ⟨1, 1⟩⟩⟩) := ⟨_, rfl, rfl⟩

/-- tier R, over ℚ: samples of v(t) = 2t + 1 at 0 s, 1 s, 3 s.  Hypotheses of `trapsum_linear_exact` and
`backdiff_linear_exact` hold and the exact integral is 3·(1 + 7)/2 = 12, the slope 2. -/
private def runQ : List (Datum (Quantity ℚ)) :=
  [⟨0, ⟨1, ⟨1, 0⟩⟩⟩, ⟨1000000000, ⟨3, ⟨1, 0⟩⟩⟩, ⟨3000000000, ⟨7, ⟨1, 0⟩⟩⟩]
private theorem runQ_lin : ∀ d ∈ runQ, d.value.value = 2 * ((d.time : ℚ) / 1000000000) + 1 := by
  intro d hd
  simp only [runQ, List.mem_cons, List.not_mem_nil, or_false] at hd
  rcases hd with rfl | rfl | rfl <;> norm_num
example : ∀ d ∈ runQ, d.value.value = 2 * ((d.time : ℚ) / 1000000000) + 1 := runQ_lin
example : ∃ r, trapSpec false runQ = .ok (some r) ∧ r.value.value = 12 := by
  obtain ⟨r, hr⟩ := trapSpec_nochk_some runQ (by decide)
  refine ⟨r, hr, ?_⟩
  rw [(trapsum_linear_exact false 2 1 runQ runQ_lin _ _ r rfl rfl hr).1]; norm_num
end Examples

end Rrtk.Thm.C10
