/-
C16 (first half) — the `MaybeUninit` scratch arrays of `SumStream::get`, `ProductStream::get`, `Terminal`'s state
getter and `Axle::new` are only ever read where they have been written, and never indexed out of range.

Everything is tier S: the payload `α`, the operator `op` and the scalar `F` are arbitrary; the statements are about
*which slot* is written/read and in which order.  The quantifier is over ALL arities (`ins.length`, `n`) and all
patterns of absent / present / erroring inputs.

Slot-level model: `Rrtk/Scratch.lean` (`none` = uninitialised slot; `Fault.uninit` = `assume_init` on an unwritten
slot; `Fault.oob` = slice index out of range).  List-level model: `Stream.collect`, `Stream.foldData`, `Stream.nary`
(`Rrtk/Streams/Stateless.lean`) and `World.getState` (`Rrtk/Devices.lean`).

Every array has the shape `written.map some ++ fresh m` throughout (`write_at_counter` keeps it, `read_written` /
`mapM_read_written` read inside the written part); the first loop is one induction (`sum_scratch_writes`), the second
loop is "read a range of slots in order, then fold" (`foldFrom_eq`), and everything else is read off these.

The bare `example`s between the theorems are non-vacuity witnesses: each meets the hypotheses of the theorem beside it on a
small input.  The theorems about `Terminal` are stated under the full list of scalar classes of the model (the `variable`
line there), whether or not they need them all; hence the linter option.
-/
import Rrtk.Scratch
import Rrtk.Thm.Lemmas.IntScalar
set_option linter.unusedSectionVars false
namespace Rrtk.Thm.C16
open Rrtk

theorem mapM_congr_mem {ε β γ : Type} {f g : β → Except ε γ} : ∀ (l : List β), (∀ a ∈ l, f a = g a) → l.mapM f = l.mapM g
  | [], _ => rfl
  | a :: l, h => by
    rw [List.mapM_cons, List.mapM_cons, h a (List.mem_cons_self ..),
      mapM_congr_mem l fun b hb => h b (List.mem_cons_of_mem _ hb)]

theorem mapM_ok_iff {ε β γ : Type} {f : β → Except ε γ} : ∀ (l : List β),
    (∃ ys, l.mapM f = .ok ys) ↔ ∀ a ∈ l, ∃ y, f a = .ok y
  | [] => ⟨(fun _ _ h => nomatch h), (fun _ => ⟨[], rfl⟩)⟩
  | a :: l => by
    rw [List.mapM_cons, List.forall_mem_cons, ← mapM_ok_iff l]
    cases f a with
    | error e => exact ⟨(fun ⟨_, h⟩ => nomatch h), (fun ⟨⟨_, h⟩, _⟩ => nomatch h)⟩
    | ok y =>
      cases l.mapM f with
      | error e => exact ⟨(fun ⟨_, h⟩ => nomatch h), (fun ⟨_, _, h⟩ => nomatch h)⟩
      | ok ys => exact ⟨fun _ => ⟨⟨y, rfl⟩, ys, rfl⟩, fun _ => ⟨y :: ys, rfl⟩⟩

theorem forall_mem_range' {P : Nat → Prop} (b n : Nat) : (∀ a ∈ List.range' b n, P a) ↔ ∀ j, j < n → P (b + j) := by
  simp only [List.mem_range', Nat.one_mul]
  exact ⟨fun h j hj => h _ ⟨j, hj, rfl⟩, fun h a ⟨j, hj, ha⟩ => ha ▸ h j hj⟩

variable {α : Type}

theorem fresh_length (n : Nat) : (Slots.fresh n : Slots α).length = n := by
  simp [Slots.fresh]

theorem write_at_counter (ds : List α) (m : Nat) (x : α) :
    Slots.write (ds.map some ++ Slots.fresh (m + 1)) ds.length x
      = .ok ((ds ++ [x]).map some ++ Slots.fresh m) := by
  have hlen : ds.length < (ds.map some ++ (Slots.fresh (m + 1) : Slots α)).length := by
    simp [Slots.fresh]
  simp only [Slots.write, hlen, if_true]
  rw [List.set_append_right _ _ (by simp)]
  simp [Slots.fresh, List.replicate_succ]

theorem write_at_counter_full (ds : List α) (x : α) :
    Slots.write (ds.map some ++ Slots.fresh 0) ds.length x = .error .oob := by
  simp [Slots.write, Slots.fresh]

theorem read_written (ds : List α) {g : Slots α} (j : Nat) (h : j < ds.length) :
    Slots.read (ds.map some ++ g) j = .ok ds[j] := by
  have : (ds.map some ++ g)[j]? = some (some ds[j]) := by
    rw [List.getElem?_append_left (by simpa using h)]
    simp [h]
  simp [Slots.read, this]

/-- `assume_init` on uninitialised memory -/
theorem read_unwritten (ds : List α) {m : Nat} (j : Nat) (h1 : ds.length ≤ j) (h2 : j < ds.length + m) :
    Slots.read (ds.map some ++ Slots.fresh m) j = .error .uninit := by
  have : (ds.map some ++ (Slots.fresh m : Slots α))[j]? = some none := by
    rw [List.getElem?_append_right (by simpa using h1)]
    simp only [Slots.fresh, List.length_map, List.getElem?_replicate]
    rw [if_pos (by omega)]
  simp [Slots.read, this]

theorem read_past_end (ds : List α) {m : Nat} (j : Nat) (h : ds.length + m ≤ j) :
    Slots.read (ds.map some ++ Slots.fresh m) j = .error .oob := by
  have : (ds.map some ++ (Slots.fresh m : Slots α))[j]? = none := by
    rw [List.getElem?_eq_none_iff]
    simpa [Slots.fresh] using h
  simp [Slots.read, this]

theorem read_ok_iff (ds : List α) {m : Nat} (j : Nat) :
    (∃ x, Slots.read (ds.map some ++ Slots.fresh m) j = .ok x) ↔ j < ds.length := by
  constructor
  · intro ⟨x, hx⟩
    by_cases h1 : j < ds.length
    · exact h1
    · by_cases h2 : j < ds.length + m
      · rw [read_unwritten ds j (by omega) h2] at hx; cases hx
      · rw [read_past_end ds j (Nat.le_of_not_lt h2)] at hx; cases hx
  · intro h
    exact ⟨ds[j], read_written ds j h⟩

theorem mapM_read_written (ds : List α) (g : Slots α) (a n : Nat) (h : a + n ≤ ds.length) :
    (List.range' a n).mapM (Slots.read (ds.map some ++ g)) = .ok ((ds.drop a).take n) := by
  induction n generalizing a with
  | zero => rfl
  | succ n ih =>
    have hlt : a < ds.length := by omega
    rw [List.range'_succ, List.mapM_cons, read_written ds a hlt, ih (a + 1) (by omega),
      List.drop_eq_getElem_cons hlt, List.take_succ_cons]
    rfl

example : Slots.read ([(5 : Int)].map some ++ Slots.fresh 1) 0 = .ok 5 := rfl
example : Slots.read ([(5 : Int)].map some ++ Slots.fresh 1) 1 = .error .uninit := rfl
example : Slots.read ([(5 : Int)].map some ++ Slots.fresh 1) 2 = .error .oob := rfl
example : Slots.write ([(5 : Int)].map some ++ Slots.fresh 1) 1 7 = .ok ([5, 7].map some ++ Slots.fresh 0) := rfl
example : Slots.write ([(5 : Int)].map some ++ Slots.fresh 0) 1 7 = .error .oob := rfl

/-- number of slot writes the first loop performs: the present inputs up to (not including) the first error.
It is at most the number of present inputs, hence at most the arity. -/
def writes : List (Output α) → Nat
  | [] => 0
  | .error _ :: _ => 0
  | .ok none :: rest => writes rest
  | .ok (some _) :: rest => writes rest + 1

theorem writes_le_length (ins : List (Output α)) : writes ins ≤ ins.length := by
  induction ins with
  | nil => exact Nat.le_refl 0
  | cons a rest ih =>
    cases a with
    | error e => exact Nat.zero_le _
    | ok o =>
      cases o with
      | none => exact Nat.le_succ_of_le ih
      | some x => exact Nat.succ_le_succ ih

theorem writes_le_present (ins : List (Output α)) :
    writes ins ≤ (ins.filter (fun o => match o with | .ok (some _) => true | _ => false)).length := by
  induction ins with
  | nil => exact Nat.le_refl 0
  | cons a rest ih =>
    cases a with
    | error e => exact Nat.zero_le _
    | ok o =>
      cases o with
      | none => exact ih
      | some x => exact Nat.succ_le_succ ih

theorem writes_eq_collect_length (ins : List (Output α)) (ds : List (Datum α))
    (h : Stream.collect ins = .ok ds) : writes ins = ds.length := by
  induction ins generalizing ds with
  | nil => cases h; rfl
  | cons a rest ih =>
    rcases a with e | _ | d
    · cases h
    · exact ih ds h
    · rw [Stream.collect] at h
      cases hc : Stream.collect rest with
      | error e => rw [hc] at h; cases h
      | ok ds' => rw [hc] at h; cases h; exact congrArg (· + 1) (ih ds' hc)

theorem collect_length_le (ins : List (Output α)) (ds : List (Datum α)) (h : Stream.collect ins = .ok ds) :
    ds.length ≤ ins.length := by
  rw [← writes_eq_collect_length ins ds h]; exact writes_le_length ins

/-- the first loop, from any fill counter: with room for its writes (`m ≥ ins.length` suffices, `writes_le_length`) it
never faults, returns the first input error exactly when `Stream.collect` does, and otherwise leaves the present data
written in input order, every later slot uninitialised, and the counter at the number of initialised slots -/
theorem sum_scratch_writes (ins : List (Output α)) (ds : List (Datum α)) (m : Nat) (h : writes ins ≤ m) :
    Scratch.fill ins (ds.map some ++ Slots.fresh m) ds.length =
      .ok (match Stream.collect ins with
        | .error e => .error e
        | .ok ds' => .ok ((ds ++ ds').map some ++ Slots.fresh (m - ds'.length), ds.length + ds'.length)) := by
  induction ins generalizing ds m with
  | nil => simp [Scratch.fill, Stream.collect]
  | cons a rest ih =>
    rcases a with e | _ | x
    · rfl
    · exact ih ds m h
    · -- `h : writes rest + 1 ≤ m`: a slot is free for this write, and the rest has room behind it
      obtain _ | m' := m
      · exact absurd h (Nat.not_succ_le_zero _)
      have ih' := ih (ds ++ [x]) m' (Nat.le_of_succ_le_succ h)
      rw [List.length_append, List.length_singleton] at ih'
      simp only [Scratch.fill, write_at_counter, ih']
      cases hc : Stream.collect rest with
      | error e => simp [Stream.collect, hc]
      | ok ds' =>
        simp only [Stream.collect, hc, List.append_assoc, List.singleton_append, List.length_cons,
          Nat.add_sub_add_right]
        rw [Nat.add_assoc, Nat.add_comm 1]

example : writes [(.ok (some ⟨0, 1⟩) : Output Int), .ok none, .error .fromNone, .ok (some ⟨0, 2⟩)] ≤ 1 := by decide
example :
    Scratch.fill [(.ok (some ⟨3, 1⟩) : Output Int), .ok none, .ok (some ⟨4, 2⟩)] (Slots.fresh 3) 0
      = .ok (.ok ([some ⟨3, 1⟩, some ⟨4, 2⟩, none], 2)) := rfl

/-- **no write index is out of range and no fault of any kind**: under the hypotheses of
`sum_scratch_writes`, `fill` never returns a `Fault`. -/
theorem sum_scratch_in_bounds (ins : List (Output α)) (ds : List (Datum α)) (m : Nat) (h : writes ins ≤ m)
    (f : Fault) : Scratch.fill ins (ds.map some ++ Slots.fresh m) ds.length ≠ .error f := by
  rw [sum_scratch_writes ins ds m h]
  intro hc; cases hc

example : writes [(.ok (some ⟨3, 1⟩) : Output Int), .ok none, .ok (some ⟨4, 2⟩)] ≤ 3 := by decide

/-- the bound on `m` in `sum_scratch_writes` is sharp: with fewer free slots than writes the loop indexes out of
range.  (So "no fault" really is a consequence of the array having `N` slots for `N` inputs.) -/
theorem fill_oob_of_too_small (ins : List (Output α)) (ds : List (Datum α)) (m : Nat) (h : m < writes ins) :
    Scratch.fill ins (ds.map some ++ Slots.fresh m) ds.length = .error .oob := by
  induction ins generalizing ds m with
  | nil => exact absurd h (Nat.not_lt_zero m)
  | cons a rest ih =>
    rcases a with e | _ | x
    · exact absurd h (Nat.not_lt_zero m)
    · exact ih ds m h
    · -- `h : m < writes rest + 1`
      cases m with
      | zero => simp only [Scratch.fill, write_at_counter_full]
      | succ m' =>
        have ih' := ih (ds ++ [x]) m' (Nat.lt_of_succ_lt_succ h)
        rw [List.length_append, List.length_singleton] at ih'
        simp only [Scratch.fill, write_at_counter, ih']

example : (1 : Nat) < writes [(.ok (some ⟨3, 1⟩) : Output Int), .ok none, .ok (some ⟨4, 2⟩)] := by decide

/-- `fill` at the call site of `nary`: a fresh array with one slot per input, counter `0`. -/
theorem fill_fresh (ins : List (Output α)) :
    Scratch.fill ins (Slots.fresh ins.length) 0 =
      .ok (match Stream.collect ins with
        | .error e => .error e
        | .ok ds' => .ok (ds'.map some ++ Slots.fresh (ins.length - ds'.length), ds'.length)) := by
  have := sum_scratch_writes ins [] ins.length (writes_le_length ins)
  simpa using this

/-- **second loop** (`foldFrom`) in one line: it reads slots `1+i, …, 1+i+count-1` in that order, stops at the first
fault, and folds what it read with `Datum.combine op` -/
theorem foldFrom_eq (op : α → α → α) (s : Slots (Datum α)) (v0 : Datum α) (i count : Nat) :
    Scratch.foldFrom op s v0 i count =
      ((List.range' (1 + i) count).mapM s.read).map (List.foldl (Datum.combine op) v0) := by
  induction count generalizing i v0 with
  | zero => rfl
  | succ c ih =>
    rw [Scratch.foldFrom, List.range'_succ, List.mapM_cons]
    cases s.read (1 + i) with
    | error f => rfl
    | ok x =>
      show Scratch.foldFrom op s (Datum.combine op v0 x) (i + 1) c = _
      rw [ih, Nat.add_assoc]
      cases (List.range' (1 + (i + 1)) c).mapM s.read <;> rfl

/-- inside the written prefix the second loop never faults, *whatever* the remaining slots `g` contain -/
theorem foldFrom_spec (op : α → α → α) (ds : List (Datum α)) {g : Slots (Datum α)} {v0 : Datum α}
    (i count : Nat) (h : 1 + i + count ≤ ds.length) :
    Scratch.foldFrom op (ds.map some ++ g) v0 i count
      = .ok (((ds.drop (1 + i)).take count).foldl (Datum.combine op) v0) := by
  rw [foldFrom_eq, mapM_read_written ds g _ _ h]; rfl

example : 1 + 0 + 2 ≤ [(⟨0, 1⟩ : Datum Int), ⟨0, 2⟩, ⟨0, 3⟩].length := by decide

theorem foldFrom_ok_iff (op : α → α → α) (s : Slots (Datum α)) (v0 : Datum α) (i count : Nat) :
    (∃ v, Scratch.foldFrom op s v0 i count = .ok v) ↔ ∀ j, j < count → ∃ x, s.read (1 + i + j) = .ok x := by
  -- the fold succeeds iff all the reads do
  have hmap : (∃ v, Scratch.foldFrom op s v0 i count = .ok v) ↔ ∃ ys, (List.range' (1 + i) count).mapM s.read = .ok ys := by
    rw [foldFrom_eq]
    cases (List.range' (1 + i) count).mapM s.read with
    | error f => exact ⟨(fun ⟨_, h⟩ => nomatch h), (fun ⟨_, h⟩ => nomatch h)⟩
    | ok ys => exact ⟨fun _ => ⟨ys, rfl⟩, fun _ => ⟨_, rfl⟩⟩
  rw [hmap, mapM_ok_iff, forall_mem_range']

/-- for an ARBITRARY pair of slot arrays that agree on slots `1+i, …, 1+i+count-1`, the second loop returns the
same thing: the result does not depend on any other slot (in particular not on unwritten memory). -/
theorem foldFrom_congr (op : α → α → α) (s s' : Slots (Datum α)) (v0 : Datum α) (i count : Nat)
    (h : ∀ j, j < count → s.read (1 + i + j) = s'.read (1 + i + j)) :
    Scratch.foldFrom op s v0 i count = Scratch.foldFrom op s' v0 i count := by
  rw [foldFrom_eq, foldFrom_eq, mapM_congr_mem _ ((forall_mem_range' (1 + i) count).2 h)]

example : ∀ j, j < 1 →
    Slots.read [some (⟨0, 1⟩ : Datum Int), some ⟨0, 2⟩, none] (1 + 0 + j)
      = Slots.read [none, some (⟨0, 2⟩ : Datum Int), some ⟨9, 9⟩] (1 + 0 + j) := by
  intro j hj; obtain rfl : j = 0 := by omega
  rfl

/-- one iteration too many: if the first `count` slots can be read and the next read faults with `f`, the loop
faults with `f` (used for the sharpness of the loop bound, `foldFrom_one_more_faults`). -/
theorem foldFrom_fault (op : α → α → α) (s : Slots (Datum α)) (v0 : Datum α) (i count : Nat) (f : Fault)
    (hok : ∀ j, j < count → ∃ x, s.read (1 + i + j) = .ok x) (hbad : s.read (1 + i + count) = .error f) :
    Scratch.foldFrom op s v0 i (count + 1) = .error f := by
  obtain ⟨ys, hys⟩ := (mapM_ok_iff _).2 ((forall_mem_range' (1 + i) count).2 hok)
  rw [foldFrom_eq, List.range'_concat, List.mapM_append, hys, List.mapM_cons, Nat.one_mul, hbad]
  rfl

example : Slots.read [some (⟨0, 1⟩ : Datum Int), none] (1 + 0 + 0) = .error .uninit := rfl

/-- **Main refinement.**  For every arity (including 0), every pattern of absent inputs and every erroring input:
the slot-level `SumStream::get` / `ProductStream::get` reaches neither `Fault.oob` nor `Fault.uninit`, and returns
exactly what the list-level model `Stream.nary` returns. -/
theorem sum_scratch_refines (op : α → α → α) (ins : List (Output α)) :
    Scratch.nary op ins = .ok (Stream.nary op ins) := by
  simp only [Scratch.nary, fill_fresh, Stream.nary]
  cases hc : Stream.collect ins with
  | error e => rfl
  | ok ds' =>
    cases ds' with
    | nil => rfl
    | cons d ds =>
      simp only [List.length_cons, Nat.add_one_ne_zero, if_false, Nat.add_sub_cancel]
      rw [read_written (d :: ds) 0 (by simp)]
      simp only
      rw [foldFrom_spec op (d :: ds) 0 ds.length (by simp; omega)]
      simp [Stream.foldData]

theorem sum_scratch_no_fault (op : α → α → α) (ins : List (Output α)) (f : Fault) :
    Scratch.nary op ins ≠ .error f := by
  rw [sum_scratch_refines]; intro h; cases h

/-- `SumStream::get`: every slot read was written (no `uninit`, no `oob`), result = list-level sum -/
theorem sum_scratch_reads_written [Add α] (ins : List (Output α)) :
    Scratch.nary (· + ·) ins = .ok (Stream.nary (· + ·) ins) := sum_scratch_refines _ ins

/-- `ProductStream::get`: every slot read was written (no `uninit`, no `oob`), result = list-level product -/
theorem product_scratch_reads_written [Mul α] (ins : List (Output α)) :
    Scratch.nary (· * ·) ins = .ok (Stream.nary (· * ·) ins) := sum_scratch_refines _ ins

/-- **reads ⊆ writes, sharply.**  When no input errs, with `ds'` the collected data: the array left by the first loop
has one slot per input, its fill counter is `ds'.length`, and reading slot `j` of it succeeds **iff**
`j < filled`.  Together with `foldFrom_ok_iff` (the second loop, called with `i = 0`, `count = filled - 1`, touches
exactly slots `1 + j` for `j < filled - 1`, all `< filled`) and the single `read 0` (guarded by `filled ≠ 0`), this
says every index passed to `Slots.read` during `Scratch.nary` is below the fill counter — and that reading one slot
further would fault. -/
theorem nary_reads_only_written (ins : List (Output α)) (ds' : List (Datum α))
    (h : Stream.collect ins = .ok ds') :
    ∃ s : Slots (Datum α),
      Scratch.fill ins (Slots.fresh ins.length) 0 = .ok (.ok (s, ds'.length)) ∧
      s.length = ins.length ∧
      (∀ j, (∃ x, s.read j = .ok x) ↔ j < ds'.length) ∧
      (∀ j, ds'.length ≤ j → j < ins.length → s.read j = .error .uninit) ∧
      (∀ j, ins.length ≤ j → s.read j = .error .oob) ∧
      (ds'.length ≠ 0 → ∃ x, s.read 0 = .ok x) ∧
      (∀ (op : α → α → α) (v0 : Datum α), ∃ v, Scratch.foldFrom op s v0 0 (ds'.length - 1) = .ok v) := by
  have hle := collect_length_le ins ds' h
  refine ⟨ds'.map some ++ Slots.fresh (ins.length - ds'.length), ?_, ?_, ?_, ?_, ?_, ?_, ?_⟩
  · rw [fill_fresh, h]
  · simp [Slots.fresh]; omega
  · exact read_ok_iff ds'
  · intro j h1 h2; exact read_unwritten ds' j h1 (by omega)
  · intro j h1; exact read_past_end ds' j (by omega)
  · intro hne; exact (read_ok_iff ds' 0).2 (by omega)
  · intro op v0
    rw [foldFrom_ok_iff]
    intro j hj
    exact (read_ok_iff ds' _).2 (by omega)

example : Stream.collect [(.ok (some ⟨3, 1⟩) : Output Int), .ok none, .ok (some ⟨4, 2⟩)]
    = .ok [⟨3, 1⟩, ⟨4, 2⟩] := rfl

/-- the `0..outputs_filled - 1` bound is sharp for every arity and every pattern with at least one present input:
on the array left by the first loop, one more iteration (`0..outputs_filled`) reads an uninitialised slot when
some input is absent, and indexes out of range when all inputs are present. -/
theorem foldFrom_one_more_faults (op : α → α → α) (ins : List (Output α)) (ds' : List (Datum α))
    (h : Stream.collect ins = .ok ds') (hne : ds'.length ≠ 0) (v0 : Datum α) :
    Scratch.foldFrom op (ds'.map some ++ Slots.fresh (ins.length - ds'.length)) v0 0 (ds'.length - 1 + 1)
      = .error (if ds'.length < ins.length then .uninit else .oob) := by
  have hle := collect_length_le ins ds' h
  apply foldFrom_fault
  · intro j hj; exact (read_ok_iff ds' _).2 (by omega)
  · have hidx : 1 + 0 + (ds'.length - 1) = ds'.length := by omega
    rw [hidx]
    by_cases hlt : ds'.length < ins.length
    · rw [if_pos hlt]; exact read_unwritten ds' _ (Nat.le_refl _) (by omega)
    · rw [if_neg hlt]; exact read_past_end ds' _ (by omega)

example : Stream.collect [(.ok (some ⟨3, 1⟩) : Output Int), .ok none] = .ok [⟨3, 1⟩] ∧ [(⟨3, 1⟩ : Datum Int)].length ≠ 0 :=
  ⟨rfl, by decide⟩

/-! ### mutation check: the theorems have teeth -/

/-- the Rust second loop written as `0..outputs_filled` instead of `0..outputs_filled - 1`: one iteration more -/
def foldFromOffByOne (op : α → α → α) (s : Slots (Datum α)) (value : Datum α) (i count : Nat) :
    Except Fault (Datum α) :=
  Scratch.foldFrom op s value i (count + 1)

/-- first loop that writes but forgets `outputs_filled += 1` -/
def fillNoAdvance : List (Output α) → Slots (Datum α) → Nat → Except Fault (Except Err (Slots (Datum α) × Nat))
  | [], s, k => .ok (.ok (s, k))
  | .error e :: _, _, _ => .ok (.error e)
  | .ok none :: rest, s, k => fillNoAdvance rest s k
  | .ok (some x) :: rest, s, k =>
    match s.write k x with
    | .error f => .error f
    | .ok s' => fillNoAdvance rest s' k

/-- first loop that writes to `outputs[outputs_filled + 1]` -/
def fillShifted : List (Output α) → Slots (Datum α) → Nat → Except Fault (Except Err (Slots (Datum α) × Nat))
  | [], s, k => .ok (.ok (s, k))
  | .error e :: _, _, _ => .ok (.error e)
  | .ok none :: rest, s, k => fillShifted rest s k
  | .ok (some x) :: rest, s, k =>
    match s.write (k + 1) x with
    | .error f => .error f
    | .ok s' => fillShifted rest s' (k + 1)

/-- `Scratch.nary` with the two loops as parameters, so that the mutant loops above can be run in its place -/
def naryWith (fillF : List (Output α) → Slots (Datum α) → Nat → Except Fault (Except Err (Slots (Datum α) × Nat)))
    (foldF : (α → α → α) → Slots (Datum α) → Datum α → Nat → Nat → Except Fault (Datum α))
    (op : α → α → α) (ins : List (Output α)) : Except Fault (Output α) :=
  match fillF ins (Slots.fresh ins.length) 0 with
  | .error f => .error f
  | .ok (.error e) => .ok (.error e)
  | .ok (.ok (s, filled)) =>
    if filled = 0 then .ok (.ok none)
    else
      match s.read 0 with
      | .error f => .error f
      | .ok v0 =>
        match foldF op s v0 0 (filled - 1) with
        | .error f => .error f
        | .ok v => .ok (.ok (some v))

theorem naryWith_real (op : α → α → α) (ins : List (Output α)) :
    naryWith Scratch.fill Scratch.foldFrom op ins = Scratch.nary op ins := rfl

-- off-by-one bound, an input absent: reads an unwritten slot
example : naryWith Scratch.fill foldFromOffByOne (· + ·) [(.ok (some ⟨3, 1⟩) : Output Int), .ok none]
    = .error .uninit := rfl
-- off-by-one bound, all inputs present: index out of range
example : naryWith Scratch.fill foldFromOffByOne (· + ·) [(.ok (some ⟨3, 1⟩) : Output Int), .ok (some ⟨4, 2⟩)]
    = .error .oob := rfl
-- the real code on the same inputs
example : Scratch.nary (· + ·) [(.ok (some ⟨3, 1⟩) : Output Int), .ok none] = .ok (.ok (some ⟨3, 1⟩)) := rfl
example : Scratch.nary (· + ·) [(.ok (some ⟨3, 1⟩) : Output Int), .ok (some ⟨4, 2⟩)]
    = .ok (.ok (some ⟨4, 3⟩)) := rfl
-- counter not advanced: no fault, but the refinement fails (data silently dropped)
example : naryWith fillNoAdvance Scratch.foldFrom (· + ·) [(.ok (some ⟨3, 1⟩) : Output Int), .ok (some ⟨4, 2⟩)]
    = .ok (.ok none) := rfl
example : naryWith fillNoAdvance Scratch.foldFrom (· + ·) [(.ok (some ⟨3, 1⟩) : Output Int), .ok (some ⟨4, 2⟩)]
    ≠ .ok (Stream.nary (· + ·) [(.ok (some ⟨3, 1⟩) : Output Int), .ok (some ⟨4, 2⟩)]) := by
  intro h; cases h
-- write index shifted by one: slot 0 never written (`uninit`) / last write out of range (`oob`)
example : naryWith fillShifted Scratch.foldFrom (· + ·) [(.ok (some ⟨3, 1⟩) : Output Int), .ok none]
    = .error .uninit := rfl
example : naryWith fillShifted Scratch.foldFrom (· + ·) [(.ok (some ⟨3, 1⟩) : Output Int), .ok (some ⟨4, 2⟩)]
    = .error .oob := rfl

/-! ### `Terminal`'s state getter -/
variable {F : Type} [Add F] [Sub F] [Mul F] [Div F] [Neg F] [LT F] [LE F] [BEq F]
  [DecidableLT F] [DecidableLE F] [FloatLike F]

/-- all four presence combinations of own / partner state: no fault (`addends[addend_count]` is in range, only
written slots are `assume_init`-ed, the `unimplemented!()` arm is not reached) and the result is the list-level
four-way case analysis. -/
theorem terminal_scratch_refines (own partner : Option (Datum (State F))) :
    Scratch.terminalState own partner = .ok (match own, partner with
      | none, none => none
      | some a, none => some a
      | none, some b => some b
      | some a, some b => some (Datum.scalar State.divF (Datum.combine State.add a b) c2)) := by
  cases own <;> cases partner <;> rfl

theorem terminal_scratch_no_fault (own partner : Option (Datum (State F))) (f : Fault) :
    Scratch.terminalState own partner ≠ .error f := by
  rw [terminal_scratch_refines]; intro h; cases h

/-- the slot-level read of terminal `i` of any world is `World.getState` -/
theorem terminal_scratch_refines_world (w : World F) (i : Nat) :
    Scratch.terminalState (w.t i).state (w.partnerState i) = .ok (w.getState i) := by
  rw [terminal_scratch_refines]
  simp only [World.getState]
  cases (w.t i).state <;> cases w.partnerState i <;> rfl

example : Scratch.terminalState (some (⟨5, ⟨2, 4, 6⟩⟩ : Datum (State Int))) (some ⟨7, ⟨4, 6, 8⟩⟩)
    = .ok (some ⟨7, ⟨3, 5, 7⟩⟩) := rfl
example : Scratch.terminalState (none : Option (Datum (State Int))) (some ⟨7, ⟨4, 6, 8⟩⟩)
    = .ok (some ⟨7, ⟨4, 6, 8⟩⟩) := rfl

/-! ### `Axle::new` -/

/-- the write step of `Axle::new`'s first loop -/
def axleStep (acc : Except Fault (Slots Unit)) (i : Nat) : Except Fault (Slots Unit) :=
  match acc with
  | .error f => .error f
  | .ok s => s.write i ()

theorem axle_writes_prefix (j m : Nat) :
    (List.range j).foldl axleStep (.ok (Slots.fresh (j + m)))
      = .ok ((List.replicate j ()).map some ++ Slots.fresh m) := by
  induction j generalizing m with
  | zero => simp
  | succ j ih =>
    have hw := write_at_counter (List.replicate j ()) m ()
    rw [List.length_replicate] at hw
    rw [List.range_succ, List.foldl_append, Nat.add_right_comm, Nat.add_assoc, ih (m + 1)]
    simp only [List.foldl_cons, List.foldl_nil, axleStep, hw]
    rw [← List.replicate_succ']

example : (List.range 2).foldl axleStep (.ok (Slots.fresh 3)) = .ok [some (), some (), none] := rfl

/-- **`Axle::new`, every `N`**: every element is written (in range) before the array is read out as initialised;
the read-out touches only written slots. -/
theorem axle_new_writes_all (n : Nat) : Scratch.axleNew n = .ok (List.replicate n ()) := by
  have hw : (List.range n).foldl axleStep (.ok (Slots.fresh n)) = _ := axle_writes_prefix n 0
  have hr := mapM_read_written (List.replicate n ()) (Slots.fresh 0) 0 n (by simp)
  rw [← List.range_eq_range'] at hr
  -- `Scratch.axleNew n` with its loop body named
  change (match (List.range n).foldl axleStep (.ok (Slots.fresh n)) with
    | .error f => (.error f : Except Fault (List Unit))
    | .ok s => (List.range n).mapM (fun i => s.read i)) = _
  rw [hw]
  exact hr.trans (by simp)

theorem axle_new_no_fault (n : Nat) (f : Fault) : Scratch.axleNew n ≠ .error f := by
  rw [axle_new_writes_all]; intro h; cases h

/-- just before the read-out every slot of the `N`-array is initialised -/
theorem axle_all_initialised (n : Nat) :
    (List.range n).foldl axleStep (.ok (Slots.fresh n)) = .ok (List.replicate n (some ())) := by
  have hw : (List.range n).foldl axleStep (.ok (Slots.fresh n)) = _ := axle_writes_prefix n 0
  rw [hw]; simp [Slots.fresh]

example : Scratch.axleNew 3 = .ok [(), (), ()] := rfl
example : Scratch.axleNew 0 = .ok [] := rfl
-- mutant: writing only the first `n - 1` elements leaves the last slot uninitialised at read-out
example : (match (List.range 2).foldl axleStep (.ok (Slots.fresh 3)) with
    | .error f => .error f
    | .ok s => (List.range 3).mapM (fun i => s.read i)) = (.error .uninit : Except Fault (List Unit)) := rfl

end Rrtk.Thm.C16
