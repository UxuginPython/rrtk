/-
C19 — erasure: dimension checking compiled in or out does not change any number or timestamp.

The model's configuration switch `chk : Bool` is "dimension checking compiled in".  With `chk = false` the Rust
`Unit` is a zero-sized type; the model keeps the field: `Unit::new`, the named constants, `*`, `/` and the conversions
yield the canonical `⟨0,0⟩`, while `+`, `-`, unary `-` and `abs` return the left operand's unit as the source does
(`Unit::add` returns `self`; see `unchecked_plain_arithmetic`, `unchecked_plain_canonical`), `eq_assume_true` is constantly
`true` and `eq_assume_false` constantly `false` (`erasure_exception_assume_false`).

*Unit erasure* (`eraseU`, `eraseQ`, lifted to data, outputs, stream states and motion profiles) forgets the units and
keeps every value and every timestamp.  The theorems say: whenever a computation with checking compiled in succeeds
(i.e. the program is dimensionally correct), the same computation with checking compiled out, run on the erased
inputs, succeeds with the erased result — same `F` values, same `Int` timestamps, same update return values — and
the unchecked computation never panics on units and is the plain scalar arithmetic on the values.

"Succeeds ⇒ the other succeeds with the erased result" is `Sim` (`Lemmas/Sim.lean`).  The operators give the basic
simulations (`add_sim`, `sub_sim`, …); the simulation for a model function is put together from those of the functions it
calls, one `Sim.elim` for each place where it propagates a panic and one case split for each `match` on data; for the
integral stream and the three to-state converters that case tree is `presentStep`'s (`Lemmas/PresentStep.lean`), walked
once in `presentStep_sim`, and only their numbers are simulated.  `runT_sim` and `runE_sim` carry a one-step simulation to
histories: EVERY `*_step_sim`, by one application (`runE_sim (ewma_step_sim sm) s is`).  The `erase_streams_*` theorems spell
the `runT` lift out for all seven streams and the `runE` lift for five of them (not for `ewma` and `ma`, where it holds the
same way).

Tier S (arbitrary scalar `F`, no law) throughout, except the comparison of the hand-written absolute value
`if v >= 0.0 { v } else { -v }` (`Quantity.absManual`) with `absF`: `manual_abs_eq_abs_of_laws` (tier L: under the two laws
that define an absolute value) and `manual_abs_eq_abs` (tier R: over an ordered field).  That was the `no_std` branch of
`Quantity::abs` until the `fix:` commit 24d9cb7 of /repo (defect F6, DESIGN.md §7: it keeps the sign of `-0.0`); the branch now
clears the sign bit, which is `f32::abs` bit for bit, so in the model `Quantity.abs` stands for both builds.  The `std`/`no_std`
clause of the property is otherwise not a model-level statement: the model has a single `FloatLike.powf` / `absF`, and
`Quantity::abs` is the only arithmetic the crate writes twice under `cfg(feature = "std")`.

The bare `example`s between the theorems are non-vacuity witnesses: each shows on the toy scalar `Int` that the checked call
named in the theorem beside it does succeed (or, where said, does panic).  Here and in `Lemmas/C19Controllers.lean`,
`Lemmas/C19Programs.lean` every theorem that mentions `F` is stated under the full list of scalar classes of the model (the
`variable` line), whether or not it needs them all; hence the linter option.
-/
import Rrtk.MotionProfile
import Rrtk.Streams.Stateful
import Rrtk.Devices
import Rrtk.Thm.C06
import Rrtk.Thm.Lemmas.Run
import Rrtk.Thm.Lemmas.Dim
import Rrtk.Thm.Lemmas.Sim
import Rrtk.Thm.Lemmas.PresentStep
import Rrtk.Thm.C01
import Rrtk.Thm.Lemmas.IntScalar
import Rrtk.Thm.Lemmas.Exact
import Rrtk.Gen.CfgGates
set_option linter.unusedSectionVars false
namespace Rrtk.Thm.C19
open Rrtk

section Defs
variable {F : Type}

/-- every unit becomes the canonical unit of the unchecked build -/
def eraseU (_ : DUnit) : DUnit := ⟨0, 0⟩
def eraseQ (q : Quantity F) : Quantity F := ⟨q.value, ⟨0, 0⟩⟩
def eraseD (d : Datum (Quantity F)) : Datum (Quantity F) := ⟨d.time, eraseQ d.value⟩
def eraseOQ : Option (Quantity F) → Option (Quantity F)
  | none => none
  | some q => some (eraseQ q)
def eraseOD : Option (Datum (Quantity F)) → Option (Datum (Quantity F))
  | none => none
  | some d => some (eraseD d)
def eraseOut : Output (Quantity F) → Output (Quantity F)
  | .error e => .error e
  | .ok o => .ok (eraseOD o)
def eraseDi (s : DiS F) : DiS F := ⟨eraseOut s.value, eraseOD s.prev⟩
def eraseA1 (u : A2sU1 F) : A2sU1 F := ⟨eraseQ u.vel, eraseOQ u.pos⟩
def eraseA0 (u : A2sU0 F) : A2sU0 F :=
  ⟨u.time, eraseQ u.acc, match u.u1 with | none => none | some u1 => some (eraseA1 u1)⟩
def eraseA : Option (A2sU0 F) → Option (A2sU0 F)
  | none => none
  | some u => some (eraseA0 u)
def eraseV1 (u : V2sU1 F) : V2sU1 F := ⟨eraseQ u.acc, eraseQ u.pos⟩
def eraseV0 (u : V2sU0 F) : V2sU0 F :=
  ⟨u.time, eraseQ u.vel, match u.u1 with | none => none | some u1 => some (eraseV1 u1)⟩
def eraseV : Option (V2sU0 F) → Option (V2sU0 F)
  | none => none
  | some u => some (eraseV0 u)
def eraseP1 (u : P2sU1 F) : P2sU1 F := ⟨eraseQ u.vel, eraseOQ u.acc⟩
def eraseP0 (u : P2sU0 F) : P2sU0 F :=
  ⟨u.time, eraseQ u.pos, match u.u1 with | none => none | some u1 => some (eraseP1 u1)⟩
def eraseP : Option (P2sU0 F) → Option (P2sU0 F)
  | none => none
  | some u => some (eraseP0 u)
def eraseEw (s : EwmaS (Quantity F)) : EwmaS (Quantity F) := ⟨eraseOut s.value, s.updateTime⟩
def eraseMa (s : MaS (Quantity F)) : MaS (Quantity F) := ⟨eraseOut s.value, s.queue.map eraseD⟩
def eraseMp (mp : MotionProfile F) : MotionProfile F :=
  ⟨eraseQ mp.startPos, eraseQ mp.startVel, mp.t1, mp.t2, mp.t3, eraseQ mp.maxAcc, mp.endCommand⟩

theorem eraseQ_value (q : Quantity F) : (eraseQ q).value = q.value := rfl
theorem eraseQ_unit (q : Quantity F) : (eraseQ q).unit = ⟨0, 0⟩ := rfl
theorem eraseQ_idem (q : Quantity F) : eraseQ (eraseQ q) = eraseQ q := rfl
theorem eraseD_time (d : Datum (Quantity F)) : (eraseD d).time = d.time := rfl
theorem eraseD_value (d : Datum (Quantity F)) : (eraseD d).value.value = d.value.value := rfl
theorem eraseMp_times (mp : MotionProfile F) :
    (eraseMp mp).t1 = mp.t1 ∧ (eraseMp mp).t2 = mp.t2 ∧ (eraseMp mp).t3 = mp.t3 ∧
    (eraseMp mp).endCommand = mp.endCommand := ⟨rfl, rfl, rfl, rfl⟩
end Defs

section S
variable {F : Type} [Add F] [Sub F] [Mul F] [Div F] [Neg F] [LT F] [LE F] [BEq F]
  [DecidableLT F] [DecidableLE F] [FloatLike F]

theorem erase_unit_ops (a b : DUnit) (mm sec : Int) :
    eraseU (DUnit.new true mm sec) = DUnit.new false mm sec ∧
    eraseU (DUnit.mul true a b) = DUnit.mul false (eraseU a) (eraseU b) ∧
    eraseU (DUnit.div true a b) = DUnit.div false (eraseU a) (eraseU b) ∧
    (∀ r, DUnit.add true a b = .ok r → DUnit.add false (eraseU a) (eraseU b) = .ok (eraseU r)) ∧
    (∀ r, DUnit.sub true a b = .ok r → DUnit.sub false (eraseU a) (eraseU b) = .ok (eraseU r)) ∧
    (DUnit.eqAssumeTrue true a b = true → DUnit.eqAssumeTrue false (eraseU a) (eraseU b) = true) ∧
    (DUnit.assertEqAssumeOk true a b = .ok () → DUnit.assertEqAssumeOk false (eraseU a) (eraseU b) = .ok ()) ∧
    eraseU (SECOND true) = SECOND false ∧ eraseU (MILLIMETER true) = MILLIMETER false ∧
    eraseU (DIMENSIONLESS true) = DIMENSIONLESS false ∧
    eraseU (MILLIMETER_PER_SECOND true) = MILLIMETER_PER_SECOND false ∧
    eraseU (MILLIMETER_PER_SECOND_SQUARED true) = MILLIMETER_PER_SECOND_SQUARED false :=
  ⟨rfl, rfl, rfl, fun _ _ => rfl, fun _ _ => rfl, fun _ => rfl, fun _ => rfl, rfl, rfl, rfl, rfl, rfl⟩
example : DUnit.add true ⟨1, -1⟩ ⟨1, -1⟩ = .ok ⟨1, -1⟩ := rfl

theorem add_sim (a b : Quantity F) : Sim eraseQ (Quantity.add true a b) (Quantity.add false (eraseQ a) (eraseQ b)) := by
  intro r h; obtain rfl := (Quantity.add_ok h).1; rfl
example : Quantity.add true (⟨1, ⟨1, 0⟩⟩ : Quantity Int) ⟨2, ⟨1, 0⟩⟩ = .ok ⟨3, ⟨1, 0⟩⟩ := rfl

theorem sub_sim (a b : Quantity F) : Sim eraseQ (Quantity.sub true a b) (Quantity.sub false (eraseQ a) (eraseQ b)) := by
  intro r h; obtain rfl := (Quantity.sub_ok h).1; rfl
example : Quantity.sub true (⟨1, ⟨1, 0⟩⟩ : Quantity Int) ⟨2, ⟨1, 0⟩⟩ = .ok ⟨-1, ⟨1, 0⟩⟩ := rfl

theorem partialCmp_sim (a b : Quantity F) :
    Sim id (Quantity.partialCmp true a b) (Quantity.partialCmp false (eraseQ a) (eraseQ b)) := by
  intro o h
  rw [Quantity.partialCmp_true, Except.ite_ok_error_eq_ok_iff] at h
  exact congrArg Except.ok h.2
example : Quantity.partialCmp true (⟨1, ⟨1, 0⟩⟩ : Quantity Int) ⟨2, ⟨1, 0⟩⟩ = .ok (some .lt) := rfl

/-- `==`: on operands of equal unit the derived and the hand-written `PartialEq` agree -/
theorem erase_eq {a b : Quantity F} (h : a.unit = b.unit) :
    Quantity.eq false (eraseQ a) (eraseQ b) = Quantity.eq true a b := by
  simp only [Quantity.eq, DUnit.constEq_iff.2 h, Bool.and_true, if_true]
  rfl
example : (⟨1, ⟨1, 0⟩⟩ : Quantity Int).unit = (⟨2, ⟨1, 0⟩⟩ : Quantity Int).unit := rfl

theorem erase_absManual (a : Quantity F) : eraseQ (Quantity.absManual a) = Quantity.absManual (eraseQ a) := rfl
theorem erase_unchecked_ctor (t n : Int) (v : F) (a b : Quantity F) :
    eraseQ (Quantity.ofTime false t : Quantity F) = Quantity.ofTime false t ∧
    eraseQ (Quantity.ofDimInt false n : Quantity F) = Quantity.ofDimInt false n ∧
    eraseQ (Quantity.dimensionless false v) = Quantity.dimensionless false v ∧
    eraseQ (Quantity.mul false a b) = Quantity.mul false a b ∧
    eraseQ (Quantity.div false a b) = Quantity.div false a b := ⟨rfl, rfl, rfl, rfl, rfl⟩

example : Time.addQ true 5 (⟨2, ⟨0, 1⟩⟩ : Quantity Int) = .ok ⟨5 / 1000000000 + 2, ⟨0, 1⟩⟩ := rfl
example : Time.subQ true 5 (⟨2, ⟨0, 1⟩⟩ : Quantity Int) = .ok ⟨5 / 1000000000 - 2, ⟨0, 1⟩⟩ := rfl
example : DimInt.addQ true 5 (⟨2, ⟨0, 0⟩⟩ : Quantity Int) = .ok ⟨7, ⟨0, 0⟩⟩ := rfl
example : DimInt.subQ true 5 (⟨2, ⟨0, 0⟩⟩ : Quantity Int) = .ok ⟨3, ⟨0, 0⟩⟩ := rfl
example : Quantity.addTime true (⟨2, ⟨0, 1⟩⟩ : Quantity Int) 5 = .ok ⟨2 + 5 / 1000000000, ⟨0, 1⟩⟩ := rfl
example : Quantity.subTime true (⟨2, ⟨0, 1⟩⟩ : Quantity Int) 5 = .ok ⟨2 - 5 / 1000000000, ⟨0, 1⟩⟩ := rfl
example : Quantity.addDimInt true (⟨2, ⟨0, 0⟩⟩ : Quantity Int) 5 = .ok ⟨7, ⟨0, 0⟩⟩ := rfl
example : Quantity.subDimInt true (⟨2, ⟨0, 0⟩⟩ : Quantity Int) 5 = .ok ⟨-3, ⟨0, 0⟩⟩ := rfl

theorem erase_quantity_ops :
    (∀ a b r : Quantity F, Quantity.add true a b = .ok r → Quantity.add false (eraseQ a) (eraseQ b) = .ok (eraseQ r)) ∧
    (∀ a b r : Quantity F, Quantity.sub true a b = .ok r → Quantity.sub false (eraseQ a) (eraseQ b) = .ok (eraseQ r)) ∧
    (∀ (a b : Quantity F) o, Quantity.partialCmp true a b = .ok o →
      Quantity.partialCmp false (eraseQ a) (eraseQ b) = .ok o) ∧
    (∀ a b : Quantity F, eraseQ (Quantity.mul true a b) = Quantity.mul false (eraseQ a) (eraseQ b)) ∧
    (∀ a b : Quantity F, eraseQ (Quantity.div true a b) = Quantity.div false (eraseQ a) (eraseQ b)) ∧
    (∀ a : Quantity F, eraseQ (Quantity.neg a) = Quantity.neg (eraseQ a)) ∧
    (∀ a : Quantity F, eraseQ (Quantity.abs a) = Quantity.abs (eraseQ a)) ∧
    (∀ t : Int, eraseQ (Quantity.ofTime true t : Quantity F) = Quantity.ofTime false t) ∧
    (∀ n : Int, eraseQ (Quantity.ofDimInt true n : Quantity F) = Quantity.ofDimInt false n) ∧
    (∀ v : F, eraseQ (Quantity.dimensionless true v) = Quantity.dimensionless false v) :=
  ⟨add_sim, sub_sim, partialCmp_sim, fun _ _ => rfl, fun _ _ => rfl, fun _ => rfl, fun _ => rfl, fun _ => rfl, fun _ => rfl,
    fun _ => rfl⟩

/-- the same for every `impl <Op><Y> for X` with `X, Y ∈ {Quantity, Time, DimensionlessInteger}` -/
theorem erase_mixed_ops :
    (∀ a b : Int, eraseQ (Time.mulTime true a b : Quantity F) = Time.mulTime false a b) ∧
    (∀ a b : Int, eraseQ (Time.divTime true a b : Quantity F) = Time.divTime false a b) ∧
    (∀ (a : Int) (q : Quantity F), eraseQ (Time.mulQ true a q) = Time.mulQ false a (eraseQ q)) ∧
    (∀ (a : Int) (q : Quantity F), eraseQ (Time.divQ true a q) = Time.divQ false a (eraseQ q)) ∧
    (∀ (a : Int) (q r : Quantity F), Time.addQ true a q = .ok r → Time.addQ false a (eraseQ q) = .ok (eraseQ r)) ∧
    (∀ (a : Int) (q r : Quantity F), Time.subQ true a q = .ok r → Time.subQ false a (eraseQ q) = .ok (eraseQ r)) ∧
    (∀ a t : Int, eraseQ (DimInt.divTime true a t : Quantity F) = DimInt.divTime false a t) ∧
    (∀ (a : Int) (q : Quantity F), eraseQ (DimInt.mulQ true a q) = DimInt.mulQ false a (eraseQ q)) ∧
    (∀ (a : Int) (q : Quantity F), eraseQ (DimInt.divQ true a q) = DimInt.divQ false a (eraseQ q)) ∧
    (∀ (a : Int) (q r : Quantity F), DimInt.addQ true a q = .ok r → DimInt.addQ false a (eraseQ q) = .ok (eraseQ r)) ∧
    (∀ (a : Int) (q r : Quantity F), DimInt.subQ true a q = .ok r → DimInt.subQ false a (eraseQ q) = .ok (eraseQ r)) ∧
    (∀ (q r : Quantity F) (t : Int), Quantity.addTime true q t = .ok r →
      Quantity.addTime false (eraseQ q) t = .ok (eraseQ r)) ∧
    (∀ (q r : Quantity F) (t : Int), Quantity.subTime true q t = .ok r →
      Quantity.subTime false (eraseQ q) t = .ok (eraseQ r)) ∧
    (∀ (q r : Quantity F) (n : Int), Quantity.addDimInt true q n = .ok r →
      Quantity.addDimInt false (eraseQ q) n = .ok (eraseQ r)) ∧
    (∀ (q r : Quantity F) (n : Int), Quantity.subDimInt true q n = .ok r →
      Quantity.subDimInt false (eraseQ q) n = .ok (eraseQ r)) ∧
    (∀ (q : Quantity F) (t : Int), eraseQ (Quantity.mulTime true q t) = Quantity.mulTime false (eraseQ q) t) ∧
    (∀ (q : Quantity F) (t : Int), eraseQ (Quantity.divTime true q t) = Quantity.divTime false (eraseQ q) t) ∧
    (∀ (q : Quantity F) (n : Int), eraseQ (Quantity.mulDimInt true q n) = Quantity.mulDimInt false (eraseQ q) n) ∧
    (∀ (q : Quantity F) (n : Int), eraseQ (Quantity.divDimInt true q n) = Quantity.divDimInt false (eraseQ q) n) :=
  -- every mixed operator is by definition `Quantity.add/sub/mul/div` after `Quantity::from`
  ⟨fun _ _ => rfl, fun _ _ => rfl, fun _ _ => rfl, fun _ _ => rfl, fun _ _ => add_sim _ _, fun _ _ => sub_sim _ _,
    fun _ _ => rfl, fun _ _ => rfl, fun _ _ => rfl, fun _ _ => add_sim _ _, fun _ _ => sub_sim _ _,
    fun _ _ _ => add_sim _ _ _, fun _ _ _ => sub_sim _ _ _, fun _ _ _ => add_sim _ _ _, fun _ _ _ => sub_sim _ _ _,
    fun _ _ => rfl, fun _ _ => rfl, fun _ _ => rfl, fun _ _ => rfl⟩

/-- `+ - * /`, negation, absolute value, comparison: the value is the scalar operation on the values, whatever the
units.  (The unit field of the unchecked `+`, `-`, unary `-`, `abs` is the left operand's, exactly as in the source:
`Unit::add` returns `self`; it is `⟨0,0⟩` for `*`, `/` and every constructor — see `unchecked_plain_canonical`.) -/
theorem unchecked_plain_arithmetic (a b : Quantity F) :
    Quantity.add false a b = .ok ⟨a.value + b.value, a.unit⟩ ∧
    Quantity.sub false a b = .ok ⟨a.value - b.value, a.unit⟩ ∧
    Quantity.mul false a b = ⟨a.value * b.value, ⟨0, 0⟩⟩ ∧
    Quantity.div false a b = ⟨a.value / b.value, ⟨0, 0⟩⟩ ∧
    Quantity.neg a = ⟨-a.value, a.unit⟩ ∧
    Quantity.abs a = ⟨FloatLike.absF a.value, a.unit⟩ ∧
    Quantity.partialCmp false a b = .ok (Quantity.cmpF a.value b.value) ∧
    Quantity.eq false a b = (a.value == b.value) :=
  ⟨rfl, rfl, rfl, rfl, rfl, rfl, rfl, rfl⟩

/-- on the quantities that exist in an unchecked build (unit `⟨0,0⟩`: everything produced by `eraseQ`, by a constructor
or by an unchecked operator) the results are literally `⟨plain scalar result, ⟨0,0⟩⟩` -/
theorem unchecked_plain_canonical (a b : Quantity F) (ha : a.unit = ⟨0, 0⟩) :
    Quantity.add false a b = .ok ⟨a.value + b.value, ⟨0, 0⟩⟩ ∧
    Quantity.sub false a b = .ok ⟨a.value - b.value, ⟨0, 0⟩⟩ ∧
    Quantity.mul false a b = ⟨a.value * b.value, ⟨0, 0⟩⟩ ∧
    Quantity.div false a b = ⟨a.value / b.value, ⟨0, 0⟩⟩ ∧
    Quantity.neg a = ⟨-a.value, ⟨0, 0⟩⟩ := by
  obtain ⟨v, u⟩ := a
  simp only at ha
  subst ha
  exact ⟨rfl, rfl, rfl, rfl, rfl⟩
example : (eraseQ (⟨3, ⟨1, -2⟩⟩ : Quantity Int)).unit = ⟨0, 0⟩ := rfl

theorem unchecked_values (a b : Quantity F) :
    (∃ r, Quantity.add false a b = .ok r ∧ r.value = a.value + b.value) ∧
    (∃ r, Quantity.sub false a b = .ok r ∧ r.value = a.value - b.value) ∧
    (Quantity.mul false a b).value = a.value * b.value ∧
    (Quantity.div false a b).value = a.value / b.value :=
  ⟨⟨_, rfl, rfl⟩, ⟨_, rfl, rfl⟩, rfl, rfl⟩

/-- "`Quantity.add false a b = .ok ⟨a.value + b.value, ⟨0,0⟩⟩` for ALL `a b`" is FALSE in the model
when the left operand carries a non-canonical unit (the model keeps `self`'s unit, as `impl Add for Unit` does): -/
example : Quantity.add false (⟨1, ⟨1, 0⟩⟩ : Quantity Int) ⟨2, ⟨0, 1⟩⟩ = .ok ⟨3, ⟨1, 0⟩⟩ := rfl
example : Quantity.add false (⟨1, ⟨1, 0⟩⟩ : Quantity Int) ⟨2, ⟨0, 1⟩⟩ ≠ .ok ⟨3, ⟨0, 0⟩⟩ := nofun

theorem unchecked_never_dim_panics (a b : Quantity F) (u w : DUnit) (s : State F) :
    Quantity.add false a b = .ok ⟨a.value + b.value, a.unit⟩ ∧
    Quantity.sub false a b = .ok ⟨a.value - b.value, a.unit⟩ ∧
    Quantity.partialCmp false a b = .ok (Quantity.cmpF a.value b.value) ∧
    DUnit.add false u w = .ok u ∧
    DUnit.sub false u w = .ok u ∧
    DUnit.assertEqAssumeOk false u w = .ok () ∧
    DUnit.eqAssumeTrue false u w = true ∧
    (∀ p v c : Quantity F, State.new false p v c = .ok ⟨p.value, v.value, c.value⟩) ∧
    State.setConstantAcceleration false s a = ({ s with acceleration := a.value }, true) ∧
    State.setConstantVelocity false s a = ({ s with acceleration := c0, velocity := a.value }, true) ∧
    State.setConstantPosition false s a = (⟨a.value, c0, c0⟩, true) ∧
    Time.tryOfQuantity false a = some (FloatLike.toInt (a.value * c1e9)) ∧
    DimInt.tryOfQuantity false a = some (FloatLike.toInt a.value) ∧
    GearTrain.withRatio false a = .ok a.value :=
  ⟨rfl, rfl, rfl, rfl, rfl, rfl, rfl, fun _ _ _ => rfl, rfl, rfl, rfl, rfl, rfl, rfl⟩

/-- contrast (so that the previous theorem is not vacuous about "mismatch"): the very same calls DO panic / reject with
checking compiled in -/
example : Quantity.add true (⟨1, ⟨1, 0⟩⟩ : Quantity Int) ⟨2, ⟨0, 1⟩⟩ = .error .dim := rfl
example : Time.tryOfQuantity true (⟨1, ⟨1, 0⟩⟩ : Quantity Int) = none := rfl
example : GearTrain.withRatio true (⟨1, ⟨1, 0⟩⟩ : Quantity Int) = .error .dim := rfl
example : (State.setConstantPosition true (⟨0, 0, 0⟩ : State Int) ⟨1, ⟨0, 1⟩⟩).2 = false := rfl

/-- The one deliberate exception to erasure in the public API (not used by the crate's own code): the pessimistic
twins `eq_assume_false` / `assert_eq_assume_not_ok` answer `false` / panic for ALL operands when checking is compiled
out, although with checking compiled in they accept equal units.  So a dimensionally correct program that calls
`assert_eq_assume_not_ok` does NOT behave the same in the two builds — by design ("With dimension checking off, always
panics"). -/
theorem erasure_exception_assume_false (u w : DUnit) :
    DUnit.eqAssumeFalse false u w = false ∧ DUnit.assertEqAssumeNotOk false u w = .error .dim ∧
    DUnit.eqAssumeFalse true u u = true ∧ DUnit.assertEqAssumeNotOk true u u = .ok () := by
  refine ⟨rfl, rfl, ?_, ?_⟩
  · simp only [DUnit.eqAssumeFalse, DUnit.constEq_self, if_true]
  · simp only [DUnit.assertEqAssumeNotOk, DUnit.eqAssumeFalse, DUnit.constEq_self, if_true]

theorem state_new_sim (p v a : Quantity F) :
    Sim id (State.new true p v a) (State.new false (eraseQ p) (eraseQ v) (eraseQ a)) := by
  intro s h; obtain rfl := State.new_ok h; rfl
example : State.new true (⟨1, ⟨1, 0⟩⟩ : Quantity Int) ⟨2, ⟨1, -1⟩⟩ ⟨3, ⟨1, -2⟩⟩ = .ok ⟨1, 2, 3⟩ := rfl

theorem erase_setConstantAcceleration {s : State F} {q : Quantity F}
    (h : (State.setConstantAcceleration true s q).2 = true) :
    State.setConstantAcceleration false s (eraseQ q) = State.setConstantAcceleration true s q := by
  unfold State.setConstantAcceleration at h ⊢
  split at h
  · rename_i hu; rw [if_pos hu]; rfl
  · cases h
theorem erase_setConstantVelocity {s : State F} {q : Quantity F}
    (h : (State.setConstantVelocity true s q).2 = true) :
    State.setConstantVelocity false s (eraseQ q) = State.setConstantVelocity true s q := by
  unfold State.setConstantVelocity at h ⊢
  split at h
  · rename_i hu; rw [if_pos hu]; rfl
  · cases h
theorem erase_setConstantPosition {s : State F} {q : Quantity F}
    (h : (State.setConstantPosition true s q).2 = true) :
    State.setConstantPosition false s (eraseQ q) = State.setConstantPosition true s q := by
  unfold State.setConstantPosition at h ⊢
  split at h
  · rename_i hu; rw [if_pos hu]; rfl
  · cases h
example : (State.setConstantAcceleration true (⟨0, 0, 0⟩ : State Int) ⟨4, ⟨1, -2⟩⟩).2 = true := rfl
example : (State.setConstantVelocity true (⟨0, 0, 0⟩ : State Int) ⟨4, ⟨1, -1⟩⟩).2 = true := rfl
example : (State.setConstantPosition true (⟨0, 0, 0⟩ : State Int) ⟨4, ⟨1, 0⟩⟩).2 = true := rfl

theorem erase_updateQ (s : State F) (dt : Int) :
    State.updateQ true s dt = .ok (State.update s dt) ∧ State.updateQ false s dt = .ok (State.update s dt) :=
  ⟨State.updateQ_eq true s dt, State.updateQ_eq false s dt⟩

theorem erase_state :
    (∀ (p v a : Quantity F) (s : State F), State.new true p v a = .ok s →
      State.new false (eraseQ p) (eraseQ v) (eraseQ a) = .ok s) ∧
    (∀ (s : State F) (q : Quantity F), (State.setConstantAcceleration true s q).2 = true →
      State.setConstantAcceleration false s (eraseQ q) = State.setConstantAcceleration true s q) ∧
    (∀ (s : State F) (q : Quantity F), (State.setConstantVelocity true s q).2 = true →
      State.setConstantVelocity false s (eraseQ q) = State.setConstantVelocity true s q) ∧
    (∀ (s : State F) (q : Quantity F), (State.setConstantPosition true s q).2 = true →
      State.setConstantPosition false s (eraseQ q) = State.setConstantPosition true s q) ∧
    (∀ (s : State F) (dt : Int), State.updateQ true s dt = State.updateQ false s dt) ∧
    (∀ s : State F, eraseQ (s.getPosition true) = s.getPosition false ∧
      eraseQ (s.getVelocity true) = s.getVelocity false ∧ eraseQ (s.getAcceleration true) = s.getAcceleration false) ∧
    (∀ (s : State F) (pd : PosDer), eraseQ (s.getValue true pd) = s.getValue false pd) :=
  ⟨fun _ _ _ => state_new_sim _ _ _, fun _ _ => erase_setConstantAcceleration, fun _ _ => erase_setConstantVelocity,
    fun _ _ => erase_setConstantPosition, fun _ _ => rfl, fun _ => ⟨rfl, rfl, rfl⟩,
    fun _ pd => by cases pd <;> rfl⟩

theorem erase_Time_tryOfQuantity {q : Quantity F} {n : Int} (h : Time.tryOfQuantity true q = some n) :
    Time.tryOfQuantity false (eraseQ q) = some n := by
  obtain ⟨rfl, -⟩ := Time.tryOfQuantity_some h; rfl
example : Time.tryOfQuantity true (⟨2, ⟨0, 1⟩⟩ : Quantity Int) = some 2000000000 := rfl

theorem erase_DimInt_tryOfQuantity {q : Quantity F} {n : Int} (h : DimInt.tryOfQuantity true q = some n) :
    DimInt.tryOfQuantity false (eraseQ q) = some n := by
  unfold DimInt.tryOfQuantity at h
  split at h
  · cases h; rfl
  · cases h
example : DimInt.tryOfQuantity true (⟨2, ⟨0, 0⟩⟩ : Quantity Int) = some 2 := rfl

theorem erase_withRatio {r : Quantity F} {x : F} (h : GearTrain.withRatio true r = .ok x) :
    GearTrain.withRatio false (eraseQ r) = .ok x := by
  unfold GearTrain.withRatio at h
  split at h
  · cases h; rfl
  · cases h
example : GearTrain.withRatio true (⟨2, ⟨0, 0⟩⟩ : Quantity Int) = .ok 2 := rfl

theorem erase_conversions :
    (∀ (q : Quantity F) (n : Int), Time.tryOfQuantity true q = some n → Time.tryOfQuantity false (eraseQ q) = some n) ∧
    (∀ (q : Quantity F) (n : Int), DimInt.tryOfQuantity true q = some n →
      DimInt.tryOfQuantity false (eraseQ q) = some n) ∧
    (∀ (r : Quantity F) (x : F), GearTrain.withRatio true r = .ok x → GearTrain.withRatio false (eraseQ r) = .ok x) ∧
    (∀ c : Command F, eraseQ (Command.toQuantity true c) = Command.toQuantity false c ∧
      (Command.toQuantity true c).value = (Command.toQuantity false c).value ∧
      (Command.toQuantity true c).value = c.raw) ∧
    (∀ c : Command F, eraseOQ (Command.getPosition true c) = Command.getPosition false c ∧
      eraseOQ (Command.getVelocity true c) = Command.getVelocity false c ∧
      eraseQ (Command.getAcceleration true c) = Command.getAcceleration false c) ∧
    (∀ pd : PosDer, eraseU (DUnit.ofPosDer true pd) = DUnit.ofPosDer false pd) :=
  ⟨fun _ _ => erase_Time_tryOfQuantity, fun _ _ => erase_DimInt_tryOfQuantity, fun _ _ => erase_withRatio,
    fun c => by cases c <;> exact ⟨rfl, rfl, rfl⟩, fun c => by cases c <;> exact ⟨rfl, rfl, rfl⟩,
    fun pd => by cases pd <;> rfl⟩

inductive QExp (F : Type) where
  | lit (q : Quantity F)
  | add (a b : QExp F)
  | sub (a b : QExp F)
  | mul (a b : QExp F)
  | div (a b : QExp F)
  | neg (a : QExp F)
  | abs (a : QExp F)
  | ofTime (t : Int)
  | ofDimInt (n : Int)

/-- evaluation with the model operators; a literal's unit passes through `Unit::new` -/
def eval (chk : Bool) : QExp F → Except Panic (Quantity F)
  | .lit q => .ok ⟨q.value, DUnit.new chk q.unit.mm q.unit.s⟩
  | .add a b =>
    match eval chk a with
    | .error e => .error e
    | .ok x => match eval chk b with
      | .error e => .error e
      | .ok y => Quantity.add chk x y
  | .sub a b =>
    match eval chk a with
    | .error e => .error e
    | .ok x => match eval chk b with
      | .error e => .error e
      | .ok y => Quantity.sub chk x y
  | .mul a b =>
    match eval chk a with
    | .error e => .error e
    | .ok x => match eval chk b with
      | .error e => .error e
      | .ok y => .ok (Quantity.mul chk x y)
  | .div a b =>
    match eval chk a with
    | .error e => .error e
    | .ok x => match eval chk b with
      | .error e => .error e
      | .ok y => .ok (Quantity.div chk x y)
  | .neg a =>
    match eval chk a with
    | .error e => .error e
    | .ok x => .ok (Quantity.neg x)
  | .abs a =>
    match eval chk a with
    | .error e => .error e
    | .ok x => .ok (Quantity.abs x)
  | .ofTime t => .ok (Quantity.ofTime chk t)
  | .ofDimInt n => .ok (Quantity.ofDimInt chk n)

def evalScalar : QExp F → F
  | .lit q => q.value
  | .add a b => evalScalar a + evalScalar b
  | .sub a b => evalScalar a - evalScalar b
  | .mul a b => evalScalar a * evalScalar b
  | .div a b => evalScalar a / evalScalar b
  | .neg a => - evalScalar a
  | .abs a => FloatLike.absF (evalScalar a)
  | .ofTime t => (FloatLike.ofInt t : F) / c1e9
  | .ofDimInt n => FloatLike.ofInt n

theorem eval_unchecked (e : QExp F) : eval false e = .ok ⟨evalScalar e, ⟨0, 0⟩⟩ := by
  induction e with
  | lit q => rfl
  | add a b iha ihb => simp only [eval, iha, ihb]; rfl
  | sub a b iha ihb => simp only [eval, iha, ihb]; rfl
  | mul a b iha ihb => simp only [eval, iha, ihb]; rfl
  | div a b iha ihb => simp only [eval, iha, ihb]; rfl
  | neg a iha => simp only [eval, iha]; rfl
  | abs a iha => simp only [eval, iha]; rfl
  | ofTime t => rfl
  | ofDimInt n => rfl

theorem eval_sim (e : QExp F) : Sim eraseQ (eval true e) (eval false e) := by
  induction e with
  | lit q => exact .ok _
  | add a b iha ihb =>
    simp only [eval]
    exact iha.elim (fun _ _ => .error _ _) fun x => ihb.elim (fun _ _ => .error _ _) fun y => add_sim x y
  | sub a b iha ihb =>
    simp only [eval]
    exact iha.elim (fun _ _ => .error _ _) fun x => ihb.elim (fun _ _ => .error _ _) fun y => sub_sim x y
  | mul a b iha ihb =>
    simp only [eval]
    exact iha.elim (fun _ _ => .error _ _) fun x => ihb.elim (fun _ _ => .error _ _) fun y => .ok _
  | div a b iha ihb =>
    simp only [eval]
    exact iha.elim (fun _ _ => .error _ _) fun x => ihb.elim (fun _ _ => .error _ _) fun y => .ok _
  | neg a iha =>
    simp only [eval]
    exact iha.elim (fun _ _ => .error _ _) fun x => .ok _
  | abs a iha =>
    simp only [eval]
    exact iha.elim (fun _ _ => .error _ _) fun x => .ok _
  | ofTime t => exact .ok _
  | ofDimInt n => exact .ok _

/-- Expression trees over nine `Quantity` operations: a program that runs checked runs unchecked with the erased result;
unchecked it never fails, whatever the units of its literals, and computes the plain scalar evaluation.

NOT covered by `QExp` (hence the suffix): comparison (`partial_cmp`) and `==`, `Time::try_from` /
`DimensionlessInteger::try_from`, `State::new`, the three `State` setters, `State::get_value` / `State::update`,
`Quantity::from(Command)`, and programs that keep intermediate results (registers) or observe anything but one final
quantity.  `erase_program_ext` (`Thm/Lemmas/C19Programs.lean`, imported by `Thm/Ext/C19.lean`) extends this theorem to
straight-line programs over all of these operations. -/
theorem erase_program_partial (e : QExp F) :
    (∀ r, eval true e = .ok r → eval false e = .ok (eraseQ r)) ∧
    eval false e = .ok ⟨evalScalar e, ⟨0, 0⟩⟩ ∧
    (∀ r, eval true e = .ok r → r.value = evalScalar e) := by
  refine ⟨eval_sim e, eval_unchecked e, fun r h => ?_⟩
  -- the unchecked run is both the erased checked result and the scalar program
  have hr := (eval_sim e r h).symm.trans (eval_unchecked e)
  injection hr with hr
  exact congrArg Quantity.value hr

example : eval true (.div (.add (.mul (.lit ⟨2, ⟨1, -1⟩⟩) (.lit ⟨5, ⟨0, 1⟩⟩)) (.lit ⟨3, ⟨1, 0⟩⟩)) (.lit ⟨4, ⟨0, 1⟩⟩) : QExp Int)
    = .ok ⟨(2 * 5 + 3) / 4, ⟨1, -1⟩⟩ := rfl
example : eval true (.add (.lit ⟨2, ⟨1, -1⟩⟩) (.lit ⟨5, ⟨0, 1⟩⟩) : QExp Int) = .error .dim := rfl
example : eval false (.add (.lit ⟨2, ⟨1, -1⟩⟩) (.lit ⟨5, ⟨0, 1⟩⟩) : QExp Int) = .ok ⟨7, ⟨0, 0⟩⟩ := rfl

section Run
variable {S I : Type}

/-- run a history, collecting every update's return value -/
def runT (step : S → I → Except Panic (S × UpdRet)) : S → List I → Except Panic (S × List UpdRet)
  | s, [] => .ok (s, [])
  | s, i :: is =>
    match step s i with
    | .error p => .error p
    | .ok r =>
      match runT step r.1 is with
      | .error p => .error p
      | .ok q => .ok (q.1, r.2 :: q.2)

theorem runT_sim {stepT stepF : S → I → Except Panic (S × UpdRet)} {eS : S → S} {eI : I → I}
    (hstep : ∀ s i, Sim (Prod.map eS id) (stepT s i) (stepF (eS s) (eI i))) (s : S) (is : List I) :
    Sim (Prod.map eS id) (runT stepT s is) (runT stepF (eS s) (is.map eI)) := by
  induction is generalizing s with
  | nil => exact .ok _
  | cons i is ih =>
    simp only [runT, List.map_cons]
    refine (hstep s i).elim (fun _ _ => .error _ _) fun r => ?_
    dsimp only
    exact (ih r.1).elim (fun _ _ => .error _ _) fun q => .ok _

/-- `Rrtk.runE_sim` (`Lemmas/Run.lean`) at the relation `s' = eS s`, in the form of `Sim` -/
theorem runE_sim {S' I' : Type} {stepT : S → I → Except Panic (S × UpdRet)}
    {stepF : S' → I' → Except Panic (S' × UpdRet)} {eS : S → S'} {eI : I → I'}
    (hstep : ∀ s i, Sim (Prod.map eS id) (stepT s i) (stepF (eS s) (eI i))) (s : S) (is : List I) :
    Sim eS (runE stepT s is) (runE stepF (eS s) (is.map eI)) := by
  intro t h
  obtain ⟨_, h', rfl⟩ := Rrtk.runE_sim stepT stepF eI (fun s s' => s' = eS s)
    (fun s _ i t r hs h => hs ▸ ⟨eS t, hstep s i (t, r) h, rfl⟩) is rfl h
  exact h'

theorem runT_total (step : S → I → Except Panic (S × UpdRet)) (hstep : ∀ s i, ∃ r, step s i = .ok r)
    (s : S) (is : List I) : ∃ q, runT step s is = .ok q := by
  induction is generalizing s with
  | nil => exact ⟨_, rfl⟩
  | cons i is ih =>
    obtain ⟨r, hr⟩ := hstep s i
    obtain ⟨q, hq⟩ := ih r.1
    exact ⟨(q.1, r.2 :: q.2), by simp only [runT, hr, hq]⟩
end Run

theorem derivative_step_sim (s : DiS F) (i : Output (Quantity F)) :
    Sim (Prod.map eraseDi id) (Derivative.step true s i) (Derivative.step false (eraseDi s) (eraseOut i)) := by
  obtain ⟨v, prev⟩ := s
  rcases i with e | _ | o
  · exact .ok _
  · exact .ok _
  cases prev with
  | none => exact .ok _
  | some p =>
    simp only [Derivative.step, eraseDi, eraseOut, eraseOD]
    exact (sub_sim _ _).elim (fun _ _ => .error _ _) fun d => .ok _

theorem derivative_unchecked_never_panics (s : DiS F) (i : Output (Quantity F)) :
    ∃ r, Derivative.step false s i = .ok r := by
  -- in every case of state and input the unchecked step computes to `.ok`
  obtain ⟨v, _ | p⟩ := s <;> rcases i with e | _ | o <;> exact ⟨_, rfl⟩

theorem erase_streams_derivative :
    (∀ (s s' : DiS F) i r, Derivative.step true s i = .ok (s', r) →
      Derivative.step false (eraseDi s) (eraseOut i) = .ok (eraseDi s', r)) ∧
    (∀ s : DiS F, Derivative.get (eraseDi s) = eraseOut (Derivative.get s)) ∧
    (∀ (s s' : DiS F) is rs, runT (Derivative.step true) s is = .ok (s', rs) →
      runT (Derivative.step false) (eraseDi s) (is.map eraseOut) = .ok (eraseDi s', rs)) ∧
    (∀ (s s' : DiS F) is, runE (Derivative.step true) s is = .ok s' →
      runE (Derivative.step false) (eraseDi s) (is.map eraseOut) = .ok (eraseDi s')) :=
  ⟨fun s _ i _ => derivative_step_sim s i _, fun _ => rfl,
    fun s _ is _ => runT_sim derivative_step_sim s is _, fun s _ is => runE_sim derivative_step_sim s is _⟩

example : runT (Derivative.step true) (Derivative.init : DiS Int)
    [.ok (some ⟨1, ⟨3, ⟨1, 0⟩⟩⟩), .ok (some ⟨3, ⟨7, ⟨1, 0⟩⟩⟩)]
    = .ok (⟨.ok (some ⟨3, ⟨(7 - 3) / (2 / 1000000000), ⟨1, -1⟩⟩⟩), some ⟨3, ⟨7, ⟨1, 0⟩⟩⟩⟩, [.ok (), .ok ()]) := rfl
example : runT (Derivative.step true) (Derivative.init : DiS Int)
    [.ok (some ⟨1, ⟨3, ⟨1, 0⟩⟩⟩), .ok (some ⟨3, ⟨7, ⟨0, 1⟩⟩⟩)] = .error .dim := rfl

theorem eraseOut_some (d : Datum (Quantity F)) : eraseOut (.ok (some d)) = .ok (some (eraseD d)) := rfl

/-- erasure through `presentStep` (`Lemmas/PresentStep.lean`: the shape of the integral stream's and the three converters'
`update` on a present sample; the stream's own case tree is walked in `integral_step_present` and the three
`*_step_eq_convStep`).  `U` is what the stream has stored, `N` what its numeric core `num` returns, `S` its state — primed on
the unchecked side, with erasures `eU`, `eN`, `eS`.  If the unit assertions `a`, `a'` and the numeric cores simulate each other
and `first`, `next` commute with erasure, the two `presentStep`s simulate each other: only the numbers of a stream are left to
simulate. -/
theorem presentStep_sim {U U' N N' S S' : Type} {eU : U → U'} {eN : N → N'} {eS : S → S'} {a a' : Except Panic Unit}
    {stored : Option U} {first : S} {first' : S'} {num : U → Except Panic N} {num' : U' → Except Panic N'}
    {next : N → S} {next' : N' → S'} (ha : Sim id a a') (hfirst : first' = eS first)
    (hnum : ∀ u, Sim eN (num u) (num' (eU u))) (hnext : ∀ n, next' (eN n) = eS (next n)) :
    Sim (Prod.map eS id) (C10.presentStep a stored first num next)
      (C10.presentStep a' (stored.map eU) first' num' next') := by
  unfold C10.presentStep
  refine ha.elim (fun _ _ => .error _ _) fun _ => ?_
  cases stored with
  | none => exact .ok' (by rw [hfirst]; rfl)
  | some u => exact (hnum u).map fun n => by rw [hnext]; rfl

theorem trapStep_sim (p o : Datum (Quantity F)) (acc : Option (Quantity F)) :
    Sim eraseQ (C10.trapStep true p o acc) (C10.trapStep false (eraseD p) (eraseD o) (acc.map eraseQ)) := by
  unfold C10.trapStep
  refine Sim.bind (e := eraseQ) ?_ fun a => ?_
  · unfold C10.trapAddend
    exact (add_sim _ _).elim (fun _ _ => .error _ _) fun _ => .ok _
  · cases acc with
    | none => exact .ok _
    | some r => exact add_sim a r

theorem diAcc_erase (s : DiS F) : C10.diAcc (eraseDi s) = (C10.diAcc s).map eraseQ := by
  obtain ⟨_ | _ | _, _⟩ := s <;> rfl
theorem eraseDi_prev (s : DiS F) : (eraseDi s).prev = s.prev.map eraseD := by
  obtain ⟨_, _ | _⟩ := s <;> rfl

theorem integral_step_sim (s : DiS F) (i : Output (Quantity F)) :
    Sim (Prod.map eraseDi id) (Integral.step true s i) (Integral.step false (eraseDi s) (eraseOut i)) := by
  rcases i with e | _ | o
  · exact .ok _
  · exact .ok _
  rw [eraseOut_some, C10.integral_step_present, C10.integral_step_present, diAcc_erase, eraseDi_prev]
  exact presentStep_sim (eN := eraseQ) (.ok ()) rfl (fun p => trapStep_sim p o _) fun _ => rfl

theorem integral_unchecked_never_panics (s : DiS F) (i : Output (Quantity F)) :
    ∃ r, Integral.step false s i = .ok r := by
  obtain ⟨e' | _ | real, _ | p⟩ := s <;> rcases i with e | _ | o <;> exact ⟨_, rfl⟩

theorem erase_streams_integral :
    (∀ (s s' : DiS F) i r, Integral.step true s i = .ok (s', r) →
      Integral.step false (eraseDi s) (eraseOut i) = .ok (eraseDi s', r)) ∧
    (∀ s : DiS F, Integral.get (eraseDi s) = eraseOut (Integral.get s)) ∧
    (∀ (s s' : DiS F) is rs, runT (Integral.step true) s is = .ok (s', rs) →
      runT (Integral.step false) (eraseDi s) (is.map eraseOut) = .ok (eraseDi s', rs)) ∧
    (∀ (s s' : DiS F) is, runE (Integral.step true) s is = .ok s' →
      runE (Integral.step false) (eraseDi s) (is.map eraseOut) = .ok (eraseDi s')) :=
  ⟨fun s _ i _ => integral_step_sim s i _, fun _ => rfl,
    fun s _ is _ => runT_sim integral_step_sim s is _, fun s _ is => runE_sim integral_step_sim s is _⟩

/-- non-vacuity: three velocity samples (so that the accumulating branch runs), checked -/
example : ∃ s' rs, runT (Integral.step true) (Integral.init : DiS Int)
    [.ok (some ⟨1, ⟨3, ⟨1, -1⟩⟩⟩), .ok (some ⟨3, ⟨7, ⟨1, -1⟩⟩⟩), .ok (some ⟨4, ⟨5, ⟨1, -1⟩⟩⟩)] = .ok (s', rs) :=
  ⟨_, _, rfl⟩

theorem qHalfTimes_sim (a b dt : Quantity F) :
    Sim eraseQ (qHalfTimes true a b dt) (qHalfTimes false (eraseQ a) (eraseQ b) (eraseQ dt)) := by
  unfold qHalfTimes
  exact (add_sim a b).elim (fun _ _ => .error _ _) fun _ => .ok _

theorem erase_qHalfTimes {a b dt r : Quantity F} (h : qHalfTimes true a b dt = .ok r) :
    qHalfTimes false (eraseQ a) (eraseQ b) (eraseQ dt) = .ok (eraseQ r) :=
  qHalfTimes_sim a b dt r h

example : qHalfTimes true (⟨3, ⟨1, -2⟩⟩ : Quantity Int) ⟨5, ⟨1, -2⟩⟩ ⟨2, ⟨0, 1⟩⟩ = .ok ⟨(3 + 5) / 2 * 2, ⟨1, -1⟩⟩ := rfl

/-- the three unit assertions of the to-state converters: the unchecked one always passes -/
theorem assert_sim {a b c d : DUnit} :
    Sim id (DUnit.assertEqAssumeOk true a b) (DUnit.assertEqAssumeOk false c d) := fun _ _ => rfl

theorem accum_sim (dt a b : Quantity F) (old : Option (Quantity F)) :
    Sim eraseQ (C10.accum true dt old a b) (C10.accum false (eraseQ dt) (old.map eraseQ) (eraseQ a) (eraseQ b)) := by
  unfold C10.accum
  refine (qHalfTimes_sim a b dt).bind fun h => ?_
  cases old with
  | none => exact .ok _
  | some x => exact add_sim x h

/-- the converters' difference quotient `C10.diffQ` (not the difference stream `Rrtk.diffQ` of `Streams/Composed.lean`) -/
theorem diffQuot_sim (dt a b : Quantity F) :
    Sim eraseQ (C10.diffQ true dt a b) (C10.diffQ false (eraseQ dt) (eraseQ a) (eraseQ b)) := by
  unfold C10.diffQ
  exact (sub_sim a b).elim (fun _ _ => .error _ _) fun _ => .ok _

theorem a2sNum_sim (dt acc0 v : Quantity F) (u1 : Option (A2sU1 F)) :
    Sim eraseA1 (C10.a2sNum true dt acc0 u1 v)
      (C10.a2sNum false (eraseQ dt) (eraseQ acc0) (u1.map eraseA1) (eraseQ v)) := by
  unfold C10.a2sNum
  cases u1 with
  | none => exact (accum_sim dt acc0 v none).bind fun nv => .ok _
  | some u =>
    obtain ⟨vel, pos⟩ := u
    refine (accum_sim dt acc0 v (some vel)).bind fun nv => ?_
    refine Sim.map (e := eraseQ) ?_ fun _ => rfl
    cases pos <;> exact accum_sim dt vel nv _

theorem eraseA_eq (s : Option (A2sU0 F)) : eraseA s = s.map eraseA0 := by cases s <;> rfl

/-- `a2s_`, `v2s_`, `p2s_step_sim` are one proof: `update` is `convStep`, whose sample case goes through `presentStep_sim` with
an assertion that passes unchecked (`assert_sim`); only the numbers (`a2sNum_sim`, `v2sNum_sim`, `p2sNum_sim`) differ -/
theorem a2s_step_sim (s : Option (A2sU0 F)) (i : Output (Quantity F)) :
    Sim (Prod.map eraseA id) (A2s.step true s i) (A2s.step false (eraseA s) (eraseOut i)) := by
  rcases i with e | _ | d
  · exact .ok _
  · exact .ok _
  simp only [eraseOut_some, C10.a2s_step_eq_convStep, C10.convStep, eraseA_eq]
  refine presentStep_sim (eU := eraseA0) (eN := eraseA1) assert_sim rfl (fun u0 => ?_) fun _ => rfl
  obtain ⟨t0, acc, u1⟩ := u0
  cases u1 <;> exact a2sNum_sim _ _ _ _

theorem a2s_get_sim (s : Option (A2sU0 F)) : Sim id (A2s.get true s) (A2s.get false (eraseA s)) := by
  rcases s with _ | ⟨t0, acc, _ | ⟨vel, _ | p⟩⟩
  · exact .ok _
  · exact .ok _
  · exact .ok _
  · simp only [A2s.get, eraseA, eraseA0, eraseA1, eraseOQ]
    exact (state_new_sim _ _ _).elim (fun _ _ => .error _ _) fun st => .ok _

theorem a2s_unchecked_never_panics (s : Option (A2sU0 F)) (i : Output (Quantity F)) :
    (∃ r, A2s.step false s i = .ok r) ∧ (∃ o, A2s.get false s = .ok o) := by
  rcases s with _ | ⟨t0, acc, _ | ⟨vel, _ | p⟩⟩ <;> rcases i with e | _ | d <;> exact ⟨⟨_, rfl⟩, ⟨_, rfl⟩⟩

theorem erase_streams_a2s :
    (∀ (s s' : Option (A2sU0 F)) i r, A2s.step true s i = .ok (s', r) →
      A2s.step false (eraseA s) (eraseOut i) = .ok (eraseA s', r)) ∧
    (∀ (s : Option (A2sU0 F)) o, A2s.get true s = .ok o → A2s.get false (eraseA s) = .ok o) ∧
    (∀ (s s' : Option (A2sU0 F)) is rs, runT (A2s.step true) s is = .ok (s', rs) →
      runT (A2s.step false) (eraseA s) (is.map eraseOut) = .ok (eraseA s', rs)) ∧
    (∀ (s s' : Option (A2sU0 F)) is, runE (A2s.step true) s is = .ok s' →
      runE (A2s.step false) (eraseA s) (is.map eraseOut) = .ok (eraseA s')) :=
  ⟨fun s _ i _ => a2s_step_sim s i _, a2s_get_sim,
    fun s _ is _ => runT_sim a2s_step_sim s is _, fun s _ is => runE_sim a2s_step_sim s is _⟩

/-- non-vacuity: four acceleration samples (every branch of `update` runs), checked; the getter then succeeds -/
example : ∃ s' rs o, runT (A2s.step true) (A2s.init : Option (A2sU0 Int))
    [.ok (some ⟨1, ⟨3, ⟨1, -2⟩⟩⟩), .ok (some ⟨3, ⟨7, ⟨1, -2⟩⟩⟩), .ok (some ⟨4, ⟨5, ⟨1, -2⟩⟩⟩),
      .ok (some ⟨6, ⟨5, ⟨1, -2⟩⟩⟩)] = .ok (s', rs) ∧ A2s.get true s' = .ok (.ok (some o)) :=
  ⟨_, _, _, rfl, rfl⟩

theorem v2sNum_sim (dt vel0 v : Quantity F) (u1 : Option (V2sU1 F)) :
    Sim eraseV1 (C10.v2sNum true dt vel0 u1 v)
      (C10.v2sNum false (eraseQ dt) (eraseQ vel0) (u1.map eraseV1) (eraseQ v)) := by
  unfold C10.v2sNum
  refine (diffQuot_sim dt v vel0).bind fun acc => ?_
  refine Sim.map (e := eraseQ) ?_ fun _ => rfl
  cases u1 <;> exact accum_sim dt vel0 v _

theorem eraseV_eq (s : Option (V2sU0 F)) : eraseV s = s.map eraseV0 := by cases s <;> rfl

theorem v2s_step_sim (s : Option (V2sU0 F)) (i : Output (Quantity F)) :
    Sim (Prod.map eraseV id) (V2s.step true s i) (V2s.step false (eraseV s) (eraseOut i)) := by
  rcases i with e | _ | d
  · exact .ok _
  · exact .ok _
  simp only [eraseOut_some, C10.v2s_step_eq_convStep, C10.convStep, eraseV_eq]
  refine presentStep_sim (eU := eraseV0) (eN := eraseV1) assert_sim rfl (fun u0 => ?_) fun _ => rfl
  obtain ⟨t0, vel, u1⟩ := u0
  cases u1 <;> exact v2sNum_sim _ _ _ _

theorem v2s_get_sim (s : Option (V2sU0 F)) : Sim id (V2s.get true s) (V2s.get false (eraseV s)) := by
  rcases s with _ | ⟨t0, vel, _ | ⟨acc, pos⟩⟩
  · exact .ok _
  · exact .ok _
  · simp only [V2s.get, eraseV, eraseV0, eraseV1]
    exact (state_new_sim _ _ _).elim (fun _ _ => .error _ _) fun st => .ok _

theorem v2s_unchecked_never_panics (s : Option (V2sU0 F)) (i : Output (Quantity F)) :
    (∃ r, V2s.step false s i = .ok r) ∧ (∃ o, V2s.get false s = .ok o) := by
  rcases s with _ | ⟨t0, vel, _ | u1⟩ <;> rcases i with e | _ | d <;> exact ⟨⟨_, rfl⟩, ⟨_, rfl⟩⟩

theorem erase_streams_v2s :
    (∀ (s s' : Option (V2sU0 F)) i r, V2s.step true s i = .ok (s', r) →
      V2s.step false (eraseV s) (eraseOut i) = .ok (eraseV s', r)) ∧
    (∀ (s : Option (V2sU0 F)) o, V2s.get true s = .ok o → V2s.get false (eraseV s) = .ok o) ∧
    (∀ (s s' : Option (V2sU0 F)) is rs, runT (V2s.step true) s is = .ok (s', rs) →
      runT (V2s.step false) (eraseV s) (is.map eraseOut) = .ok (eraseV s', rs)) ∧
    (∀ (s s' : Option (V2sU0 F)) is, runE (V2s.step true) s is = .ok s' →
      runE (V2s.step false) (eraseV s) (is.map eraseOut) = .ok (eraseV s')) :=
  ⟨fun s _ i _ => v2s_step_sim s i _, v2s_get_sim,
    fun s _ is _ => runT_sim v2s_step_sim s is _, fun s _ is => runE_sim v2s_step_sim s is _⟩

example : ∃ s' rs o, runT (V2s.step true) (V2s.init : Option (V2sU0 Int))
    [.ok (some ⟨1, ⟨3, ⟨1, -1⟩⟩⟩), .ok (some ⟨3, ⟨7, ⟨1, -1⟩⟩⟩), .ok (some ⟨4, ⟨5, ⟨1, -1⟩⟩⟩)] = .ok (s', rs) ∧
    V2s.get true s' = .ok (.ok (some o)) :=
  ⟨_, _, _, rfl, rfl⟩

theorem p2sNum_sim (dt pos0 v : Quantity F) (u1 : Option (P2sU1 F)) :
    Sim eraseP1 (C10.p2sNum true dt pos0 u1 v)
      (C10.p2sNum false (eraseQ dt) (eraseQ pos0) (u1.map eraseP1) (eraseQ v)) := by
  unfold C10.p2sNum
  refine (diffQuot_sim dt v pos0).bind fun v1 => ?_
  cases u1 with
  | none => exact .ok _
  | some u => exact (diffQuot_sim dt v1 u.vel).map fun _ => rfl

theorem eraseP_eq (s : Option (P2sU0 F)) : eraseP s = s.map eraseP0 := by cases s <;> rfl

theorem p2s_step_sim (s : Option (P2sU0 F)) (i : Output (Quantity F)) :
    Sim (Prod.map eraseP id) (P2s.step true s i) (P2s.step false (eraseP s) (eraseOut i)) := by
  rcases i with e | _ | d
  · exact .ok _
  · exact .ok _
  simp only [eraseOut_some, C10.p2s_step_eq_convStep, C10.convStep, eraseP_eq]
  refine presentStep_sim (eU := eraseP0) (eN := eraseP1) assert_sim rfl (fun u0 => ?_) fun _ => rfl
  obtain ⟨t0, pos, u1⟩ := u0
  cases u1 <;> exact p2sNum_sim _ _ _ _

theorem p2s_get_sim (s : Option (P2sU0 F)) : Sim id (P2s.get true s) (P2s.get false (eraseP s)) := by
  rcases s with _ | ⟨t0, pos, _ | ⟨vel, _ | a⟩⟩
  · exact .ok _
  · exact .ok _
  · exact .ok _
  · simp only [P2s.get, eraseP, eraseP0, eraseP1, eraseOQ]
    exact (state_new_sim _ _ _).elim (fun _ _ => .error _ _) fun st => .ok _

theorem p2s_unchecked_never_panics (s : Option (P2sU0 F)) (i : Output (Quantity F)) :
    (∃ r, P2s.step false s i = .ok r) ∧ (∃ o, P2s.get false s = .ok o) := by
  rcases s with _ | ⟨t0, pos, _ | ⟨vel, _ | a⟩⟩ <;> rcases i with e | _ | d <;> exact ⟨⟨_, rfl⟩, ⟨_, rfl⟩⟩

theorem erase_streams_p2s :
    (∀ (s s' : Option (P2sU0 F)) i r, P2s.step true s i = .ok (s', r) →
      P2s.step false (eraseP s) (eraseOut i) = .ok (eraseP s', r)) ∧
    (∀ (s : Option (P2sU0 F)) o, P2s.get true s = .ok o → P2s.get false (eraseP s) = .ok o) ∧
    (∀ (s s' : Option (P2sU0 F)) is rs, runT (P2s.step true) s is = .ok (s', rs) →
      runT (P2s.step false) (eraseP s) (is.map eraseOut) = .ok (eraseP s', rs)) ∧
    (∀ (s s' : Option (P2sU0 F)) is, runE (P2s.step true) s is = .ok s' →
      runE (P2s.step false) (eraseP s) (is.map eraseOut) = .ok (eraseP s')) :=
  ⟨fun s _ i _ => p2s_step_sim s i _, p2s_get_sim,
    fun s _ is _ => runT_sim p2s_step_sim s is _, fun s _ is => runE_sim p2s_step_sim s is _⟩

example : ∃ s' rs o, runT (P2s.step true) (P2s.init : Option (P2sU0 Int))
    [.ok (some ⟨1, ⟨3, ⟨1, 0⟩⟩⟩), .ok (some ⟨3, ⟨7, ⟨1, 0⟩⟩⟩), .ok (some ⟨4, ⟨5, ⟨1, 0⟩⟩⟩)] = .ok (s', rs) ∧
    P2s.get true s' = .ok (.ok (some o)) :=
  ⟨_, _, _, rfl, rfl⟩
example : P2s.step true (P2s.init : Option (P2sU0 Int)) (.ok (some ⟨1, ⟨3, ⟨1, -1⟩⟩⟩)) = .error .dim := rfl

theorem streams_unchecked_never_panics :
    (∀ (s : DiS F) i, ∃ r, Derivative.step false s i = .ok r) ∧
    (∀ (s : DiS F) i, ∃ r, Integral.step false s i = .ok r) ∧
    (∀ (s : Option (A2sU0 F)) i, (∃ r, A2s.step false s i = .ok r) ∧ ∃ o, A2s.get false s = .ok o) ∧
    (∀ (s : Option (V2sU0 F)) i, (∃ r, V2s.step false s i = .ok r) ∧ ∃ o, V2s.get false s = .ok o) ∧
    (∀ (s : Option (P2sU0 F)) i, (∃ r, P2s.step false s i = .ok r) ∧ ∃ o, P2s.get false s = .ok o) ∧
    (∀ (s : DiS F) is, ∃ q, runT (Derivative.step false) s is = .ok q) ∧
    (∀ (s : DiS F) is, ∃ q, runT (Integral.step false) s is = .ok q) ∧
    (∀ (s : Option (A2sU0 F)) is, ∃ q, runT (A2s.step false) s is = .ok q) ∧
    (∀ (s : Option (V2sU0 F)) is, ∃ q, runT (V2s.step false) s is = .ok q) ∧
    (∀ (s : Option (P2sU0 F)) is, ∃ q, runT (P2s.step false) s is = .ok q) :=
  ⟨derivative_unchecked_never_panics, integral_unchecked_never_panics, a2s_unchecked_never_panics,
    v2s_unchecked_never_panics, p2s_unchecked_never_panics,
    runT_total _ derivative_unchecked_never_panics, runT_total _ integral_unchecked_never_panics,
    runT_total _ (fun s i => (a2s_unchecked_never_panics s i).1),
    runT_total _ (fun s i => (v2s_unchecked_never_panics s i).1),
    runT_total _ (fun s i => (p2s_unchecked_never_panics s i).1)⟩

/-! ### the `Quantity` instantiations of `EWMAStream` and `MovingAverageStream` -/
theorem erase_scaleQdl (q : Quantity F) (x : F) : eraseQ (scaleQdl true q x) = scaleQdl false (eraseQ q) x := rfl
theorem erase_scaleQs (q : Quantity F) (x : F) : eraseQ (scaleQs true q x) = scaleQs false (eraseQ q) x := rfl
theorem erase_divQs (q : Quantity F) (x : F) : eraseQ (divQs true q x) = divQs false (eraseQ q) x := rfl
theorem unchecked_scale (q : Quantity F) (x : F) :
    scaleQdl false q x = ⟨q.value * x, ⟨0, 0⟩⟩ ∧ scaleQs false q x = ⟨q.value * x, ⟨0, 0⟩⟩ ∧
    divQs false q x = ⟨q.value / x, ⟨0, 0⟩⟩ := ⟨rfl, rfl, rfl⟩

theorem ewma_step_sim (sm : F) (s : EwmaS (Quantity F)) (i : Output (Quantity F)) :
    Sim (Prod.map eraseEw id) (Ewma.step (scaleQdl true) (Quantity.add true) sm s i)
      (Ewma.step (scaleQdl false) (Quantity.add false) sm (eraseEw s) (eraseOut i)) := by
  obtain ⟨v, ut⟩ := s
  rcases i with e | _ | o
  · exact .ok _
  · rcases v with e | ov <;> exact .ok _
  rcases v with e | _ | d
  · simp only [Ewma.step, eraseEw, eraseOut, eraseOD]
    exact (add_sim _ _).elim (fun _ _ => .error _ _) fun w => .ok _
  · simp only [Ewma.step, eraseEw, eraseOut, eraseOD]
    exact (add_sim _ _).elim (fun _ _ => .error _ _) fun w => .ok _
  · cases ut with
    | none => exact .error _ _
    | some pt =>
      simp only [Ewma.step, eraseEw, eraseOut, eraseOD]
      exact (add_sim _ _).elim (fun _ _ => .error _ _) fun w => .ok _

/-- unchecked, the Quantity EWMA never panics on units (its only panic is the `expect` on a missing update time) -/
theorem ewma_unchecked_never_dim (sm : F) (s : EwmaS (Quantity F)) (i : Output (Quantity F)) :
    Ewma.step (scaleQdl false) (Quantity.add false) sm s i ≠ .error .dim := by
  obtain ⟨e' | _ | d, _ | pt⟩ := s <;> rcases i with e | _ | o <;> (intro h; cases h)

theorem erase_streams_ewma (sm : F) :
    (∀ (s : EwmaS (Quantity F)) i r, Ewma.step (scaleQdl true) (Quantity.add true) sm s i = .ok r →
      Ewma.step (scaleQdl false) (Quantity.add false) sm (eraseEw s) (eraseOut i) = .ok (eraseEw r.1, r.2)) ∧
    (∀ s : EwmaS (Quantity F), Ewma.get (eraseEw s) = eraseOut (Ewma.get s)) ∧
    (∀ (s s' : EwmaS (Quantity F)) is rs, runT (Ewma.step (scaleQdl true) (Quantity.add true) sm) s is = .ok (s', rs) →
      runT (Ewma.step (scaleQdl false) (Quantity.add false) sm) (eraseEw s) (is.map eraseOut) = .ok (eraseEw s', rs)) ∧
    (∀ (s : EwmaS (Quantity F)) i, Ewma.step (scaleQdl false) (Quantity.add false) sm s i ≠ .error .dim) :=
  ⟨ewma_step_sim sm, fun _ => rfl, fun s _ is _ => runT_sim (ewma_step_sim sm) s is _, ewma_unchecked_never_dim sm⟩

/-- non-vacuity: three samples in mm through the checked EWMA (`powf` of the toy scalar returns its base) -/
example : ∃ s' rs, runT (Ewma.step (scaleQdl true) (Quantity.add true) (2 : Int)) (Ewma.init : EwmaS (Quantity Int))
    [.ok (some ⟨1, ⟨3, ⟨1, 0⟩⟩⟩), .ok (some ⟨3, ⟨7, ⟨1, 0⟩⟩⟩), .ok (some ⟨4, ⟨5, ⟨1, 0⟩⟩⟩)] = .ok (s', rs) :=
  ⟨_, _, rfl⟩

theorem trim_erase (cut : Int) (q : List (Datum (Quantity F))) :
    Ma.trim cut (q.map eraseD) = match Ma.trim cut q with
      | .error p => .error p
      | .ok q' => .ok (q'.map eraseD) := by
  induction q with
  | nil => rfl
  | cons d ds ih =>
    simp only [List.map_cons, Ma.trim, eraseD_time]
    by_cases hd : d.time ≤ cut
    · simp only [hd, if_true]; exact ih
    · simp only [hd, if_false, List.map_cons]

theorem weightsNs_erase (cut : Int) (q : List (Datum (Quantity F))) :
    Ma.weightsNs cut (q.map eraseD) = Ma.weightsNs cut q := by
  induction q generalizing cut with
  | nil => rfl
  | cons d ds ih => simp only [List.map_cons, Ma.weightsNs, eraseD_time, ih]

theorem zip_erase (q : List (Datum (Quantity F))) (ws : List F) :
    ((q.map eraseD).map (·.value)).zip ws = ((q.map (·.value)).zip ws).map (Prod.map eraseQ id) := by
  induction q generalizing ws with
  | nil => rfl
  | cons d ds ih =>
    cases ws with
    | nil => rfl
    | cons w ws => simp only [List.map_cons, List.zip_cons_cons, ih]; rfl

theorem accumulate_sim (l : List (Quantity F × F)) (acc : Option (Quantity F)) :
    Sim eraseOQ (Ma.accumulate (scaleQs true) (Quantity.add true) acc l)
      (Ma.accumulate (scaleQs false) (Quantity.add false) (eraseOQ acc) (l.map (Prod.map eraseQ id))) := by
  induction l generalizing acc with
  | nil => cases acc <;> exact .ok _
  | cons vw rest ih =>
    obtain ⟨v, w⟩ := vw
    cases acc with
    | none => exact ih _
    | some a =>
      simp only [Ma.accumulate, List.map_cons, Prod.map, eraseOQ, id]
      exact (add_sim _ _).elim (fun _ _ => .error _ _) fun a' => ih (some a')

theorem ma_step_sim (zero : Option (Quantity F)) (window : Int) (s : MaS (Quantity F)) (i : Output (Quantity F)) :
    Sim (Prod.map eraseMa id) (Ma.step (scaleQs true) (Quantity.add true) (divQs true) zero window s i)
      (Ma.step (scaleQs false) (Quantity.add false) (divQs false) (eraseOQ zero) window (eraseMa s) (eraseOut i)) := by
  obtain ⟨v, q⟩ := s
  rcases i with e | _ | o
  · exact .ok _
  · rcases v with e | ov <;> exact .ok _
  have hq : q.map eraseD ++ [eraseD o] = (q ++ [o]).map eraseD := by simp
  simp only [Ma.step, eraseMa, eraseOut, eraseOD, eraseD_time, hq, trim_erase]
  cases Ma.trim (o.time - window) (q ++ [o]) with
  | error p => exact .error _ _
  | ok q' =>
    simp only [weightsNs_erase, zip_erase]
    refine (accumulate_sim _ zero).elim (fun _ _ => .error _ _) fun r => ?_
    cases r
    · exact .error _ _
    · exact .ok _

theorem accumulate_unchecked (l : List (Quantity F × F)) (acc : Option (Quantity F)) :
    ∃ r, Ma.accumulate (scaleQs false) (Quantity.add false) acc l = .ok r := by
  induction l generalizing acc with
  | nil => cases acc <;> exact ⟨_, rfl⟩
  | cons vw rest ih =>
    obtain ⟨v, w⟩ := vw
    cases acc with
    | none => simp only [Ma.accumulate]; exact ih _
    | some a => exact ih (some ⟨a.value + (scaleQs false v w).value, a.unit⟩)

/-- emptying the queue is the only way `trim` fails -/
theorem trim_err {T : Type} {cut : Int} {l : List (Datum T)} {p : Panic} (h : Ma.trim cut l = .error p) : p = .oob := by
  induction l with
  | nil => cases h; rfl
  | cons d ds ih =>
    simp only [Ma.trim] at h
    split at h
    · exact ih h
    · cases h

theorem ma_unchecked_never_dim (zero : Option (Quantity F)) (window : Int) (s : MaS (Quantity F))
    (i : Output (Quantity F)) :
    Ma.step (scaleQs false) (Quantity.add false) (divQs false) zero window s i ≠ .error .dim := by
  rcases i with e | _ | o
  · intro h; cases h
  · obtain ⟨_ | _, q⟩ := s <;> (intro h; cases h)
  simp only [Ma.step]
  cases ht : Ma.trim (o.time - window) (s.queue ++ [o]) with
  | error p => cases trim_err ht; intro h; cases h
  | ok q' =>
    obtain ⟨r, hr⟩ := accumulate_unchecked
      ((q'.map (·.value)).zip ((Ma.weightsNs (o.time - window) q').map (fun n => (secs n : F)))) zero
    simp only [hr]
    cases r <;> (intro h; cases h)

/-- the Quantity impl has `zero = none`; any `zero` here -/
theorem erase_streams_ma (zero : Option (Quantity F)) (window : Int) :
    (∀ (s : MaS (Quantity F)) i r, Ma.step (scaleQs true) (Quantity.add true) (divQs true) zero window s i = .ok r →
      Ma.step (scaleQs false) (Quantity.add false) (divQs false) (eraseOQ zero) window (eraseMa s) (eraseOut i)
        = .ok (eraseMa r.1, r.2)) ∧
    (∀ s : MaS (Quantity F), Ma.get (eraseMa s) = eraseOut (Ma.get s)) ∧
    (∀ (s s' : MaS (Quantity F)) is rs,
      runT (Ma.step (scaleQs true) (Quantity.add true) (divQs true) zero window) s is = .ok (s', rs) →
      runT (Ma.step (scaleQs false) (Quantity.add false) (divQs false) (eraseOQ zero) window) (eraseMa s)
        (is.map eraseOut) = .ok (eraseMa s', rs)) ∧
    (∀ (s : MaS (Quantity F)) i,
      Ma.step (scaleQs false) (Quantity.add false) (divQs false) zero window s i ≠ .error .dim) :=
  ⟨ma_step_sim zero window, fun _ => rfl, fun s _ is _ => runT_sim (ma_step_sim zero window) s is _,
    ma_unchecked_never_dim zero window⟩

/-- non-vacuity: three samples in mm, window 2 ns, checked (the last update drops the first two samples) -/
example : ∃ s' rs, runT (Ma.step (scaleQs true) (Quantity.add true) (divQs true) none 2) (Ma.init : MaS (Quantity Int))
    [.ok (some ⟨1, ⟨3, ⟨1, 0⟩⟩⟩), .ok (some ⟨2, ⟨7, ⟨1, 0⟩⟩⟩), .ok (some ⟨4, ⟨5, ⟨1, 0⟩⟩⟩)] = .ok (s', rs) ∧
    s'.queue.length = 1 :=
  ⟨_, _, rfl, rfl⟩

theorem erase_mp_new {s e : State F} {mv ma : Quantity F} {mp : MotionProfile F}
    (h : MotionProfile.new true s e mv ma = .ok mp) :
    MotionProfile.new false s e (eraseQ mv) (eraseQ ma) = .ok (eraseMp mp) := by
  obtain ⟨h1, h3, h2, rfl⟩ := MpL.new_ok h
  rw [MpL.new_false]
  exact MpL.newSpec_of_nonneg false h1 h3 h2

theorem mp_new_unchecked_units (s e : State F) (mv ma : Quantity F) :
    MotionProfile.new false s e mv ma = MotionProfile.new false s e (eraseQ mv) (eraseQ ma) := by
  -- through the closed form: a direct `rfl` makes the kernel normalise the whole constructor twice
  rw [MpL.new_false, MpL.new_false]; rfl

/-- unchecked, the constructor never panics on units: only the three asserts remain -/
theorem mp_new_unchecked_never_dim (s e : State F) (mv ma : Quantity F) :
    MotionProfile.new false s e mv ma ≠ .error .dim ∧ MotionProfile.new false s e mv ma ≠ .error .expect := by
  rw [MpL.new_false]
  unfold MpL.newSpec
  -- the leaves of the three asserts are `.error .mpT1`, `.error .mpT3`, `.error .mpT2` and `.ok _`
  split
  · exact ⟨nofun, nofun⟩
  split
  · exact ⟨nofun, nofun⟩
  split <;> exact ⟨nofun, nofun⟩

theorem getMode_erase (mp : MotionProfile F) (t : Int) : (eraseMp mp).getMode t = mp.getMode t := rfl
theorem getPiece_erase (mp : MotionProfile F) (t : Int) : (eraseMp mp).getPiece t = mp.getPiece t := rfl

/-! Each accessor selects one of five leaves by `getPiece t` (`MpL.chain_eq_pick`), and erasure keeps the piece: the two
builds are compared leaf by leaf. -/
theorem getAcceleration_erase (mp : MotionProfile F) (t : Int) :
    (eraseMp mp).getAcceleration false t = eraseOQ (mp.getAcceleration true t) := by
  rw [MpL.getAcceleration_eq, MpL.getAcceleration_eq, getPiece_erase]
  obtain ⟨p0, v0, t1, t2, t3, a, ec⟩ := mp
  cases MotionProfile.getPiece _ t
  · rfl
  · rfl
  · rfl
  · rfl
  · cases ec <;> rfl

theorem add3_sim (a b c : Quantity F) :
    Sim eraseQ (MotionProfile.add3 true a b c) (MotionProfile.add3 false (eraseQ a) (eraseQ b) (eraseQ c)) := by
  unfold MotionProfile.add3
  exact (add_sim a b).elim (fun _ _ => .error _ _) fun ab => add_sim ab c

theorem getVelocity_sim (mp : MotionProfile F) (t : Int) :
    Sim eraseOQ (mp.getVelocity true t) ((eraseMp mp).getVelocity false t) := by
  rw [MpL.getVelocity_eq, MpL.getVelocity_eq, getPiece_erase]
  obtain ⟨p0, v0, t1, t2, t3, a, ec⟩ := mp
  cases MotionProfile.getPiece _ t
  · exact .ok _
  · exact (add_sim _ _).map fun _ => rfl
  · exact (add_sim _ _).map fun _ => rfl
  · exact (add_sim _ _).map fun _ => rfl
  · cases ec <;> exact .ok _

theorem getPosition_sim (mp : MotionProfile F) (t : Int) :
    Sim eraseOQ (mp.getPosition true t) ((eraseMp mp).getPosition false t) := by
  unfold MotionProfile.getPosition
  rw [MpL.chain_eq_pick, MpL.chain_eq_pick, getPiece_erase]
  obtain ⟨p0, v0, t1, t2, t3, a, ec⟩ := mp
  cases MotionProfile.getPiece _ t <;> dsimp only [MpPiece.pick, eraseMp]
  · exact .ok _
  · exact (add3_sim _ _ _).map fun _ => rfl
  · exact (add3_sim _ _ _).map fun _ => rfl
  · exact (sub_sim _ _).elim (fun _ _ => .error _ _) fun ab => (add3_sim _ _ _).map fun _ => rfl
  · cases ec <;> exact .ok _

theorem getVelocity_unchecked (mp : MotionProfile F) (t : Int) : ∃ x, mp.getVelocity false t = .ok x := by
  rw [MpL.getVelocity_eq]
  cases mp.getPiece t <;> exact ⟨_, rfl⟩

theorem getPosition_unchecked (mp : MotionProfile F) (t : Int) : ∃ x, mp.getPosition false t = .ok x := by
  unfold MotionProfile.getPosition
  rw [MpL.chain_eq_pick]
  cases mp.getPiece t <;> exact ⟨_, rfl⟩

/-- `History::get`: the command datum (time, kind, value) is identical -/
theorem historyGet_sim (mp : MotionProfile F) (t : Int) :
    Sim id (mp.historyGet true t) ((eraseMp mp).historyGet false t) := by
  simp only [MotionProfile.historyGet, getMode_erase]
  rcases mp.getMode t with _ | _ | _ | _ <;> dsimp only
  · exact .ok _
  · refine (getPosition_sim mp t).elim (fun _ _ => .error _ _) fun o => ?_
    cases o
    · exact .error _ _
    · exact .ok _
  · refine (getVelocity_sim mp t).elim (fun _ _ => .error _ _) fun o => ?_
    cases o
    · exact .error _ _
    · exact .ok _
  · rw [getAcceleration_erase]
    cases mp.getAcceleration true t
    · exact .error _ _
    · exact .ok _

theorem historyGet_unchecked_never_dim (mp : MotionProfile F) (t : Int) :
    mp.historyGet false t ≠ .error .dim := by
  obtain ⟨xp, hp⟩ := getPosition_unchecked mp t
  obtain ⟨xv, hv⟩ := getVelocity_unchecked mp t
  simp only [MotionProfile.historyGet, hp, hv]
  rcases mp.getMode t with _ | _ | _ | _ <;> dsimp only
  · intro h; cases h
  · cases xp <;> (intro h; cases h)
  · cases xv <;> (intro h; cases h)
  · cases mp.getAcceleration false t <;> (intro h; cases h)

/-- A profile accepted by the checked constructor: the unchecked constructor (fed the same states
and the erased limits) accepts too, with the same three switch times, and at every instant at which the checked command
history returns, the unchecked one returns exactly its datum (timestamp, kind, value). -/
theorem erase_mp_end_to_end {s e : State F} {mv ma : Quantity F} {mp : MotionProfile F}
    (h : MotionProfile.new true s e mv ma = .ok mp) :
    ∃ mp', MotionProfile.new false s e (eraseQ mv) (eraseQ ma) = .ok mp' ∧
      mp'.t1 = mp.t1 ∧ mp'.t2 = mp.t2 ∧ mp'.t3 = mp.t3 ∧ mp'.endCommand = mp.endCommand ∧
      mp'.startPos.value = mp.startPos.value ∧ mp'.startVel.value = mp.startVel.value ∧
      mp'.maxAcc.value = mp.maxAcc.value ∧
      ∀ t, mp'.getPiece t = mp.getPiece t ∧ mp'.getMode t = mp.getMode t ∧
        ∀ x, mp.historyGet true t = .ok x → mp'.historyGet false t = .ok x :=
  ⟨eraseMp mp, erase_mp_new h, rfl, rfl, rfl, rfl, rfl, rfl, rfl, fun t => ⟨rfl, rfl, historyGet_sim mp t⟩⟩

example : MotionProfile.add3 true (⟨1, ⟨1, 0⟩⟩ : Quantity Int) ⟨2, ⟨1, 0⟩⟩ ⟨3, ⟨1, 0⟩⟩ = .ok ⟨1 + 2 + 3, ⟨1, 0⟩⟩ := rfl

theorem erase_motion_profile :
    (∀ (s e : State F) (mv ma : Quantity F) (mp : MotionProfile F), MotionProfile.new true s e mv ma = .ok mp →
      MotionProfile.new false s e (eraseQ mv) (eraseQ ma) = .ok (eraseMp mp)) ∧
    (∀ (mp : MotionProfile F) (t : Int),
      (eraseMp mp).getPiece t = mp.getPiece t ∧
      (eraseMp mp).getMode t = mp.getMode t ∧
      (eraseMp mp).getAcceleration false t = eraseOQ (mp.getAcceleration true t) ∧
      (∀ x, mp.getVelocity true t = .ok x → (eraseMp mp).getVelocity false t = .ok (eraseOQ x)) ∧
      (∀ x, mp.getPosition true t = .ok x → (eraseMp mp).getPosition false t = .ok (eraseOQ x)) ∧
      (∀ x, mp.historyGet true t = .ok x → (eraseMp mp).historyGet false t = .ok x)) ∧
    (∀ (mp : MotionProfile F) (t : Int),
      (∃ x, mp.getVelocity false t = .ok x) ∧ (∃ x, mp.getPosition false t = .ok x) ∧
      mp.historyGet false t ≠ .error .dim) :=
  ⟨fun _ _ _ _ _ => erase_mp_new,
    fun mp t => ⟨rfl, rfl, getAcceleration_erase mp t, getVelocity_sim mp t, getPosition_sim mp t, historyGet_sim mp t⟩,
    fun mp t => ⟨getVelocity_unchecked mp t, getPosition_unchecked mp t, historyGet_unchecked_never_dim mp t⟩⟩

/-- a well-dimensioned profile with all five pieces (t1 = 10, t2 = 30, t3 = 40 ns) -/
def mpI : MotionProfile Int :=
  ⟨⟨0, ⟨1, 0⟩⟩, ⟨5, ⟨1, -1⟩⟩, 10, 30, 40, ⟨3, ⟨1, -2⟩⟩, .position 7⟩
example : ∀ t ∈ [-1, 5, 20, 35, 45], (∃ x, mpI.getVelocity true t = .ok x) ∧ (∃ x, mpI.getPosition true t = .ok x) ∧
    ∃ x, mpI.historyGet true t = .ok x := by
  intro t ht
  simp only [List.mem_cons, List.not_mem_nil, or_false] at ht
  rcases ht with rfl | rfl | rfl | rfl | rfl <;> exact ⟨⟨_, rfl⟩, ⟨_, rfl⟩, ⟨_, rfl⟩⟩
example : ({ mpI with startVel := ⟨5, ⟨1, 0⟩⟩ } : MotionProfile Int).getVelocity true 5 = .error .dim := rfl

/-- non-vacuity of `erase_mp_new` over `ℚ`: the test-suite's first profile is accepted with checking on -/
example : ∃ mp, MotionProfile.new true (⟨0, 0, 0⟩ : State ℚ) ⟨3, 0, 0⟩ ⟨1/10, ⟨1, -1⟩⟩ ⟨1/100, ⟨1, -2⟩⟩ = .ok mp :=
  ⟨_, C06.new_example⟩

/-! ## `std` vs `no_std`: the hand-written absolute value -/

/-- (tier S/L) what the hand-written `no_std` `Quantity::abs` (the one before 24d9cb7, see the head of the file) returns:
the value itself when `0.0 <= v`, its negation otherwise; unit kept.  For binary32 this equals `f32::abs` as a value on
every non-NaN input (`-0.0 >= 0.0` holds, so `-0.0` is returned unchanged where `f32::abs` returns `+0.0`: the two differ
only in the sign of zero; on NaN the manual version returns `-NaN`, still NaN). -/
theorem absManual_spec (q : Quantity F) :
    (Quantity.absManual q).unit = q.unit ∧
    ((c0 : F) ≤ q.value → (Quantity.absManual q).value = q.value) ∧
    (¬ (c0 : F) ≤ q.value → (Quantity.absManual q).value = -q.value) := by
  refine ⟨rfl, fun h => ?_, fun h => ?_⟩
  · simp only [Quantity.absManual, h, if_true]
  · simp only [Quantity.absManual, h, if_false]

/-- (tier L) the two agree exactly under the two facts that define an absolute value.  Bit for bit, binary32 violates the
first at `v = -0.0` and the second at a NaN whose sign bit is clear, and nowhere else. -/
theorem manual_abs_eq_abs_of_laws (habs_nonneg : ∀ v : F, (c0 : F) ≤ v → FloatLike.absF v = v)
    (habs_neg : ∀ v : F, ¬ (c0 : F) ≤ v → FloatLike.absF v = -v) (q : Quantity F) :
    Quantity.absManual q = Quantity.abs q := by
  obtain ⟨v, u⟩ := q
  by_cases h : (c0 : F) ≤ v
  · simp only [Quantity.absManual, Quantity.abs, h, if_true, habs_nonneg v h]
  · simp only [Quantity.absManual, Quantity.abs, h, if_false, habs_neg v h]
/-- the hypotheses hold for the toy integer scalar -/
example : (∀ v : Int, (c0 : Int) ≤ v → FloatLike.absF v = v) ∧ (∀ v : Int, ¬ (c0 : Int) ≤ v → FloatLike.absF v = -v) := by
  -- on `Int`, `c0` is `0` and `absF v` is `if v < 0 then -v else v`
  exact ⟨fun v (h : (0 : Int) ≤ v) => if_neg (by omega), fun v (h : ¬ (0 : Int) ≤ v) => if_pos (by omega)⟩
end S

section R
variable {F : Type} [Field F] [LinearOrder F] [IsStrictOrderedRing F] [FloatLike F] [ExactScalar F]

/-- (tier R) over an ordered field the hand-written `if v >= 0.0 { v } else { -v }` is `|v|` -/
theorem manual_abs_eq_abs (q : Quantity F) : Quantity.absManual q = Quantity.abs q := by
  refine manual_abs_eq_abs_of_laws (fun v h => ?_) (fun v h => ?_) q
  · rw [c0_eq] at h; rw [ExactScalar.absF_eq, abs_of_nonneg h]
  · rw [c0_eq] at h; rw [ExactScalar.absF_eq, abs_of_neg (lt_of_not_ge h)]
end R

/-! ### which builds have dimension checking: the cfg gates regenerated from the source -/
-- An unchecked build, C19's, is one where the rule `checkingOn` does not hold.  The four facts are those of `Thm/C01.lean`,
-- where they are explained.
theorem dim_gates_nonempty : Gen.dimGates ≠ [] := C01.dim_gates_nonempty
theorem dim_gates_uniform : ∀ g ∈ Gen.dimGates,
    (∀ dbg rel dbgF o unk : Bool, g.2.2.eval dbg (dimEnv rel dbgF o) unk = checkingOn dbg rel dbgF) ∨
    (∀ dbg rel dbgF o unk : Bool, g.2.2.eval dbg (dimEnv rel dbgF o) unk = !checkingOn dbg rel dbgF) :=
  C01.dim_gates_uniform
theorem dim_gates_both_polarities :
    (∃ g ∈ Gen.dimGates, g.2.2.eval true (dimEnv true true false) false = true) ∧
    (∃ g ∈ Gen.dimGates, g.2.2.eval true (dimEnv true true false) false = false) :=
  C01.dim_gates_both_polarities
theorem checkingOn_table :
    (∀ dbg dbgF, checkingOn dbg true dbgF = true) ∧ (∀ dbgF, checkingOn false false dbgF = false) ∧
    checkingOn true false true = true ∧ (∀ dbg, checkingOn dbg false false = false) :=
  C01.checkingOn_table

end Rrtk.Thm.C19
