/-
C05 — stateful streams: no stale errors, reset erases history, get is pure.
Tier S.  For each stream the facts are proved for ONE step from an ARBITRARY state — what the getter shows after the
step (`*_showsInputErr`), which events act as on the initial state (`*_reset`), how absent events are ignored
(`*_absent_noop`, `*_filterSim`) — and `Lemmas/Run.lean` lifts them to every history (any length).  "get is pure" holds
because every `get` is a function of the state alone (`*.get : State → Output`), which the correspondence check confirms
on the real objects by reading twice.
The model is of the tree after the `fix:` commit for Integral/DerivativeStream (stale cached error).
PID, integral and derivative are lifted to histories here, and the to-state converters' absent deletion; the rest, and
`Cpid.step` with the followed command getter, in `Thm/Ext/C05.lean`.
-/
import Rrtk.Streams.Stateful
import Rrtk.Thm.Lemmas.Run
import Rrtk.Thm.Lemmas.PresentStep
import Rrtk.Thm.Lemmas.Pid
import Rrtk.Thm.Lemmas.IntScalar
set_option linter.unusedSectionVars false
namespace Rrtk.Thm.C05
open Rrtk

variable {F : Type} [Add F] [Sub F] [Mul F] [Div F] [Neg F] [LT F] [LE F] [BEq F]
  [DecidableLT F] [DecidableLE F] [FloatLike F]

/-- the event "the input returned `Ok(None)`" -/
def isAbsent {α : Type} (i : Output α) : Bool := match i with | .ok none => true | _ => false
theorem isAbsent_iff {α : Type} (i : Output α) : isAbsent i = true ↔ i = .ok none := by
  rcases i with e | _ | d <;> simp [isAbsent]
theorem isAbsent_eq_false_iff {α : Type} (i : Output α) : isAbsent i = false ↔ i ≠ .ok none := by
  rw [← Bool.not_eq_true, isAbsent_iff]

/-! ### PIDControllerStream: absent and error both reset -/
/-- `Pid.step` cannot panic; it is wrapped in `.ok` because `runE` runs steps in `Except Panic` -/
def pidStep (sp : F) (k : PIDK F) (s : PidS F) (i : Output F) : Except Panic (PidS F × UpdRet) := .ok (Pid.step sp k s i)

theorem pid_showsInputErr (sp : F) (k : PIDK F) : ShowsInputErr (pidStep sp k) Pid.get where
  err h := by cases h; rfl
  ok {_ o _} h := by cases h; cases o <;> exact ⟨_, rfl⟩
theorem pid_reset_absent (sp : F) (k : PIDK F) (s : PidS F) :
    Pid.step sp k s (.ok none) = Pid.step sp k Pid.init (.ok none) := rfl
theorem pid_reset_err (sp : F) (k : PIDK F) (s : PidS F) (e : Err) :
    Pid.step sp k s (.error e) = Pid.step sp k Pid.init (.error e) := rfl
theorem pid_update_ret (sp : F) (k : PIDK F) (s : PidS F) (i : Output F) :
    (Pid.step sp k s i).2 = match i with | .error e => .error e | .ok _ => .ok () :=
  Pid.step_ret sp k s i
theorem pid_no_stale_err (sp : F) (k : PIDK F) (evs : List (Output F)) (s : PidS F)
    (h : runE (pidStep sp k) Pid.init evs = .ok s) (e : Err) (he : Pid.get s = .error e) :
    evs.getLast? = some (.error e) :=
  (pid_showsInputErr sp k).no_stale_err ⟨_, rfl⟩ h he
/-- non-vacuity of `he` in `pid_no_stale_err`: a state that shows an error -/
example : Pid.get (Pid.step (3 : Int) ⟨1, 1, 1⟩ Pid.init (.error (.other 2))).1 = .error (.other 2) := rfl
/-- after a reset event every later state equals that of a new stream fed the events from the reset on -/
theorem pid_reset_erases_history (sp : F) (k : PIDK F) (pre post : List (Output F)) (r : Output F)
    (hr : r = .ok none ∨ ∃ e, r = .error e) :
    runE (pidStep sp k) Pid.init (pre ++ r :: post) = runE (pidStep sp k) Pid.init (r :: post) :=
  -- `pidStep` never panics, so nothing is asked of the prefix
  runE_reset_total (pidStep sp k) (fun _ _ => ⟨_, rfl⟩) Pid.init r
    (fun _ => by rcases hr with rfl | ⟨e, rfl⟩ <;> rfl) pre post

/-! ### Integral / Derivative: absent and error both reset -/
theorem derivative_showsInputErr (chk : Bool) : ShowsInputErr (Derivative.step (F := F) chk) Derivative.get where
  err h := by cases h; rfl
  ok {s o r} h := by
    cases o with
    | none => cases h; exact ⟨_, rfl⟩
    | some d =>
      -- the sample is the first of a run, or the difference quotient was computed: either way an `.ok _` is cached
      rw [C10.derivative_step_present] at h
      obtain ⟨-, -, ⟨-, hr⟩ | ⟨_, _, -, -, hr⟩⟩ := C10.presentStep_ok h <;> exact ⟨_, congrArg Derivative.get hr⟩
theorem integral_showsInputErr (chk : Bool) : ShowsInputErr (Integral.step (F := F) chk) Integral.get where
  err h := by cases h; rfl
  ok {s o r} h := by
    cases o with
    | none => cases h; exact ⟨_, rfl⟩
    | some d =>
      rw [C10.integral_step_present] at h
      obtain ⟨-, -, ⟨-, hr⟩ | ⟨_, _, -, -, hr⟩⟩ := C10.presentStep_ok h <;> exact ⟨_, congrArg Integral.get hr⟩
theorem derivative_reset (chk : Bool) (s : DiS F) (r : Output (Quantity F)) (hr : r = .ok none ∨ ∃ e, r = .error e) :
    Derivative.step chk s r = Derivative.step chk Derivative.init r := by
  rcases hr with rfl | ⟨e, rfl⟩ <;> rfl
theorem integral_reset (chk : Bool) (s : DiS F) (r : Output (Quantity F)) (hr : r = .ok none ∨ ∃ e, r = .error e) :
    Integral.step chk s r = Integral.step chk Integral.init r := by
  rcases hr with rfl | ⟨e, rfl⟩ <;> rfl
theorem derivative_no_stale_err (chk : Bool) (evs : List (Output (Quantity F))) (s : DiS F)
    (h : runE (Derivative.step chk) Derivative.init evs = .ok s) (e : Err) (he : Derivative.get s = .error e) :
    evs.getLast? = some (.error e) :=
  (derivative_showsInputErr chk).no_stale_err ⟨_, rfl⟩ h he
theorem integral_no_stale_err (chk : Bool) (evs : List (Output (Quantity F))) (s : DiS F)
    (h : runE (Integral.step chk) Integral.init evs = .ok s) (e : Err) (he : Integral.get s = .error e) :
    evs.getLast? = some (.error e) :=
  (integral_showsInputErr chk).no_stale_err ⟨_, rfl⟩ h he
theorem derivative_reset_erases_history (chk : Bool) (pre post : List (Output (Quantity F))) (r : Output (Quantity F))
    (hr : r = .ok none ∨ ∃ e, r = .error e) (s : DiS F) (hpre : runE (Derivative.step chk) Derivative.init pre = .ok s) :
    runE (Derivative.step chk) Derivative.init (pre ++ r :: post) = runE (Derivative.step chk) Derivative.init (r :: post) :=
  runE_reset _ _ r (fun s' => derivative_reset chk s' r hr) pre post s hpre
theorem integral_reset_erases_history (chk : Bool) (pre post : List (Output (Quantity F))) (r : Output (Quantity F))
    (hr : r = .ok none ∨ ∃ e, r = .error e) (s : DiS F) (hpre : runE (Integral.step chk) Integral.init pre = .ok s) :
    runE (Integral.step chk) Integral.init (pre ++ r :: post) = runE (Integral.step chk) Integral.init (r :: post) :=
  runE_reset _ _ r (fun s' => integral_reset chk s' r hr) pre post s hpre

/-- the stale-error defect of the ORIGINAL code, kept as a documented regression: there the first sample after a
reset left `value` untouched.  `integralStepPrefix` is that code; after `Err(1), Some(x)` its getter still shows `Err(1)`. -/
def integralStepPrefix (chk : Bool) (s : DiS F) (inp : Output (Quantity F)) : Except Panic (DiS F × UpdRet) :=
  match inp, s.prev with
  | .ok (some o), none => .ok (⟨s.value, some o⟩, .ok ())
  | _, _ => Integral.step chk s inp
example : ∃ s, runE (integralStepPrefix (F := Int) true) Integral.init
      [.error (.other 1), .ok (some ⟨1, ⟨5, ⟨1, 0⟩⟩⟩)] = .ok s ∧ Integral.get s = .error (.other 1) := ⟨_, rfl, rfl⟩
example : ∃ s, runE (Integral.step (F := Int) true) Integral.init
      [.error (.other 1), .ok (some ⟨1, ⟨5, ⟨1, 0⟩⟩⟩)] = .ok s ∧ Integral.get s = .ok none := ⟨_, rfl, rfl⟩

/-! ### EWMA / moving average: error resets; absent is ignored (but clears a cached error) -/
section generic
variable {T : Type}
theorem ewma_showsInputErr (scale : T → F → T) (add : T → T → Except Panic T) (sm : F) :
    ShowsInputErr (Ewma.step scale add sm) Ewma.get where
  err h := by cases h; rfl
  ok {s o r} h := by
    cases o with
    | none =>
      -- an absent event clears a cached error and leaves an `Ok` value as it is
      cases hv : s.value with
      | error x => simp only [Ewma.step, hv] at h; cases h; exact ⟨_, rfl⟩
      | ok v => simp only [Ewma.step, hv] at h; cases h; exact ⟨v, hv⟩
    | some d =>
      -- a present sample: every branch that does not panic stores `.ok (some _)`
      simp only [Ewma.step] at h
      repeat' split at h
      all_goals cases h <;> exact ⟨_, rfl⟩
theorem ewma_reset (scale : T → F → T) (add : T → T → Except Panic T) (sm : F) (s : EwmaS T) (e : Err) :
    Ewma.step scale add sm s (.error e) = Ewma.step scale add sm Ewma.init (.error e) := rfl
theorem ma_showsInputErr (scale : T → F → T) (add : T → T → Except Panic T) (fin : T → F → T) (z : Option T) (w : Int) :
    ShowsInputErr (Ma.step scale add fin z w) Ma.get where
  err h := by cases h; rfl
  ok {s o r} h := by
    cases o with
    | none =>
      cases hv : s.value with
      | error x => simp only [Ma.step, hv] at h; cases h; exact ⟨_, rfl⟩
      | ok v => simp only [Ma.step, hv] at h; cases h; exact ⟨v, hv⟩
    | some d =>
      -- a present sample: every branch that does not panic stores `.ok (some _)`
      simp only [Ma.step] at h
      repeat' split at h
      all_goals cases h <;> exact ⟨_, rfl⟩
theorem ma_reset (scale : T → F → T) (add : T → T → Except Panic T) (fin : T → F → T) (z : Option T) (w : Int)
    (s : MaS T) (e : Err) :
    Ma.step scale add fin z w s (.error e) = Ma.step scale add fin z w Ma.init (.error e) := rfl

/-- the relation "equal, or the first carries a cached error that the second has already cleared" -/
def EwmaSim (a b : EwmaS T) : Prop :=
  a = b ∨ ((∃ e, a.value = .error e) ∧ b = ⟨.ok none, none⟩)
/-- deleting absent events: `b` (filtered run) still shows a cached error that `a` (full run) has cleared at an absent
event; every non-absent event overwrites both alike -/
theorem ewma_filterSim (scale : T → F → T) (add : T → T → Except Panic T) (sm : F) :
    FilterSim (Ewma.step scale add sm) isAbsent EwmaSim where
  refl _ := .inl rfl
  deleted {b a i} h hi := by
    rw [(isAbsent_iff i).mp hi]
    rcases h with rfl | ⟨hbe, rfl⟩
    · cases hv : b.value with
      | error x => exact ⟨_, .ok (), by simp only [Ewma.step, hv], .inr ⟨⟨x, hv⟩, rfl⟩⟩
      | ok v => exact ⟨b, .ok (), by simp only [Ewma.step, hv], .inl rfl⟩
    · exact ⟨_, _, rfl, .inr ⟨hbe, rfl⟩⟩
  kept {b a i} h hi := by
    rcases h with rfl | ⟨⟨e, hbe⟩, rfl⟩
    · rfl
    · rcases i with e' | _ | d
      · rfl
      · cases hi
      · simp only [Ewma.step, hbe]

def MaSim (a b : MaS T) : Prop :=
  a = b ∨ ((∃ e, a.value = .error e) ∧ b = { a with value := .ok none })
theorem ma_filterSim (scale : T → F → T) (add : T → T → Except Panic T) (fin : T → F → T) (z : Option T) (w : Int) :
    FilterSim (Ma.step scale add fin z w) isAbsent MaSim where
  refl _ := .inl rfl
  deleted {b a i} h hi := by
    rw [(isAbsent_iff i).mp hi]
    rcases h with rfl | ⟨hbe, rfl⟩
    · cases hv : b.value with
      | error x => exact ⟨_, .ok (), by simp only [Ma.step, hv], .inr ⟨⟨x, hv⟩, rfl⟩⟩
      | ok v => exact ⟨b, .ok (), by simp only [Ma.step, hv], .inl rfl⟩
    · exact ⟨_, _, rfl, .inr ⟨hbe, rfl⟩⟩
  kept {b a i} h hi := by
    rcases h with rfl | ⟨⟨e, hbe⟩, rfl⟩
    · rfl
    · -- the two states differ in `value` only, which an error event and a present sample overwrite without reading it
      rcases i with e' | _ | d
      · rfl
      · cases hi
      · simp only [Ma.step]
end generic

/-! ### to-state converters: error resets, absent is ignored outright; `get` never shows an error -/
theorem a2s_absent_noop (chk : Bool) (s : Option (A2sU0 F)) : A2s.step chk s (.ok none) = .ok (s, .ok ()) := rfl
theorem v2s_absent_noop (chk : Bool) (s : Option (V2sU0 F)) : V2s.step chk s (.ok none) = .ok (s, .ok ()) := rfl
theorem p2s_absent_noop (chk : Bool) (s : Option (P2sU0 F)) : P2s.step chk s (.ok none) = .ok (s, .ok ()) := rfl
theorem a2s_reset (chk : Bool) (s : Option (A2sU0 F)) (e : Err) : A2s.step chk s (.error e) = A2s.step chk A2s.init (.error e) := rfl
theorem v2s_reset (chk : Bool) (s : Option (V2sU0 F)) (e : Err) : V2s.step chk s (.error e) = V2s.step chk V2s.init (.error e) := rfl
theorem p2s_reset (chk : Bool) (s : Option (P2sU0 F)) (e : Err) : P2s.step chk s (.error e) = P2s.step chk P2s.init (.error e) := rfl
/-- every branch of `get` that does not panic returns `.ok (.ok _)` -/
theorem a2s_get_never_err (chk : Bool) (s : Option (A2sU0 F)) (o : Output (State F)) (h : A2s.get chk s = .ok o) (e : Err) :
    o ≠ .error e := by
  simp only [A2s.get] at h
  repeat' split at h
  all_goals cases h <;> nofun
theorem v2s_get_never_err (chk : Bool) (s : Option (V2sU0 F)) (o : Output (State F)) (h : V2s.get chk s = .ok o) (e : Err) :
    o ≠ .error e := by
  simp only [V2s.get] at h
  repeat' split at h
  all_goals cases h <;> nofun
theorem p2s_get_never_err (chk : Bool) (s : Option (P2sU0 F)) (o : Output (State F)) (h : P2s.get chk s = .ok o) (e : Err) :
    o ≠ .error e := by
  simp only [P2s.get] at h
  repeat' split at h
  all_goals cases h <;> nofun
/-- deleting absent events from any history leaves the final state (hence every later output) unchanged -/
theorem a2s_absent_deletion (chk : Bool) (s0 : Option (A2sU0 F)) (evs : List (Output (Quantity F))) :
    runE (A2s.step chk) s0 (evs.filter (fun i => !(match i with | .ok none => true | _ => false))) = runE (A2s.step chk) s0 evs :=
  runE_filter_noop (A2s.step chk) _ (fun _ i hi => match i, hi with | .ok none, _ => ⟨_, rfl⟩) s0 evs
theorem v2s_absent_deletion (chk : Bool) (s0 : Option (V2sU0 F)) (evs : List (Output (Quantity F))) :
    runE (V2s.step chk) s0 (evs.filter (fun i => !(match i with | .ok none => true | _ => false))) = runE (V2s.step chk) s0 evs :=
  runE_filter_noop (V2s.step chk) _ (fun _ i hi => match i, hi with | .ok none, _ => ⟨_, rfl⟩) s0 evs
theorem p2s_absent_deletion (chk : Bool) (s0 : Option (P2sU0 F)) (evs : List (Output (Quantity F))) :
    runE (P2s.step chk) s0 (evs.filter (fun i => !(match i with | .ok none => true | _ => false))) = runE (P2s.step chk) s0 evs :=
  runE_filter_noop (P2s.step chk) _ (fun _ i hi => match i, hi with | .ok none, _ => ⟨_, rfl⟩) s0 evs

/-! ### pass-through converters: the state is exactly the last input, every event "resets" -/
theorem f2q_step (s : Output F) (i : Output F) : F2q.step s i = (i, .ok ()) := rfl
theorem q2f_memoryless (s s' : Output F) (i : Output (Quantity F)) : Q2f.step s i = Q2f.step s' i := rfl
theorem f2q_memoryless (s s' : Output F) (i : Output F) : F2q.step s i = F2q.step s' i := rfl

/-! ### CommandPID: absent and error both erase the staged computation; command and last request survive -/
theorem cpid_no_stale_err_step (chk : Bool) (k : PIDK3 F) (s : CpidS F) (i : Output (State F)) (e : Err)
    (h : Cpid.get (Cpid.stepInput chk k s i).1 = .error e) : i = .error e := by
  -- `get` errs only on a cached error, and what `stepInput` caches is decided by the form of the input
  have h : Cpid.nextUs chk k s.command s.us i = .error e := by rwa [Cpid.get_error_iff, Cpid.stepInput_eq] at h
  rcases i with e' | _ | x
  · rw [Except.error.inj h]
  · cases h
  · obtain ⟨u0, hu, -⟩ := Cpid.nextUs_sample_some chk k s.command s.us x
    rw [hu] at h; cases h
/-- the equation alone; with its consequences (the state is fresh, the output absent, the next samples start afresh) it is
`C11.cpid_absent_resets` -/
theorem cpid_absent_resets (chk : Bool) (k : PIDK3 F) (s : CpidS F) :
    Cpid.stepInput chk k s (.ok none) = ({ s with us := .ok none }, .ok ()) := rfl
theorem cpid_err_then_fresh (chk : Bool) (k : PIDK3 F) (s : CpidS F) (e : Err) (x : Datum (State F)) :
    Cpid.stepInput chk k { s with us := .error e } (.ok (some x)) =
    Cpid.stepInput chk k { s with us := .ok none } (.ok (some x)) := rfl
/-- the whole state after an absent or errored input depends on the past only through the command and the last request -/
theorem cpid_reset_state (chk : Bool) (k : PIDK3 F) (s s' : CpidS F) (r : Output (State F))
    (hr : r = .ok none ∨ ∃ e, r = .error e) (hc : s.command = s'.command) (hl : s.lastRequest = s'.lastRequest) :
    Cpid.stepInput chk k s r = Cpid.stepInput chk k s' r := by
  -- `stepInput` rewrites `us` only, and on these inputs the new `us` does not depend on the old one
  rw [Cpid.stepInput_eq, Cpid.stepInput_eq, hc, hl]
  rcases hr with rfl | ⟨e, rfl⟩ <;> rfl

/-! ### FreezeStream: complete characterisation of one update, hence of every history -/
section freeze
variable {T : Type}
theorem freeze_characterisation (s : Output T) (cond : Output Bool) (inp : Output T) :
    Freeze.step s cond inp = match cond with
      | .error e => (.error e, .error e)
      | .ok none => (.ok none, .ok ())
      | .ok (some ⟨_, true⟩) => (s, .ok ())
      | .ok (some ⟨_, false⟩) => (inp, match inp with | .ok _ => .ok () | .error e => .error e) := by
  rcases cond with e | _ | ⟨t, _ | _⟩
  · rfl
  · rfl
  · cases inp <;> rfl
  · rfl
/-- absent whenever the condition is absent -/
theorem freeze_absent_condition (s : Output T) (inp : Output T) :
    Freeze.get (Freeze.step s (.ok none) inp).1 = .ok none := rfl
end freeze

end Rrtk.Thm.C05
