/-
C12 at real binary32 rounding: the tier-L theorems of `Thm/C12.lean` (agreement of the `f32` and `Quantity` moving
averages) instantiated at the scalar type `SF` (finite binary32 numbers with correctly rounded `+ − * /`,
`Rrtk/Thm/Lemmas/SoftScalar.lean`), with the scalar law they assume PROVED.  The theorems of C12 whose hypotheses are about
`powf` (`hpr`, `hp0`) are NOT restated: those stay assumptions.  `Lemmas/C12Rounding.lean` and `Lemmas/C12Witness.lean` are imported so
that the module the C12 check builds contains them.
-/
import Rrtk.Thm.Lemmas.C12Rounding
import Rrtk.Thm.Lemmas.C12Witness
namespace Rrtk.Thm.C12
open Rrtk Rrtk.Thm.SoftScalar

/-- the Quantity accumulation (started from the first term) and the generic one (started from `0.0 +` the first term)
agree, in binary32.  Discharged: `hzero` (`zero_add'`; `SF` has one zero — in the hardware format `0.0 + x` differs from
`x` only in the sign bit of `x = −0.0`). -/
theorem accumulate_agree_binary32 (chk : Bool) (l : List (Quantity SF × SF)) (v : Quantity SF)
    (h : Ma.accumulate (scaleQs chk) (Quantity.add chk) none l = .ok (some v)) :
    Ma.accumulate scaleF addF (some (c0 : SF)) (l.map (fun p => (p.1.value, p.2))) = .ok (some v.value) :=
  accumulate_agree chk zero_add' l v h

/-- one update of the two moving averages from related states, in binary32 -/
theorem ma_variants_agree_step_binary32 (chk : Bool) (window : Int)
    (sq : MaS (Quantity SF)) (sf : MaS SF) (inp : Output (Quantity SF)) (hrel : MaRel sq sf)
    (sq' : MaS (Quantity SF)) (r : UpdRet)
    (h : Ma.step (scaleQs chk) (Quantity.add chk) (divQs chk) none window sq inp = .ok (sq', r)) :
    ∃ sf', Ma.step scaleF addF divF (some (c0 : SF)) window sf (projOut inp) = .ok (sf', r) ∧ MaRel sq' sf' :=
  ma_variants_agree_step chk zero_add' window sq sf inp hrel sq' r h

/-- every history: the `f32` moving average returns the numbers of the `Quantity` one, in binary32 -/
theorem ma_variants_agree_binary32 (chk : Bool) (window : Int)
    (evs : List (Output (Quantity SF))) (sq : MaS (Quantity SF)) (sf : MaS SF) (hrel : MaRel sq sf)
    (sq' : MaS (Quantity SF))
    (h : runE (Ma.step (scaleQs chk) (Quantity.add chk) (divQs chk) none window) sq evs = .ok sq') :
    ∃ sf', runE (Ma.step scaleF addF divF (some (c0 : SF)) window) sf (evs.map projOut) = .ok sf' ∧
      MaRel sq' sf' ∧ Ma.get sf' = projOut (Ma.get sq') :=
  ma_variants_agree chk zero_add' window evs sq sf hrel sq' h

namespace Binary32Examples
/-- a history in millimetres with an absent event: values `1/3` (rounded), `2^24`, `1.5` at 5 ns, 7 ns, 8 ns -/
def evs : List (Output (Quantity SF)) :=
  [.ok (some ⟨5, ⟨(c1 : SF) / c3, ⟨1, 0⟩⟩⟩), .ok none, .ok (some ⟨7, ⟨x2p24, ⟨1, 0⟩⟩⟩), .ok (some ⟨8, ⟨x1_5, ⟨1, 0⟩⟩⟩)]
/-- the Quantity moving average runs without panic on it (hypothesis `h` of `ma_variants_agree_binary32`), and the initial
states are related (`hrel`) -/
theorem evs_runs : ∃ s, runE (Ma.step (scaleQs true) (Quantity.add true) (divQs true) none 4) Ma.init evs = .ok s :=
  ma_no_panic_quantity true 4 (by decide) ⟨1, 0⟩ _ (by
    intro d hd
    simp [evs] at hd
    rcases hd with rfl | rfl | rfl <;> rfl)
example : MaRel (Ma.init : MaS (Quantity SF)) (Ma.init : MaS SF) := ma_init_rel
/-- hence the `f32` stream runs too and shows the same numbers -/
example : ∃ sq' sf', runE (Ma.step (scaleQs true) (Quantity.add true) (divQs true) none 4) Ma.init evs = .ok sq' ∧
    runE (Ma.step scaleF addF divF (some (c0 : SF)) 4) Ma.init (evs.map projOut) = .ok sf' ∧
    Ma.get sf' = projOut (Ma.get sq') := by
  obtain ⟨sq', h⟩ := evs_runs
  obtain ⟨sf', h1, _, h3⟩ := ma_variants_agree_binary32 true 4 evs Ma.init Ma.init ma_init_rel sq' h
  exact ⟨sq', sf', h, h1, h3⟩
/-- the number both show after the last update, computed with binary32 rounding at every step (`tools/kat.py` replays it on the
implementation) -/
def lastVal : Option (Int × ℚ) :=
  match runE (Ma.step scaleF addF divF (some (c0 : SF)) 4) Ma.init (evs.map projOut) with
  | .ok s => (match Ma.get s with | .ok (some d) => some (d.time, d.value.val) | _ => none)
  | .error _ => none
theorem lastVal_eq : lastVal = some (8, 8388608) := by decide +kernel
end Binary32Examples

end Rrtk.Thm.C12
