/-
C01 at real binary32 rounding: the tier-L theorems of `Thm/C01.lean` instantiated at the scalar type `SF` (finite binary32
numbers with correctly rounded `+ − * /`, `Rrtk/Thm/Lemmas/SoftScalar.lean`), with the scalar law they assume PROVED.
The check reaches `Lemmas/UnitI8.lean` (the `i8` exponents of `rrtk::Unit` against the model's `Int` exponents) through this module.
-/
import Rrtk.Thm.C01
import Rrtk.Thm.Lemmas.SoftScalar
import Rrtk.Thm.Lemmas.UnitI8
namespace Rrtk.Thm.C01
open Rrtk Rrtk.Thm.SoftScalar

/-- `Time * Quantity` (written `rhs * self` in the source) is the converted product, in binary32.  Discharged: `hcomm`
(`mul_comm'`: correctly rounded multiplication commutes). -/
theorem time_mul_q_binary32 (chk : Bool) (t : Int) (q : Quantity SF) :
    Time.mulQ chk t q = Quantity.mul chk (Quantity.ofTime chk t) q :=
  time_mul_q chk t q mul_comm'

/-- `DimensionlessInteger * Quantity` likewise.  Discharged: `hcomm` (`mul_comm'`). -/
theorem dimint_mul_q_binary32 (chk : Bool) (n : Int) (q : Quantity SF) :
    DimInt.mulQ chk n q = Quantity.mul chk (Quantity.ofDimInt chk n) q :=
  dimint_mul_q chk n q mul_comm'

namespace Binary32Examples
/-- the product in question really rounds: `Time(3 ns) * (1/3 mm)`; `3 ns = 3e-9 s` is itself a rounded quotient -/
def q3 : Quantity SF := ⟨(c1 : SF) / c3, ⟨1, 0⟩⟩
example : (Time.mulQ true 3 q3).value.val = 281475 / 281474976710656 := by decide +kernel
example : (Time.mulQ true 3 q3).value.val ≠ (3 / 1000000000) * (1 / 3) := by decide +kernel
example : Time.mulQ true 3 q3 = Quantity.mul true (Quantity.ofTime true 3) q3 := time_mul_q_binary32 _ _ _
end Binary32Examples

end Rrtk.Thm.C01
