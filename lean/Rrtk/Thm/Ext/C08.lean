/-
C08, the states HELD by the device's own terminals.

`Thm/C08.lean` relates the slot an update WRITES to the states READ (`w.getState`, the mean of a terminal's own slot and
its partner's) at the branches the device trusts.  A differential with a distrusted branch, and an inverter / gear train
with information on one side only, rewrite ONE slot; the slots of the trusted terminals keep whatever they held.  So
"the states held by the device's own terminals satisfy the constraint" holds after such an update provided each
trusted terminal's own slot already equals what is read there — e.g. the terminal has no partner, or its partner holds
no state.  This file proves that conditional statement for every one-slot update and records, kernel-checked, that it
fails without the condition.
-/
import Rrtk.Thm.C08
-- theorems are stated under the whole scalar-class list of `Rrtk/Devices.lean`, used or not: one context for every caller
set_option linter.unusedSectionVars false
namespace Rrtk.Thm.C08
open Rrtk

section S
variable {F : Type} [Add F] [Sub F] [Mul F] [Div F] [Neg F] [LT F] [LE F] [BEq F]
  [DecidableLT F] [DecidableLE F] [FloatLike F]

/-- the own slot of terminal `i` is what is read at `i` -/
def SlotIsRead (w : World F) (i : Nat) : Prop := (w.t i).state = w.getState i

theorem slotIsRead_of_partnerState_none (w : World F) (i : Nat) (h : w.partnerState i = none) : SlotIsRead w i := by
  unfold SlotIsRead World.getState
  rw [h]
  cases (w.t i).state <;> rfl

theorem slotIsRead_of_unlinked (w : World F) (i : Nat) (h : (w.t i).other = none) : SlotIsRead w i :=
  slotIsRead_of_partnerState_none w i (World.partnerState_unlinked h)

theorem slotIsRead_of_partner_empty (w : World F) (i p : Nat) (h : (w.t i).other = some p)
    (hp : (w.t p).state = none) : SlotIsRead w i :=
  slotIsRead_of_partnerState_none w i ((World.partnerState_linked h).trans hp)

end S

section R
variable {F : Type} [Field F] [LinearOrder F] [IsStrictOrderedRing F] [FloatLike F] [ExactScalar F]

/-- distrust side 1, HELD states -/
theorem diff_side1_held_constraint (w : World F) (i1 i2 isum : Nat) (s b : Datum (State F))
    (h12 : i1 ≠ i2) (h1s : i1 ≠ isum)
    (hs : w.getState isum = some s) (h2 : w.getState i2 = some b)
    (ks : SlotIsRead w isum) (k2 : SlotIsRead w i2) :
    ∃ n1 : State F,
      ((Differential.update .side1 w i1 i2 isum).t i1).state = some ⟨max s.time b.time, n1⟩ ∧
      ((Differential.update .side1 w i1 i2 isum).t i2).state = some b ∧
      ((Differential.update .side1 w i1 i2 isum).t isum).state = some s ∧
      State.add n1 b.value = s.value := by
  rw [diff_update_side1 w i1 i2 isum s b hs h2]
  refine ⟨_, World.setState_state_self .., ?_, ?_, ?_⟩
  · rw [World.setState_state_ne _ _ (Ne.symm h12), k2, h2]
  · rw [World.setState_state_ne _ _ (Ne.symm h1s), ks, hs]
  · exact state_sub_add_cancel ..

/-- distrust side 2, HELD states -/
theorem diff_side2_held_constraint (w : World F) (i1 i2 isum : Nat) (s a : Datum (State F))
    (h12 : i1 ≠ i2) (h2s : i2 ≠ isum)
    (hs : w.getState isum = some s) (h1 : w.getState i1 = some a)
    (ks : SlotIsRead w isum) (k1 : SlotIsRead w i1) :
    ∃ n2 : State F,
      ((Differential.update .side2 w i1 i2 isum).t i1).state = some a ∧
      ((Differential.update .side2 w i1 i2 isum).t i2).state = some ⟨max s.time a.time, n2⟩ ∧
      ((Differential.update .side2 w i1 i2 isum).t isum).state = some s ∧
      State.add a.value n2 = s.value := by
  rw [diff_update_side2 w i1 i2 isum s a hs h1]
  refine ⟨_, ?_, World.setState_state_self .., ?_, ?_⟩
  · rw [World.setState_state_ne _ _ h12, k1, h1]
  · rw [World.setState_state_ne _ _ (Ne.symm h2s), ks, hs]
  · exact state_add_sub_cancel ..

/-- distrust sum, HELD states (true for any scalar type; stated here with the others) -/
theorem diff_sum_held_constraint (w : World F) (i1 i2 isum : Nat) (a b : Datum (State F))
    (h1s : i1 ≠ isum) (h2s : i2 ≠ isum)
    (h1 : w.getState i1 = some a) (h2 : w.getState i2 = some b)
    (k1 : SlotIsRead w i1) (k2 : SlotIsRead w i2) :
    ∃ ns : State F,
      ((Differential.update .sum w i1 i2 isum).t i1).state = some a ∧
      ((Differential.update .sum w i1 i2 isum).t i2).state = some b ∧
      ((Differential.update .sum w i1 i2 isum).t isum).state = some ⟨max a.time b.time, ns⟩ ∧
      State.add a.value b.value = ns := by
  rw [diff_update_sum w i1 i2 isum a b h1 h2]
  refine ⟨_, ?_, ?_, World.setState_state_self .., rfl⟩
  · rw [World.setState_state_ne _ _ h1s, k1, h1]
  · rw [World.setState_state_ne _ _ h2s, k2, h2]

/-- one-sided inverter update, HELD states -/
theorem invert_one_sided_held_constraint (w : World F) (i1 i2 : Nat) (d : Datum (State F)) :
    (w.getState i1 = none → w.getState i2 = some d → SlotIsRead w i2 →
      ∃ s1, ((Invert.update w i1 i2).t i1).state = some ⟨d.time, s1⟩ ∧
        ((Invert.update w i1 i2).t i2).state = some d ∧ d.value = State.neg s1) ∧
    (w.getState i1 = some d → w.getState i2 = none → SlotIsRead w i1 →
      ∃ s2, ((Invert.update w i1 i2).t i1).state = some d ∧
        ((Invert.update w i1 i2).t i2).state = some ⟨d.time, s2⟩ ∧ s2 = State.neg d.value) := by
  constructor
  · intro h1 h2 k2
    obtain ⟨ha, hb⟩ := (invert_update_one w i1 i2 d).1 h1 h2
    exact ⟨_, ha, by rw [hb, k2, h2], (state_neg_neg _).symm⟩
  · intro h1 h2 k1
    obtain ⟨ha, hb⟩ := (invert_update_one w i1 i2 d).2 h1 h2
    exact ⟨_, by rw [hb, k1, h1], ha, rfl⟩

/-- one-sided gear-train update (`ratio ≠ 0`), HELD states: `side2 = ratio · side1` among the two own slots -/
theorem gear_one_sided_held_constraint (ratio : F) (hr : ratio ≠ 0) (w : World F) (i1 i2 : Nat)
    (d : Datum (State F)) :
    (w.getState i1 = some d → w.getState i2 = none → SlotIsRead w i1 →
      ∃ s2, ((GearTrain.update ratio w i1 i2).t i1).state = some d ∧
        ((GearTrain.update ratio w i1 i2).t i2).state = some ⟨d.time, s2⟩ ∧ s2 = State.mulF d.value ratio) ∧
    (w.getState i1 = none → w.getState i2 = some d → SlotIsRead w i2 →
      ∃ s1, ((GearTrain.update ratio w i1 i2).t i1).state = some ⟨d.time, s1⟩ ∧
        ((GearTrain.update ratio w i1 i2).t i2).state = some d ∧ d.value = State.mulF s1 ratio) := by
  constructor
  · intro h1 h2 k1
    obtain ⟨ha, hb⟩ := (gear_update_one ratio w i1 i2 d).1 h1 h2
    exact ⟨_, by rw [hb, k1, h1], ha, rfl⟩
  · intro h1 h2 k2
    obtain ⟨ha, hb⟩ := (gear_update_one ratio w i1 i2 d).2 h1 h2
    exact ⟨_, ha, by rw [hb, k2, h2], (state_divF_mulF_cancel _ hr).symm⟩

end R

/-! ## non-vacuity, and the counterexample without `SlotIsRead`

The slots are compared through `.map (·.value.position)`: `State` derives no `DecidableEq`, so `decide` cannot compare a
slot with a literal datum. -/
section Examples

/-- in `wq` terminals 0 and 1 are unlinked, terminal 3 is empty and unlinked -/
example : SlotIsRead wq 0 := slotIsRead_of_unlinked wq 0 rfl
example : SlotIsRead wq 1 := slotIsRead_of_unlinked wq 1 rfl
/-- a linked terminal whose partner holds nothing -/
def wl : World ℚ := ⟨3, fun j =>
  if j = 0 then ⟨some ⟨5, ⟨1, 2, 3⟩⟩, none, some 2⟩
  else if j = 1 then ⟨some ⟨7, ⟨3, 0, 1⟩⟩, none, none⟩
  else if j = 2 then ⟨none, none, some 0⟩
  else ⟨none, none, none⟩⟩
example : SlotIsRead wl 0 := slotIsRead_of_partner_empty wl 0 2 rfl rfl

example := diff_side1_held_constraint wq 3 0 1 _ _ (by decide) (by decide) rfl rfl
  (slotIsRead_of_unlinked wq 1 rfl) (slotIsRead_of_unlinked wq 0 rfl)
example := diff_side2_held_constraint wq 0 3 1 _ _ (by decide) (by decide) rfl rfl
  (slotIsRead_of_unlinked wq 1 rfl) (slotIsRead_of_unlinked wq 0 rfl)
example := diff_sum_held_constraint wq 0 1 3 _ _ (by decide) (by decide) rfl rfl
  (slotIsRead_of_unlinked wq 0 rfl) (slotIsRead_of_unlinked wq 1 rfl)
example := (invert_one_sided_held_constraint wq 3 0 _).1 rfl rfl (slotIsRead_of_unlinked wq 0 rfl)
example := (invert_one_sided_held_constraint wq 0 3 _).2 rfl rfl (slotIsRead_of_unlinked wq 0 rfl)
example := (gear_one_sided_held_constraint (2 : ℚ) (by norm_num) wq 0 3 _).1 rfl rfl (slotIsRead_of_unlinked wq 0 rfl)
example := (gear_one_sided_held_constraint (2 : ℚ) (by norm_num) wq 3 0 _).2 rfl rfl (slotIsRead_of_unlinked wq 0 rfl)

/-- **Counterexample to the unconditional reading of "the states held by the device's own terminals satisfy the
constraint".**  `Differential.update .side1 wq 3 0 2`: side 1 = terminal 3 (distrusted), side 2 = terminal 0, sum =
terminal 2, which is linked to terminal 4 holding different, newer data.  The state READ at the sum terminal is the mean
`(2+4)/2 = 3` (position); side 1 is recomputed from the reads, `3 − 1 = 2`; the sum terminal's own slot is not rewritten
and still holds `2`.  Held positions afterwards: side1 = 2, side2 = 1, sum = 2, and `2 + 1 ≠ 2`.

What the code implements — and what `diff_side1_satisfies_constraint` etc. prove — is the property's parenthesis "for a
differential with a distrusted branch: that branch recomputed from the other two": the WRITTEN slot together with the
READS of the two trusted branches satisfies `side1 + side2 = sum` (here `2 + 1 = 3`).  Among the HELD states the
constraint holds only under `SlotIsRead` for the trusted terminals (`diff_side1_held_constraint`), which fails here for
the sum terminal. -/
example :
    ((Differential.update .side1 wq 3 0 2).t 3).state.map (·.value.position) = some (2 : ℚ) ∧
    ((Differential.update .side1 wq 3 0 2).t 0).state.map (·.value.position) = some (1 : ℚ) ∧
    ((Differential.update .side1 wq 3 0 2).t 2).state.map (·.value.position) = some (2 : ℚ) ∧
    (2 : ℚ) + 1 ≠ 2 ∧
    -- the read at the sum terminal, which the written slot IS consistent with
    (wq.getState 2).map (·.value.position) = some (3 : ℚ) ∧
    ¬ SlotIsRead wq 2 := by
  refine ⟨by decide +kernel, rfl, rfl, by norm_num, by decide +kernel, fun h => ?_⟩
  -- the slot is stamped 6, the read 9
  cases congrArg (fun o => o.map (·.time)) h

/-- the same for a one-sided inverter update: terminal 2 (linked to 4) reads position 3 but holds 2; the empty side
receives `−3`, so the held pair is `(−3, 2)`, not `(−2, 2)` -/
example :
    ((Invert.update wq 3 2).t 3).state.map (·.value.position) = some (-3 : ℚ) ∧
    ((Invert.update wq 3 2).t 2).state.map (·.value.position) = some (2 : ℚ) := by decide +kernel

end Examples
end Rrtk.Thm.C08
