/-
C20, extension: the wrappers' own terminal may FOLLOW getters (`Settable::follow` on the terminal): `ActuatorWrapper::update` then
starts with `update_terminals()?`, `GetterStateDeviceWrapper::update` calls it right after `inner.update()?`.
Model: `ActuatorWrapper.updateF`, `EncoderWrapper.updateF` (`Rrtk/TermFollow.lean`), run by the driver (`wr act|enc` events
`tfs tfc tnfs tnfc tgs tgc`) against the real crate on every run.  Tier S.
The theorems here assume only what `World.terminalUpdate` returns and leave the world it produces opaque (`generalize`); its
closed form (which slots of which terminal it rewrites, errors included) is `C15.terminalUpdate_eq` in `Thm/Lemmas/FollowOrder.lean`.
-/
import Rrtk.Thm.C20
import Rrtk.TermFollow
-- theorems are stated under the whole scalar-class list of `Rrtk/Devices.lean`, used or not: one context for every caller
set_option linter.unusedSectionVars false
namespace Rrtk.Thm.C20
open Rrtk

variable {F : Type} [Add F] [Sub F] [Mul F] [Div F] [Neg F] [LT F] [LE F] [BEq F]
  [DecidableLT F] [DecidableLE F] [FloatLike F]

/-- without followers the full actuator update is the update of `Rrtk/Devices.lean` on an unchanged world: every relay theorem of
`Thm/C20.lean` about `ActuatorWrapper.update` is a theorem about the full `update()` -/
theorem actuator_updateF_no_followers (w : World F) (i : Nat) (acc iu : UpdRet) :
    ActuatorWrapper.updateF w i Followed.nothing acc iu =
      (w, (ActuatorWrapper.update w i acc iu).1, (ActuatorWrapper.update w i acc iu).2.1, (ActuatorWrapper.update w i acc iu).2.2) := rfl

/-- a follower error ends the actuator update at once: nothing is handed to the inner settable, its `update` does not run,
the error is returned -/
theorem actuator_updateF_follower_error (w : World F) (i : Nat) (fo : Followed F) (acc iu : UpdRet) (e : Err)
    (h : (w.terminalUpdate i fo).2 = .error e) :
    (ActuatorWrapper.updateF w i fo acc iu).2 = (none, false, .error e) := by
  unfold ActuatorWrapper.updateF
  generalize w.terminalUpdate i fo = t at h ⊢
  obtain ⟨w1, r⟩ := t
  obtain rfl : r = .error e := h
  rfl

/-- otherwise what is handed over is exactly what the terminal shows AFTER the followed values were forwarded -/
theorem actuator_updateF_relays_followed (w : World F) (i : Nat) (fo : Followed F) (acc iu : UpdRet)
    (h : (w.terminalUpdate i fo).2 = .ok ()) :
    (ActuatorWrapper.updateF w i fo acc iu).2 =
      ((ActuatorWrapper.update (w.terminalUpdate i fo).1 i acc iu).1, (ActuatorWrapper.update (w.terminalUpdate i fo).1 i acc iu).2.1,
       (ActuatorWrapper.update (w.terminalUpdate i fo).1 i acc iu).2.2) := by
  unfold ActuatorWrapper.updateF
  generalize w.terminalUpdate i fo = t at h ⊢
  obtain ⟨w1, r⟩ := t
  obtain rfl : r = .ok () := h
  rfl

/-- encoder wrapper, no followers: the update of `Rrtk/Devices.lean` -/
theorem encoder_updateF_no_followers (w : World F) (i : Nat) (iu : UpdRet) (g : Output (State F)) :
    EncoderWrapper.updateF w i Followed.nothing iu g = EncoderWrapper.update w i iu g := by
  unfold EncoderWrapper.updateF EncoderWrapper.update
  cases iu <;> rfl

/-- an error of the inner `update` comes first: the terminal does not even ask its followed getters -/
theorem encoder_updateF_inner_error_first (w : World F) (i : Nat) (fo : Followed F) (e : Err) (g : Output (State F)) :
    EncoderWrapper.updateF w i fo (.error e) g = (w, .error e) := rfl

/-- a follower error ends the update before the reading is written: the terminal's state slot keeps what the follower left -/
theorem encoder_updateF_follower_error (w : World F) (i : Nat) (fo : Followed F) (g : Output (State F)) (e : Err)
    (h : (w.terminalUpdate i fo).2 = .error e) :
    EncoderWrapper.updateF w i fo (.ok ()) g = ((w.terminalUpdate i fo).1, .error e) := by
  unfold EncoderWrapper.updateF
  generalize w.terminalUpdate i fo = t at h ⊢
  obtain ⟨w1, r⟩ := t
  obtain rfl : r = .error e := h
  rfl

/-- a present reading is written AFTER the followers, so it is what the terminal holds afterwards ("relayed unaltered") -/
theorem encoder_updateF_reading_wins (w : World F) (i : Nat) (fo : Followed F) (d : Datum (State F))
    (h : (w.terminalUpdate i fo).2 = .ok ()) :
    (EncoderWrapper.updateF w i fo (.ok ()) (.ok (some d))).2 = .ok () ∧
      ((EncoderWrapper.updateF w i fo (.ok ()) (.ok (some d))).1.t i).state = some d := by
  unfold EncoderWrapper.updateF
  generalize w.terminalUpdate i fo = t at h ⊢
  obtain ⟨w1, r⟩ := t
  obtain rfl : r = .ok () := h
  exact ⟨rfl, (World.setState_state w1 i i d).trans (if_pos rfl)⟩

/-- non-vacuity (any scalar): a terminal following an erring command getter -/
example : (ActuatorWrapper.updateF (World.empty.addTerms 1 : World F) 0 ⟨some (.error (.other 3)), none⟩ (.ok ()) (.ok ())).2
    = (none, false, .error (.other 3)) := rfl

end Rrtk.Thm.C20
