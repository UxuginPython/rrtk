/-
C09 at real binary32 rounding: the tier-L theorem `connected_read_same_state` of `Thm/C09.lean` instantiated at the scalar
type `SF` (finite binary32 numbers with correctly rounded `+ − * /`, `Rrtk/Thm/Lemmas/SoftScalar.lean`), with the scalar law
it assumes PROVED.  Imports `Lemmas/TieVariants.lean` as well, so that the check of C09 audits it.
-/
import Rrtk.Thm.C09
import Rrtk.Thm.Lemmas.SoftScalar
import Rrtk.Thm.Lemmas.TieVariants
namespace Rrtk.Thm.C09
open Rrtk Rrtk.World Rrtk.Thm.SoftScalar

/-- two connected terminals always read the same state, in binary32 (one end computes `(own + partner) / 2`, the other
`(partner + own) / 2`).  Discharged: `hadd` (`add_comm'`: correctly rounded addition commutes). -/
theorem connected_read_same_state_binary32 (w : World SF) (h : Inv w) (i j : Nat)
    (hl : (w.t i).other = some j) : getState w i = getState w j :=
  connected_read_same_state add_comm' w h i j hl

namespace Binary32Examples
/-- two linked terminals holding the positions `2^24` (time 5) and `1` (time 7): their sum is not a binary32 number -/
def w : World SF :=
  (((((World.empty : World SF).addTerms 2).setState 0 ⟨5, ⟨x2p24, c0, c0⟩⟩).setState 1 ⟨7, ⟨c1, c0, c0⟩⟩).setOther 0
    (some 1)).setOther 1 (some 0)
theorem inv_w : Inv w :=
  inv_link _ 0 1 (inv_setState _ (inv_setState _ (inv_fresh _ 2 inv_empty) _ _) _ _) (by decide) rfl rfl
theorem link_w : (w.t 0).other = some 1 := rfl
/-- the hypotheses of `connected_read_same_state_binary32` hold, hence the two reads agree … -/
example : getState w 0 = getState w 1 := connected_read_same_state_binary32 w inv_w 0 1 link_w
/-- … and the common value is the ROUNDED mean `8388608`, not the exact mean `8388608.5` -/
example : (getState w 0).map (fun d => (d.time, d.value.position.val)) = some (7, 8388608) := by decide +kernel
example : (getState w 1).map (fun d => (d.time, d.value.position.val)) = some (7, 8388608) := by decide +kernel
end Binary32Examples

end Rrtk.Thm.C09
