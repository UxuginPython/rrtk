/-
C06 at real binary32 rounding: the tier-L theorem `new_times_ordered` instantiated at the scalar type `SF` (finite binary32
numbers with correctly rounded `+ − * /`, `Rrtk/Thm/Lemmas/SoftScalar.lean`), with its five scalar hypotheses PROVED, and
with it `new_history_after_complete` without its ordering hypothesis.

`SF` is the finite fragment of the format: no ±∞ or NaN, and `x / 0` is `0`.  The constructor divides by both limits, so a call
with `max_vel = 0.0` or `max_acc = 0.0` (or one whose intermediate results overflow) leaves the fragment, and these corollaries
say nothing of the hardware there: 0 → 3 mm at `0.01f32` mm/s² with `max_vel = 0.0` has `t2 = t3 = 0` over `SF` and
`t2 = t3 = i64::MAX` on hardware (`d_t2 = 3.0 / 0.0 = +∞`); at `0.1f32` mm/s with `max_acc = 0.0`, `SF` accepts and the hardware
panics.
-/
import Rrtk.Thm.C06
import Rrtk.Thm.Lemmas.SoftScalar
namespace Rrtk.Thm.C06
open Rrtk MotionProfile Rrtk.Thm.SoftScalar

/-- `0 ≤ t1 ≤ t2 ≤ t3` for every motion profile the constructor returns, in binary32 arithmetic -/
theorem new_times_ordered_binary32 (chk : Bool) (s e : State SF) (mv ma : Quantity SF) (mp : MotionProfile SF)
    (h : MotionProfile.new chk s e mv ma = .ok mp) :
    0 ≤ mp.t1 ∧ mp.t1 ≤ mp.t2 ∧ mp.t2 ≤ mp.t3 :=
  new_times_ordered chk s e mv ma mp (hmul := mul_e9_mono) (hto := toInt_mono) (hadd := le_add_of_nonneg)
    (htrans := le_trans') (hz := toInt_zero_mul) h

/-- in binary32 arithmetic (within the finite fragment, see the header), EVERY profile `MotionProfile::new` returns
answers, from `t3` onward and forever, `Command::from(end_state)` (the highest non-zero derivative of the end state, its
position if velocity and acceleration are zero) stamped with the query time.  The only hypothesis is that the constructor
returned. -/
theorem new_history_after_complete_binary32 (chk : Bool) (s e : State SF) (mv ma : Quantity SF) (mp : MotionProfile SF)
    (h : MotionProfile.new chk s e mv ma = .ok mp) (t : Int) (ht : mp.t3 ≤ t) :
    historyGet chk mp t = .ok (some ⟨t, Command.ofState e⟩) :=
  new_history_after_complete chk s e mv ma mp h (new_times_ordered_binary32 chk s e mv ma mp h) t ht

namespace Binary32Examples

/-- the test-suite's first profile (0 → 3 mm, max 0.1 mm/s, 0.01 mm/s²) with the binary32 values of `0.1` and `0.01` -/
def exStart : State SF := ⟨c0, c0, c0⟩
def exEnd : State SF := ⟨c3, c0, c0⟩
def exMv : Quantity SF := ⟨rnd (1 / 10), ⟨1, -1⟩⟩
def exMa : Quantity SF := ⟨rnd (1 / 100), ⟨1, -2⟩⟩

/-- `0.1f32` is not `1/10`: the literal itself is rounded -/
example : exMv.value.val = 13421773 / 134217728 := by decide +kernel

/-- the stored times of that profile, computed with binary32 rounding at every step -/
def exTimes : Option (Int × Int × Int) :=
  (MotionProfile.new true exStart exEnd exMv exMa).toOption.map (fun mp => (mp.t1, mp.t2, mp.t3))

/-- the constructor accepts it (all three asserts pass in binary32) and `t2` shows the rounding: it is `30.000001024 s`,
not the `30 s` of exact arithmetic (`new_example` of `Thm/C06.lean` over `ℚ` gives `30000000000`).  `tools/kat.py` replays these three
numbers on the implementation -/
theorem exTimes_eq : exTimes = some (10000000000, 30000001024, 40000000000) := by decide +kernel

/-- hence the hypothesis `h` of `new_times_ordered_binary32` is satisfiable, and its conclusion is what is observed -/
example : ∃ mp, MotionProfile.new true exStart exEnd exMv exMa = .ok mp ∧ 0 ≤ mp.t1 ∧ mp.t1 ≤ mp.t2 ∧ mp.t2 ≤ mp.t3 := by
  obtain ⟨mp, hn, -⟩ := Except.ok_of_toOption_map exTimes_eq
  exact ⟨mp, hn, new_times_ordered_binary32 _ _ _ _ _ _ hn⟩

/-- a profile the constructor rejects in binary32 (negative `t1`: start velocity above the maximum), so `h` is a real
hypothesis -/
example : (MotionProfile.new true (⟨c0, c1, c0⟩ : State SF) exEnd exMv exMa).toOption.isNone = true := by decide +kernel

end Binary32Examples

/-- non-vacuity: the constructor returns on binary32 data whose operations really round (0 → 3 mm, `0.1f32` mm/s,
`0.01f32` mm/s²: `t3 = 40 s`), so `h` is satisfiable and the conclusion applies at every `t ≥ t3` -/
example : ∃ mp, MotionProfile.new true (⟨c0, c0, c0⟩ : State SF) ⟨c3, c0, c0⟩ ⟨rnd (1 / 10), ⟨1, -1⟩⟩
      ⟨rnd (1 / 100), ⟨1, -2⟩⟩ = .ok mp ∧ mp.t3 = 40000000000 ∧
    ∀ t, mp.t3 ≤ t → historyGet true mp t = .ok (some ⟨t, .position c3⟩) := by
  obtain ⟨mp, hn, ht⟩ := Except.ok_of_toOption_map Binary32Examples.exTimes_eq
  refine ⟨mp, hn, congrArg (·.2.2) ht, fun t ht' => ?_⟩
  rw [new_history_after_complete_binary32 true ⟨c0, c0, c0⟩ ⟨c3, c0, c0⟩ _ _ _ hn t ht']
  have hb : ((c0 : SF) == c0) = true := (beq_iff_eq' _ _).2 rfl
  rw [Command.ofState_rest hb hb]

end Rrtk.Thm.C06
