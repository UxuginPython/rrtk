/-
C16 (extension module): the clause "raw-pointer variants of `Reference` are only constructible through `unsafe` fns or the
static-making macros" as a REGENERATED obligation.  `Rrtk/Gen/RefCtors.lean` is rewritten from /repo/src/reference.rs on every
run (every public fn that returns a `Reference`/`ReferenceUnsafe`, every `From`/`TryFrom` impl into them, the visibility of
`Reference`'s tuple field); the theorems below are re-checked by the kernel against that table.  A safe constructor taking a raw
pointer, a safe conversion `ReferenceUnsafe → Reference`, or a public field makes the corresponding `decide` fail; the compile probes
of the check (tools/extras.py) then supply the failing program.  This is a statement about signatures (what rustc's `unsafe` check
enforces is trusted); the lifetime half of C16 stays outside the technique (DESIGN §5).
-/
import Rrtk.Thm.C16
import Rrtk.Gen.RefCtors
namespace Rrtk.Thm.C16
open Rrtk.Gen

/-- every public constructor that takes a raw pointer is an `unsafe fn` (a row of `refCtors` is (owner type, fn name, declared
`unsafe`, takes a raw pointer)) -/
theorem raw_ctors_are_unsafe : ∀ c ∈ refCtors, c.2.2.2 = true → c.2.2.1 = true := by decide

/-- nothing that can carry a raw pointer converts into a `Reference` through a (safe) `From` / `TryFrom` impl (a row of
`refConversions` is (target type, trait, source type, source can carry a raw pointer)).  Today's table has no row with target
`Reference`, so this holds of it emptily: it is a guard against a future impl. -/
theorem no_safe_conversion_from_raw :
    ∀ c ∈ refConversions, (c.1 == "Reference") = true → c.2.2.2 = false := by decide

/-- `Reference`'s only field is private: safe code cannot wrap a `ReferenceUnsafe` by hand -/
theorem reference_field_private : referenceFieldPrivate = true := by decide

/-- non-vacuity: the table is not empty and contains both kinds of constructor -/
example : ("Reference", "from_ptr", true, true) ∈ refCtors ∧ ("Reference", "from_arc_mutex", false, false) ∈ refCtors := by decide

end Rrtk.Thm.C16
