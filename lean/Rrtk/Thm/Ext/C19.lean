/-
C19 at real binary32 rounding: the tier-L theorem `manual_abs_eq_abs_of_laws` of `Thm/C19.lean` instantiated at the scalar
type `SF` (finite binary32 numbers, `Rrtk/Thm/Lemmas/SoftScalar.lean`), with the two scalar laws it assumes PROVED.
The check reaches `Lemmas/C19Controllers.lean` (`CommandPID`, `PIDWrapper`, the assembled controller) and `Lemmas/C19Programs.lean`
(`erase_program_ext`) through this module.
-/
import Rrtk.Thm.C19
import Rrtk.Thm.Lemmas.SoftScalar
import Rrtk.Thm.Lemmas.C19Controllers
import Rrtk.Thm.Lemmas.C19Programs
namespace Rrtk.Thm.C19
open Rrtk Rrtk.Thm.SoftScalar

/-- the hand-written `if v >= 0.0 { v } else { -v }` (the `no_std` `Quantity::abs` before 24d9cb7, see the head of
`Thm/C19.lean`) equals `f32::abs`, on binary32 values.  Discharged:
`habs_nonneg` (`abs_of_nonneg'`) and `habs_neg` (`abs_of_not_nonneg'`).  `SF` has a single zero: in the hardware format the
two differ in the sign bit at `v = −0.0` (and in the sign of a NaN), as the doc comment of `absManual_spec` says. -/
theorem manual_abs_eq_abs_binary32 (q : Quantity SF) : Quantity.absManual q = Quantity.abs q :=
  manual_abs_eq_abs_of_laws abs_of_nonneg' abs_of_not_nonneg' q

namespace Binary32Examples
example : (Quantity.absManual (⟨-x1_5, ⟨1, 0⟩⟩ : Quantity SF)).value = x1_5 := by decide +kernel
example : Quantity.absManual (⟨-x1_5, ⟨1, 0⟩⟩ : Quantity SF) = Quantity.abs ⟨-x1_5, ⟨1, 0⟩⟩ :=
  manual_abs_eq_abs_binary32 _
end Binary32Examples

end Rrtk.Thm.C19
