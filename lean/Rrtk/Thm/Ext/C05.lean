/-
C05 at history level, for the model functions THE DRIVER RUNS (`Rrtk/Drv/Ss.lean`): `Ewma.step`/`Ma.step` at their f32 and
Quantity instantiations, `A2s/V2s/P2s.step`, `F2q/Q2f.step` (wrapped in `.ok` exactly as the driver wraps them) and
`Cpid.step` (the whole `update`, including the followed command getter), interleaved with `Cpid.set`/`Cpid.reset`.
Tier S.  Each theorem is a step fact of `Thm/C05.lean` lifted by `Lemmas/Run.lean`.  Two clauses hold in a restricted form
only, each with a kernel-checked counterexample to the unrestricted one: CommandPID's no-stale-error clause needs the
followed getter not to error at the last update, the freeze clause needs every condition present.
-/
import Rrtk.Thm.C05
import Rrtk.Thm.Lemmas.C12Ewma

set_option linter.unusedSectionVars false
namespace Rrtk.Thm.C05
open Rrtk Rrtk.Thm.C05Run

variable {F : Type} [Add F] [Sub F] [Mul F] [Div F] [Neg F] [LT F] [LE F] [BEq F]
  [DecidableLT F] [DecidableLE F] [FloatLike F]

/-! ### EWMAStream, MovingAverageStream (generic in `scale`/`add`, then the instantiations the driver runs) -/
section generic
variable {T : Type}

theorem ewma_no_stale_err (scale : T → F → T) (add : T → T → Except Panic T) (sm : F)
    (evs : List (Output T)) (s : EwmaS T)
    (h : runE (Ewma.step scale add sm) Ewma.init evs = .ok s) (e : Err) (he : Ewma.get s = .error e) :
    evs.getLast? = some (.error e) :=
  (ewma_showsInputErr scale add sm).no_stale_err ⟨_, rfl⟩ h he

/-- the reset events of EWMA are exactly the errors (an absent sample is ignored, see `ewma_absent_deletion`).
`hpre`: a panicking prefix has no "later". -/
theorem ewma_reset_erases_history (scale : T → F → T) (add : T → T → Except Panic T) (sm : F)
    (pre post : List (Output T)) (e : Err) (s : EwmaS T)
    (hpre : runE (Ewma.step scale add sm) Ewma.init pre = .ok s) :
    runE (Ewma.step scale add sm) Ewma.init (pre ++ .error e :: post)
      = runE (Ewma.step scale add sm) Ewma.init (.error e :: post) :=
  runE_reset _ _ (.error e) (fun s' => ewma_reset scale add sm s' e) pre post s hpre

theorem ewma_absent_deletion_sim (scale : T → F → T) (add : T → T → Except Panic T) (sm : F)
    (s0 : EwmaS T) (evs : List (Output T)) :
    RelE EwmaSim (runE (Ewma.step scale add sm) s0 (evs.filter (fun i => !isAbsent i)))
      (runE (Ewma.step scale add sm) s0 evs) :=
  (ewma_filterSim scale add sm).run evs s0 s0 (.inl rfl)

/-- C05 (c): applied to every prefix that ends in a non-absent event this is "deleting absent events does not change
later outputs" -/
theorem ewma_absent_deletion (scale : T → F → T) (add : T → T → Except Panic T) (sm : F)
    (s0 : EwmaS T) (evs : List (Output T)) (l : Output T) (hl : evs.getLast? = some l) (hne : l ≠ .ok none) :
    runE (Ewma.step scale add sm) s0 (evs.filter (fun i => !isAbsent i)) = runE (Ewma.step scale add sm) s0 evs :=
  (ewma_filterSim scale add sm).run_last evs l hl ((isAbsent_eq_false_iff l).2 hne) s0 s0 (.inl rfl)

theorem ewma_absent_deletion_get (scale : T → F → T) (add : T → T → Except Panic T) (sm : F)
    (evs : List (Output T)) (l : Output T) (hl : evs.getLast? = some l) (hne : l ≠ .ok none) :
    (runE (Ewma.step scale add sm) Ewma.init (evs.filter (fun i => !isAbsent i))).map Ewma.get
      = (runE (Ewma.step scale add sm) Ewma.init evs).map Ewma.get := by
  rw [ewma_absent_deletion scale add sm Ewma.init evs l hl hne]

theorem ma_no_stale_err (scale : T → F → T) (add : T → T → Except Panic T) (fin : T → F → T) (z : Option T) (w : Int)
    (evs : List (Output T)) (s : MaS T)
    (h : runE (Ma.step scale add fin z w) Ma.init evs = .ok s) (e : Err) (he : Ma.get s = .error e) :
    evs.getLast? = some (.error e) :=
  (ma_showsInputErr scale add fin z w).no_stale_err ⟨_, rfl⟩ h he

/-- the reset events of the moving average are exactly the errors (they empty the window queue).  `hpre`: a unit
mismatch, or a non-positive window, does panic — see the examples at the end. -/
theorem ma_reset_erases_history (scale : T → F → T) (add : T → T → Except Panic T) (fin : T → F → T) (z : Option T)
    (w : Int) (pre post : List (Output T)) (e : Err) (s : MaS T)
    (hpre : runE (Ma.step scale add fin z w) Ma.init pre = .ok s) :
    runE (Ma.step scale add fin z w) Ma.init (pre ++ .error e :: post)
      = runE (Ma.step scale add fin z w) Ma.init (.error e :: post) :=
  runE_reset _ _ (.error e) (fun s' => ma_reset scale add fin z w s' e) pre post s hpre

theorem ma_absent_deletion_sim (scale : T → F → T) (add : T → T → Except Panic T) (fin : T → F → T) (z : Option T)
    (w : Int) (s0 : MaS T) (evs : List (Output T)) :
    RelE MaSim (runE (Ma.step scale add fin z w) s0 (evs.filter (fun i => !isAbsent i)))
      (runE (Ma.step scale add fin z w) s0 evs) :=
  (ma_filterSim scale add fin z w).run evs s0 s0 (.inl rfl)

theorem ma_absent_deletion (scale : T → F → T) (add : T → T → Except Panic T) (fin : T → F → T) (z : Option T)
    (w : Int) (s0 : MaS T) (evs : List (Output T)) (l : Output T) (hl : evs.getLast? = some l) (hne : l ≠ .ok none) :
    runE (Ma.step scale add fin z w) s0 (evs.filter (fun i => !isAbsent i))
      = runE (Ma.step scale add fin z w) s0 evs :=
  (ma_filterSim scale add fin z w).run_last evs l hl ((isAbsent_eq_false_iff l).2 hne) s0 s0 (.inl rfl)

theorem ma_absent_deletion_get (scale : T → F → T) (add : T → T → Except Panic T) (fin : T → F → T) (z : Option T)
    (w : Int) (evs : List (Output T)) (l : Output T) (hl : evs.getLast? = some l) (hne : l ≠ .ok none) :
    (runE (Ma.step scale add fin z w) Ma.init (evs.filter (fun i => !isAbsent i))).map Ma.get
      = (runE (Ma.step scale add fin z w) Ma.init evs).map Ma.get := by
  rw [ma_absent_deletion scale add fin z w Ma.init evs l hl hne]
end generic

/-! #### the four instantiations the driver runs (`Drv/Ss.lean`: `ewma f|q`, `ma f|q`) -/
theorem ewmaF_no_stale_err (sm : F) (evs : List (Output F)) (s : EwmaS F)
    (h : runE (Ewma.step scaleF addF sm) Ewma.init evs = .ok s) (e : Err) (he : Ewma.get s = .error e) :
    evs.getLast? = some (.error e) := ewma_no_stale_err scaleF addF sm evs s h e he
theorem ewmaQ_no_stale_err (chk : Bool) (sm : F) (evs : List (Output (Quantity F))) (s : EwmaS (Quantity F))
    (h : runE (Ewma.step (scaleQdl chk) (Quantity.add chk) sm) Ewma.init evs = .ok s) (e : Err)
    (he : Ewma.get s = .error e) : evs.getLast? = some (.error e) :=
  ewma_no_stale_err (scaleQdl chk) (Quantity.add chk) sm evs s h e he
/-- the f32 EWMA cannot panic (`C12.ewma_no_panic_f32`), so no hypothesis on the prefix -/
theorem ewmaF_reset_erases_history (sm : F) (pre post : List (Output F)) (e : Err) :
    runE (Ewma.step scaleF addF sm) Ewma.init (pre ++ .error e :: post)
      = runE (Ewma.step scaleF addF sm) Ewma.init (.error e :: post) := by
  obtain ⟨s, hs⟩ := C12.ewma_no_panic_f32 sm pre
  rw [C12.runE_eq] at hs
  exact ewma_reset_erases_history scaleF addF sm pre post e s hs
theorem ewmaQ_reset_erases_history (chk : Bool) (sm : F) (pre post : List (Output (Quantity F))) (e : Err)
    (s : EwmaS (Quantity F)) (hpre : runE (Ewma.step (scaleQdl chk) (Quantity.add chk) sm) Ewma.init pre = .ok s) :
    runE (Ewma.step (scaleQdl chk) (Quantity.add chk) sm) Ewma.init (pre ++ .error e :: post)
      = runE (Ewma.step (scaleQdl chk) (Quantity.add chk) sm) Ewma.init (.error e :: post) :=
  ewma_reset_erases_history (scaleQdl chk) (Quantity.add chk) sm pre post e s hpre
theorem ewmaF_absent_deletion (sm : F) (evs : List (Output F)) (l : Output F)
    (hl : evs.getLast? = some l) (hne : l ≠ .ok none) :
    runE (Ewma.step scaleF addF sm) Ewma.init (evs.filter (fun i => !isAbsent i))
      = runE (Ewma.step scaleF addF sm) Ewma.init evs :=
  ewma_absent_deletion scaleF addF sm Ewma.init evs l hl hne
theorem ewmaQ_absent_deletion (chk : Bool) (sm : F) (evs : List (Output (Quantity F))) (l : Output (Quantity F))
    (hl : evs.getLast? = some l) (hne : l ≠ .ok none) :
    runE (Ewma.step (scaleQdl chk) (Quantity.add chk) sm) Ewma.init (evs.filter (fun i => !isAbsent i))
      = runE (Ewma.step (scaleQdl chk) (Quantity.add chk) sm) Ewma.init evs :=
  ewma_absent_deletion (scaleQdl chk) (Quantity.add chk) sm Ewma.init evs l hl hne

theorem maF_no_stale_err (w : Int) (evs : List (Output F)) (s : MaS F)
    (h : runE (Ma.step scaleF addF divF (some (c0 : F)) w) Ma.init evs = .ok s) (e : Err)
    (he : Ma.get s = .error e) : evs.getLast? = some (.error e) :=
  ma_no_stale_err scaleF addF divF (some c0) w evs s h e he
theorem maQ_no_stale_err (chk : Bool) (w : Int) (evs : List (Output (Quantity F))) (s : MaS (Quantity F))
    (h : runE (Ma.step (scaleQs chk) (Quantity.add chk) (divQs chk) none w) Ma.init evs = .ok s) (e : Err)
    (he : Ma.get s = .error e) : evs.getLast? = some (.error e) :=
  ma_no_stale_err (scaleQs chk) (Quantity.add chk) (divQs chk) none w evs s h e he
theorem maF_reset_erases_history (w : Int) (pre post : List (Output F)) (e : Err) (s : MaS F)
    (hpre : runE (Ma.step scaleF addF divF (some (c0 : F)) w) Ma.init pre = .ok s) :
    runE (Ma.step scaleF addF divF (some (c0 : F)) w) Ma.init (pre ++ .error e :: post)
      = runE (Ma.step scaleF addF divF (some (c0 : F)) w) Ma.init (.error e :: post) :=
  ma_reset_erases_history scaleF addF divF (some c0) w pre post e s hpre
theorem maQ_reset_erases_history (chk : Bool) (w : Int) (pre post : List (Output (Quantity F))) (e : Err)
    (s : MaS (Quantity F))
    (hpre : runE (Ma.step (scaleQs chk) (Quantity.add chk) (divQs chk) none w) Ma.init pre = .ok s) :
    runE (Ma.step (scaleQs chk) (Quantity.add chk) (divQs chk) none w) Ma.init (pre ++ .error e :: post)
      = runE (Ma.step (scaleQs chk) (Quantity.add chk) (divQs chk) none w) Ma.init (.error e :: post) :=
  ma_reset_erases_history (scaleQs chk) (Quantity.add chk) (divQs chk) none w pre post e s hpre
theorem maF_absent_deletion (w : Int) (evs : List (Output F)) (l : Output F)
    (hl : evs.getLast? = some l) (hne : l ≠ .ok none) :
    runE (Ma.step scaleF addF divF (some (c0 : F)) w) Ma.init (evs.filter (fun i => !isAbsent i))
      = runE (Ma.step scaleF addF divF (some (c0 : F)) w) Ma.init evs :=
  ma_absent_deletion scaleF addF divF (some c0) w Ma.init evs l hl hne
theorem maQ_absent_deletion (chk : Bool) (w : Int) (evs : List (Output (Quantity F))) (l : Output (Quantity F))
    (hl : evs.getLast? = some l) (hne : l ≠ .ok none) :
    runE (Ma.step (scaleQs chk) (Quantity.add chk) (divQs chk) none w) Ma.init (evs.filter (fun i => !isAbsent i))
      = runE (Ma.step (scaleQs chk) (Quantity.add chk) (divQs chk) none w) Ma.init evs :=
  ma_absent_deletion (scaleQs chk) (Quantity.add chk) (divQs chk) none w Ma.init evs l hl hne

/-! ### to-state converters: the reset events are exactly the errors; `get` never shows an error at all -/
/-- NOTE: the premise `he` is never satisfiable — `a2s_get_never_err` shows the getter of the to-state converters cannot
return an error from ANY state (an input error is reported by `update` only and the getter shows absent,
`a2s_err_then_absent`) — so the no-stale-error clause holds for these three streams in the strongest form. -/
theorem a2s_no_stale_err (chk : Bool) (evs : List (Output (Quantity F))) (s : Option (A2sU0 F))
    (_h : runE (A2s.step chk) A2s.init evs = .ok s) (e : Err) (he : A2s.get chk s = .ok (.error e)) :
    evs.getLast? = some (.error e) := absurd rfl (a2s_get_never_err chk s _ he e)
theorem v2s_no_stale_err (chk : Bool) (evs : List (Output (Quantity F))) (s : Option (V2sU0 F))
    (_h : runE (V2s.step chk) V2s.init evs = .ok s) (e : Err) (he : V2s.get chk s = .ok (.error e)) :
    evs.getLast? = some (.error e) := absurd rfl (v2s_get_never_err chk s _ he e)
theorem p2s_no_stale_err (chk : Bool) (evs : List (Output (Quantity F))) (s : Option (P2sU0 F))
    (_h : runE (P2s.step chk) P2s.init evs = .ok s) (e : Err) (he : P2s.get chk s = .ok (.error e)) :
    evs.getLast? = some (.error e) := absurd rfl (p2s_get_never_err chk s _ he e)
/-- what an input error does instead: `update` returns it, the state is the initial one and the getter shows absent -/
theorem a2s_err_then_absent (chk : Bool) (s : Option (A2sU0 F)) (e : Err) :
    A2s.step chk s (.error e) = .ok (A2s.init, .error e) ∧ A2s.get chk (A2s.init : Option (A2sU0 F)) = .ok (.ok none) :=
  ⟨rfl, rfl⟩
theorem v2s_err_then_absent (chk : Bool) (s : Option (V2sU0 F)) (e : Err) :
    V2s.step chk s (.error e) = .ok (V2s.init, .error e) ∧ V2s.get chk (V2s.init : Option (V2sU0 F)) = .ok (.ok none) :=
  ⟨rfl, rfl⟩
theorem p2s_err_then_absent (chk : Bool) (s : Option (P2sU0 F)) (e : Err) :
    P2s.step chk s (.error e) = .ok (P2s.init, .error e) ∧ P2s.get chk (P2s.init : Option (P2sU0 F)) = .ok (.ok none) :=
  ⟨rfl, rfl⟩
/-- `hpre`: a unit mismatch does panic -/
theorem a2s_reset_erases_history (chk : Bool) (pre post : List (Output (Quantity F))) (e : Err) (s : Option (A2sU0 F))
    (hpre : runE (A2s.step chk) A2s.init pre = .ok s) :
    runE (A2s.step chk) A2s.init (pre ++ .error e :: post) = runE (A2s.step chk) A2s.init (.error e :: post) :=
  runE_reset _ _ (.error e) (fun s' => a2s_reset chk s' e) pre post s hpre
theorem v2s_reset_erases_history (chk : Bool) (pre post : List (Output (Quantity F))) (e : Err) (s : Option (V2sU0 F))
    (hpre : runE (V2s.step chk) V2s.init pre = .ok s) :
    runE (V2s.step chk) V2s.init (pre ++ .error e :: post) = runE (V2s.step chk) V2s.init (.error e :: post) :=
  runE_reset _ _ (.error e) (fun s' => v2s_reset chk s' e) pre post s hpre
theorem p2s_reset_erases_history (chk : Bool) (pre post : List (Output (Quantity F))) (e : Err) (s : Option (P2sU0 F))
    (hpre : runE (P2s.step chk) P2s.init pre = .ok s) :
    runE (P2s.step chk) P2s.init (pre ++ .error e :: post) = runE (P2s.step chk) P2s.init (.error e :: post) :=
  runE_reset _ _ (.error e) (fun s' => p2s_reset chk s' e) pre post s hpre

/-! ### pass-through converters: EVERY event is a reset.  Their updates cannot panic; they are wrapped in `.ok`, exactly as
the driver wraps them, because `runE` runs steps in `Except Panic`. -/
def f2qStep (s : Output F) (i : Output F) : Except Panic (Output F × UpdRet) := .ok (F2q.step s i)
def q2fStep (s : Output F) (i : Output (Quantity F)) : Except Panic (Output F × UpdRet) := .ok (Q2f.step s i)

theorem f2q_showsInputErr (unit : DUnit) : ShowsInputErr (f2qStep (F := F)) (F2q.get unit) where
  err h := by cases h; rfl
  ok {_ o _} h := by cases h; cases o <;> exact ⟨_, rfl⟩
theorem q2f_showsInputErr : ShowsInputErr (q2fStep (F := F)) Q2f.get where
  err h := by cases h; rfl
  ok {_ o _} h := by cases h; cases o <;> exact ⟨_, rfl⟩

theorem f2q_no_stale_err_history (unit : DUnit) (evs : List (Output F)) (s : Output F)
    (h : runE f2qStep F2q.init evs = .ok s) (e : Err) (he : F2q.get unit s = .error e) :
    evs.getLast? = some (.error e) :=
  (f2q_showsInputErr unit).no_stale_err ⟨_, rfl⟩ h he
theorem q2f_no_stale_err_history (evs : List (Output (Quantity F))) (s : Output F)
    (h : runE q2fStep Q2f.init evs = .ok s) (e : Err) (he : Q2f.get s = .error e) :
    evs.getLast? = some (.error e) :=
  q2f_showsInputErr.no_stale_err ⟨_, rfl⟩ h he
/-- every event (present, absent, error) erases the history; no hypothesis: these updates cannot panic -/
theorem f2q_reset_erases_history (pre post : List (Output F)) (r : Output F) :
    runE f2qStep F2q.init (pre ++ r :: post) = runE f2qStep F2q.init (r :: post) :=
  runE_reset_total f2qStep (fun _ _ => ⟨_, rfl⟩) F2q.init r (fun _ => rfl) pre post
theorem q2f_reset_erases_history (pre post : List (Output (Quantity F))) (r : Output (Quantity F)) :
    runE q2fStep (Q2f.init : Output F) (pre ++ r :: post) = runE q2fStep Q2f.init (r :: post) :=
  runE_reset_total q2fStep (fun _ _ => ⟨_, rfl⟩) Q2f.init r (fun _ => rfl) pre post

/-! ### CommandPID: the clauses for `Cpid.step` (the whole `update`, what the driver runs) -/
/-- one `update` of CommandPID as the driver runs it: what the followed command getter returns now (`none`: not
following) and what the input getter returns -/
abbrev CpidEv (F : Type) := Option (Output (Command F)) × Output (State F)
def cpidStep (chk : Bool) (k : PIDK3 F) (s : CpidS F) (ev : CpidEv F) : Except Panic (CpidS F × UpdRet) :=
  .ok (Cpid.step chk k s ev.1 ev.2)
theorem cpidStep_total (chk : Bool) (k : PIDK3 F) (s : CpidS F) (ev : CpidEv F) : ∃ r, cpidStep chk k s ev = .ok r :=
  ⟨_, rfl⟩

theorem cpid_step_none (chk : Bool) (k : PIDK3 F) (s : CpidS F) (i : Output (State F)) :
    Cpid.step chk k s none i = Cpid.stepInput chk k s i := rfl
theorem cpid_step_fol_absent (chk : Bool) (k : PIDK3 F) (s : CpidS F) (i : Output (State F)) :
    Cpid.step chk k s (some (.ok none)) i = Cpid.stepInput chk k s i := rfl
theorem cpid_step_fol_present (chk : Bool) (k : PIDK3 F) (s : CpidS F) (d : Datum (Command F)) (i : Output (State F)) :
    Cpid.step chk k s (some (.ok (some d))) i = Cpid.stepInput chk k (Cpid.set s d.value) i := rfl
/-- a follower error aborts the update BEFORE the input is read: the state is untouched -/
theorem cpid_step_fol_err (chk : Bool) (k : PIDK3 F) (s : CpidS F) (e : Err) (i : Output (State F)) :
    Cpid.step chk k s (some (.error e)) i = (s, .error e) := rfl

/-- from ANY state: the getter shows `err e` only if the input of this very update returned `err e` — or the followed
command getter errored (then nothing was updated) -/
theorem cpid_step_err_cases (chk : Bool) (k : PIDK3 F) (s : CpidS F) (f : Option (Output (Command F)))
    (i : Output (State F)) (e : Err) (h : Cpid.get (Cpid.step chk k s f i).1 = .error e) :
    i = .error e ∨ ∃ e', f = some (.error e') := by
  rcases f with _ | e' | _ | d
  · exact .inl (cpid_no_stale_err_step chk k s i e h)
  · exact .inr ⟨e', rfl⟩
  · exact .inl (cpid_no_stale_err_step chk k s i e h)
  · exact .inl (cpid_no_stale_err_step chk k (Cpid.set s d.value) i e h)

theorem cpid_no_stale_err_of_step (chk : Bool) (k : PIDK3 F) (s : CpidS F) (f : Option (Output (Command F)))
    (hf : ∀ e', f ≠ some (.error e')) (i : Output (State F)) (e : Err)
    (h : Cpid.get (Cpid.step chk k s f i).1 = .error e) : i = .error e := by
  rcases cpid_step_err_cases chk k s f i e h with h | ⟨e', he'⟩
  · exact h
  · exact absurd he' (hf e')

/-- no hypothesis on the history -/
theorem cpid_no_stale_err_or_follower_err (chk : Bool) (k : PIDK3 F) (c : Command F) (evs : List (CpidEv F))
    (s : CpidS F) (h : runE (cpidStep chk k) (Cpid.init c) evs = .ok s) (e : Err) (he : Cpid.get s = .error e) :
    ∃ ev, evs.getLast? = some ev ∧ (ev.2 = .error e ∨ ∃ e', ev.1 = some (.error e')) := by
  rcases runE_last_step (P := fun ev s => ∀ e, Cpid.get s = .error e → ev.2 = .error e ∨ ∃ e', ev.1 = some (.error e'))
    (fun s ev r hr e he => by cases hr; exact cpid_step_err_cases chk k s ev.1 ev.2 e he) h
    with ⟨-, rfl⟩ | ⟨ev, hev, hP⟩
  · cases he
  · exact ⟨ev, hev, hP e he⟩

/-- the hypothesis only on the LAST update -/
theorem cpid_no_stale_err_last (chk : Bool) (k : PIDK3 F) (c : Command F) (evs : List (CpidEv F))
    (hf : ∀ ev, evs.getLast? = some ev → ∀ e', ev.1 ≠ some (.error e'))
    (s : CpidS F) (h : runE (cpidStep chk k) (Cpid.init c) evs = .ok s) (e : Err) (he : Cpid.get s = .error e) :
    ∃ f, evs.getLast? = some (f, .error e) := by
  obtain ⟨ev, hev, hie⟩ := cpid_no_stale_err_or_follower_err chk k c evs s h e he
  rcases hie with hi | ⟨e', he'⟩
  · exact ⟨ev.1, by rw [hev, ← hi]⟩
  · exact absurd he' (hf ev hev e')

/-- C05 for `Cpid.step` with the property's quantifier (histories in which the followed command getter never errors;
it may be not followed, absent, or deliver commands): `get` shows `err e` only if the input returned `err e` at the
most recent update. -/
theorem cpid_no_stale_err (chk : Bool) (k : PIDK3 F) (c : Command F) (evs : List (CpidEv F))
    (hf : ∀ ev ∈ evs, ∀ e', ev.1 ≠ some (.error e'))
    (s : CpidS F) (h : runE (cpidStep chk k) (Cpid.init c) evs = .ok s) (e : Err) (he : Cpid.get s = .error e) :
    ∃ f, evs.getLast? = some (f, .error e) :=
  cpid_no_stale_err_last chk k c evs (fun ev hev => hf ev (List.mem_of_getLast? hev)) s h e he

/-! #### with the driver's other CommandPID operations interleaved (`set:`, `reset`; `fol:`/`cs:`/`unfol` only choose
the follower argument of the next update and `lr` is a pure read) -/
inductive CpidOp (F : Type) where
  | upd (fol : Option (Output (Command F))) (inp : Output (State F))
  | set (c : Command F)
  | reset
def cpidOpStep (chk : Bool) (k : PIDK3 F) (s : CpidS F) : CpidOp F → Except Panic (CpidS F × UpdRet)
  | .upd f i => .ok (Cpid.step chk k s f i)
  | .set c => .ok (Cpid.set s c, .ok ())
  | .reset => .ok (Cpid.reset s, .ok ())
/-- the most recent update of an operation history -/
def lastUpd : List (CpidOp F) → Option (CpidEv F)
  | [] => none
  | op :: rest =>
    match lastUpd rest with
    | some x => some x
    | none => match op with
      | .upd f i => some (f, i)
      | _ => none

theorem lastUpd_cons_of_some {op : CpidOp F} {rest : List (CpidOp F)} {x : CpidEv F} (h : lastUpd rest = some x) :
    lastUpd (op :: rest) = some x := by simp only [lastUpd, h]
theorem lastUpd_cons_of_none {op : CpidOp F} {rest : List (CpidOp F)} (h : lastUpd rest = none) :
    lastUpd (op :: rest) = match op with | .upd f i => some (f, i) | _ => none := by
  cases op <;> simp only [lastUpd, h]

/-- `set` never makes an error appear: it keeps the staged computation or clears it -/
theorem cpid_set_get_err (s : CpidS F) (c : Command F) (e : Err) (h : Cpid.get (Cpid.set s c) = .error e) :
    Cpid.get s = .error e := by
  rw [Cpid.get_error_iff] at h ⊢
  cases hb : Command.beq c s.command
  · rw [Cpid.set_diff s c hb] at h; cases h
  · rwa [Cpid.set_same s c hb] at h

/-- from ANY start state: the error showing at the end comes from the most recent update, or there was no update and
it was showing at the start (`set` keeps or clears what shows, `reset` clears it) -/
theorem cpid_no_stale_err_ops_aux (chk : Bool) (k : PIDK3 F) (ops : List (CpidOp F)) (s0 s : CpidS F)
    (h : runE (cpidOpStep chk k) s0 ops = .ok s) (e : Err) (he : Cpid.get s = .error e) :
    (lastUpd ops = none ∧ Cpid.get s0 = .error e) ∨
    ∃ f i, lastUpd ops = some (f, i) ∧ (i = .error e ∨ ∃ e', f = some (.error e')) := by
  induction ops generalizing s0 with
  | nil => cases h; exact .inl ⟨rfl, he⟩
  | cons op rest ih =>
    obtain ⟨r, hr, h⟩ := runE_cons_ok h
    rcases ih r.1 h with ⟨hnone, herr⟩ | ⟨f, i, hl, hfi⟩
    · -- no update after `op`: `op` decides
      cases op with
      | upd f i => cases hr; exact .inr ⟨f, i, lastUpd_cons_of_none hnone, cpid_step_err_cases chk k s0 f i e herr⟩
      | set c => cases hr; exact .inl ⟨lastUpd_cons_of_none hnone, cpid_set_get_err s0 c e herr⟩
      | reset => cases hr; cases herr
    · exact .inr ⟨f, i, lastUpd_cons_of_some hl, hfi⟩

/-- C05 for everything the driver does to a CommandPID: after any interleaving of updates, `set` and `reset`, an error
showing is the error the input returned at the MOST RECENT UPDATE (or the followed command getter errored at that
update, which the property's quantifier excludes). -/
theorem cpid_no_stale_err_ops (chk : Bool) (k : PIDK3 F) (c : Command F) (ops : List (CpidOp F)) (s : CpidS F)
    (h : runE (cpidOpStep chk k) (Cpid.init c) ops = .ok s) (e : Err) (he : Cpid.get s = .error e) :
    ∃ f i, lastUpd ops = some (f, i) ∧ (i = .error e ∨ ∃ e', f = some (.error e')) := by
  rcases cpid_no_stale_err_ops_aux chk k ops (Cpid.init c) s h e he with ⟨_, h0⟩ | h
  · cases h0
  · exact h

/-! #### reset: an update with absent or erroring input erases the staged computation, not the command and last request -/
theorem cpid_set_agree (s s' : CpidS F) (c : Command F) (hc : s.command = s'.command) :
    (Cpid.set s c).command = (Cpid.set s' c).command ∧ (Cpid.set s c).lastRequest = (Cpid.set s' c).lastRequest := by
  cases hb : Command.beq c s'.command
  · rw [Cpid.set_diff s' c hb, Cpid.set_diff s c (hc ▸ hb)]; exact ⟨rfl, rfl⟩
  · rw [Cpid.set_same s' c hb, Cpid.set_same s c (hc ▸ hb)]; exact ⟨hc, rfl⟩

/-- an update whose input is absent or an error, and whose followed command getter does not error, produces a state that
depends on the past only through the command and the last request — the whole staged computation (`us`: previous
sample, integrals) is erased -/
theorem cpid_step_reset_state (chk : Bool) (k : PIDK3 F) (s s' : CpidS F) (f : Option (Output (Command F)))
    (hf : ∀ e', f ≠ some (.error e')) (r : Output (State F)) (hr : r = .ok none ∨ ∃ e, r = .error e)
    (hc : s.command = s'.command) (hl : s.lastRequest = s'.lastRequest) :
    Cpid.step chk k s f r = Cpid.step chk k s' f r := by
  rcases f with _ | e' | _ | d
  · exact cpid_reset_state chk k s s' r hr hc hl
  · exact absurd rfl (hf e')
  · exact cpid_reset_state chk k s s' r hr hc hl
  · obtain ⟨h1, h2⟩ := cpid_set_agree s s' d.value hc
    exact cpid_reset_state chk k _ _ r hr h1 h2

/-- the precise reset events of `Cpid.step`: input absent or error, follower not erroring -/
def CpidIsReset (ev : CpidEv F) : Prop :=
  (ev.2 = .ok none ∨ ∃ e, ev.2 = .error e) ∧ ∀ e', ev.1 ≠ some (.error e')

/-- reset erases history, general form (any start state, any prefix — so also after `set`/`reset` calls): after a reset
event, the run continues exactly as from the state that keeps only the CURRENT command and last request. -/
theorem cpid_reset_erases_history_from (chk : Bool) (k : PIDK3 F) (s0 : CpidS F) (pre post : List (CpidEv F))
    (r : CpidEv F) (hr : CpidIsReset r) (s : CpidS F) (hpre : runE (cpidStep chk k) s0 pre = .ok s) :
    runE (cpidStep chk k) s0 (pre ++ r :: post)
      = runE (cpidStep chk k) ⟨s.command, .ok none, s.lastRequest⟩ (r :: post) :=
  runE_append_cons_congr hpre
    (congrArg Except.ok (cpid_step_reset_state chk k s ⟨s.command, .ok none, s.lastRequest⟩ r.1 hr.2 r.2 hr.1 rfl rfl)) post

theorem cpid_step_keeps (chk : Bool) (k : PIDK3 F) (s : CpidS F) (f : Option (Output (Command F)))
    (hf : ∀ d, f ≠ some (.ok (some d))) (i : Output (State F)) :
    (Cpid.step chk k s f i).1.command = s.command ∧ (Cpid.step chk k s f i).1.lastRequest = s.lastRequest := by
  rcases f with _ | e' | _ | d
  · exact ⟨Cpid.stepInput_command chk k s i, Cpid.stepInput_lastRequest chk k s i⟩
  · exact ⟨rfl, rfl⟩
  · exact ⟨Cpid.stepInput_command chk k s i, Cpid.stepInput_lastRequest chk k s i⟩
  · exact absurd rfl (hf d)

theorem cpid_run_keeps (chk : Bool) (k : PIDK3 F) (s0 : CpidS F) (pre : List (CpidEv F))
    (hpre : ∀ ev ∈ pre, ∀ d, ev.1 ≠ some (.ok (some d))) :
    ∃ s, runE (cpidStep chk k) s0 pre = .ok s ∧ s.command = s0.command ∧ s.lastRequest = s0.lastRequest :=
  runE_inv (cpidStep chk k) (fun s => s.command = s0.command ∧ s.lastRequest = s0.lastRequest)
    (fun ev => ∀ d, ev.1 ≠ some (.ok (some d)))
    (fun s ev hs hev =>
      have ⟨hc, hl⟩ := cpid_step_keeps chk k s ev.1 hev ev.2
      ⟨_, rfl, hc.trans hs.1, hl.trans hs.2⟩) s0 ⟨rfl, rfl⟩ pre hpre

/-- C05 "reset erases history" for `Cpid.step`, against a NEWLY CONSTRUCTED stream: when the followed command getter
delivered no command before the reset (not followed, absent or erroring — otherwise the stream has a different command
than the one it was constructed with, see `cpid_reset_erases_history_from`), every state after a reset event equals that
of a new `CommandPID` fed the events from the reset on. -/
theorem cpid_reset_erases_history (chk : Bool) (k : PIDK3 F) (c : Command F) (pre post : List (CpidEv F))
    (hpre : ∀ ev ∈ pre, ∀ d, ev.1 ≠ some (.ok (some d))) (r : CpidEv F) (hr : CpidIsReset r) :
    runE (cpidStep chk k) (Cpid.init c) (pre ++ r :: post) = runE (cpidStep chk k) (Cpid.init c) (r :: post) := by
  obtain ⟨s, hs, hc, hl⟩ := cpid_run_keeps chk k (Cpid.init c) pre hpre
  rw [cpid_reset_erases_history_from chk k (Cpid.init c) pre post r hr s hs, hc, hl]
  rfl

/-! #### kernel-checked instances (scalar `Int`) -/
namespace CpidExamples
def k : PIDK3 Int := ⟨⟨1, 0, 0⟩, ⟨1, 0, 0⟩, ⟨1, 0, 0⟩⟩
def x1 : Output (State Int) := .ok (some ⟨1000000000, ⟨1, 2, 3⟩⟩)
def x2 : Output (State Int) := .ok (some ⟨2000000000, ⟨2, 2, 3⟩⟩)
def e1 : Err := .other 1
def e2 : Err := .other 2
/-- non-vacuity of `cpid_no_stale_err`: the follower delivers a command, is absent, is not followed — never errors —
and the run ends showing the error of the last input -/
def hist : List (CpidEv Int) := [(some (.ok (some ⟨0, .velocity 4⟩)), x1), (some (.ok none), x2), (none, .error e1)]
example : ∀ ev ∈ hist, ∀ e', ev.1 ≠ some (.error e') := by
  intro ev hev e'
  simp only [hist, List.mem_cons, List.mem_nil_iff, or_false] at hev
  rcases hev with rfl | rfl | rfl <;> nofun
example : ∃ s, runE (cpidStep true k) (Cpid.init (.position 5)) hist = .ok s ∧ Cpid.get s = .error e1 := ⟨_, rfl, rfl⟩
/-- after the input error a present sample shows a value again -/
example : ∃ s, runE (cpidStep true k) (Cpid.init (.position 5)) [(none, .error e1), (none, x1)] = .ok s
    ∧ Cpid.get s = .ok (some ⟨1000000000, 4⟩) := ⟨_, rfl, rfl⟩

/-- THE CLAUSE FAILS WHEN THE FOLLOWER ERRORS: input error `e1`, then an update at which the followed command getter
errors (`e2`) while the input is PRESENT.  `update` aborts before the input is read (`update_following_data()?`), so
`get` still shows `e1` although the input of the most recent update did not return an error.  This is the code's
behaviour (model = implementation); the property's quantifier has no follower errors. -/
example : ∃ s, runE (cpidStep true k) (Cpid.init (.position 5)) [(none, .error e1), (some (.error e2), x1)] = .ok s
    ∧ Cpid.get s = .error e1
    ∧ [((none : Option (Output (Command Int))), (.error e1 : Output (State Int))), (some (.error e2), x1)].getLast?
        = some (some (.error e2), x1)
    ∧ x1 ≠ .error e1 := ⟨_, rfl, rfl, rfl, nofun⟩
/-- the same through the driver's operations: `cpid_no_stale_err_ops` lands in its second disjunct -/
example : ∃ s, runE (cpidOpStep true k) (Cpid.init (.position 5))
      [.upd none (.error e1), .set (.position 5), .upd (some (.error e2)) x1] = .ok s ∧ Cpid.get s = .error e1 :=
  ⟨_, rfl, rfl⟩

/-- non-vacuity of `cpid_reset_erases_history`: reset events exist (absent input while following an absent command;
input error while not following) and the prefix hypothesis holds -/
example : CpidIsReset ((some (.ok none), .ok none) : CpidEv Int) := ⟨Or.inl rfl, nofun⟩
example : CpidIsReset ((none, .error e1) : CpidEv Int) := ⟨Or.inr ⟨e1, rfl⟩, nofun⟩
example : ∀ ev ∈ ([(none, x1), (some (.ok none), x2)] : List (CpidEv Int)), ∀ d, ev.1 ≠ some (.ok (some d)) := by
  intro ev hev d
  simp only [List.mem_cons, List.mem_nil_iff, or_false] at hev
  rcases hev with rfl | rfl <;> nofun
/-- an update whose follower ERRORS is not a reset even when the input is absent: nothing is erased -/
example : ∃ s s', runE (cpidStep true k) (Cpid.init (.position 5)) [(none, x1), (some (.error e2), .ok none)] = .ok s
    ∧ runE (cpidStep true k) (Cpid.init (.position 5)) [(some (.error e2), .ok none)] = .ok s'
    ∧ Cpid.get s = .ok (some ⟨1000000000, 4⟩) ∧ Cpid.get s' = .ok none := ⟨_, _, rfl, rfl, rfl, rfl⟩
/-- a command delivered by the follower before the reset survives it (it is a setting, not history): the hypothesis of
`cpid_reset_erases_history` on the prefix is needed, `cpid_reset_erases_history_from` is the general statement -/
example : ∃ s s', runE (cpidStep true k) (Cpid.init (.position 5))
        [(some (.ok (some ⟨0, .velocity 4⟩)), x1), (none, .ok none), (none, x2)] = .ok s
    ∧ runE (cpidStep true k) (Cpid.init (.position 5)) [(none, .ok none), (none, x2)] = .ok s'
    ∧ Cpid.get s = .ok none ∧ Cpid.get s' = .ok (some ⟨2000000000, 3⟩) := ⟨_, _, rfl, rfl, rfl, rfl⟩
end CpidExamples

/-! ### FreezeStream: the value is the input at the last false condition, for histories of PRESENT conditions -/
section freeze
variable {T : Type}
/-- run over a history of (condition, input) pairs -/
def freezeRun (s : Output T) : List (Output Bool × Output T) → Output T
  | [] => s
  | (c, i) :: rest => freezeRun (Freeze.step s c i).1 rest
/-- boolean condition histories (every condition present): the value is what the input returned at the last update
whose condition was false; with no such update it is the initial value. -/
def lastFalseInput (init : Output T) : List (Bool × Output T) → Output T
  | [] => init
  | (c, i) :: rest => lastFalseInput (if c then init else i) rest
/-- the boolean of a present condition (`true` for a non-present one; never used under the hypothesis below) -/
def condVal (c : Output Bool) : Bool := match c with | .ok (some d) => d.value | _ => true

/-- The freeze clause, for histories in which every condition is PRESENT (`Ok(Some(bool))`).  The restriction is forced by
the code: an absent condition makes the stream absent and an erroring one makes it show that error, whatever the input
returned at the last false condition (`freeze_absent_condition`, and the two examples below); the property's quantifier
is "all boolean condition histories". -/
theorem freeze_last_false_present_conditions (s : Output T) (h : List (Output Bool × Output T))
    (hp : ∀ x ∈ h, ∃ d, x.1 = .ok (some d)) :
    freezeRun s h = lastFalseInput s (h.map (fun x => (condVal x.1, x.2))) := by
  induction h generalizing s with
  | nil => rfl
  | cons x xs ih =>
    obtain ⟨⟨t, c⟩, hd⟩ := hp x List.mem_cons_self
    obtain ⟨_, i⟩ := x
    subst hd
    -- one update with a present condition: the input's value if the condition is false, the old value if true
    have hstep : (Freeze.step s (.ok (some ⟨t, c⟩)) i).1 = if c then s else i := by
      cases c
      · cases i <;> rfl
      · rfl
    simp only [freezeRun, List.map_cons, lastFalseInput, condVal, hstep]
    exact ih _ fun y hy => hp y (List.mem_cons_of_mem _ hy)
/-- non-vacuity, and the restriction is necessary: with all conditions present the last false input shows … -/
example : freezeRun (T := Int) (.ok none) [(.ok (some ⟨1, false⟩), .ok (some ⟨1, 7⟩)), (.ok (some ⟨2, true⟩), .ok (some ⟨2, 9⟩))]
    = .ok (some ⟨1, 7⟩) := rfl
/-- … an absent condition afterwards makes the stream absent … -/
example : freezeRun (T := Int) (.ok none) [(.ok (some ⟨1, false⟩), .ok (some ⟨1, 7⟩)), (.ok none, .ok (some ⟨2, 9⟩))]
    = .ok none := rfl
/-- … and an erroring condition makes it show the condition's error. -/
example : freezeRun (T := Int) (.ok none) [(.ok (some ⟨1, false⟩), .ok (some ⟨1, 7⟩)), (.error (.other 3), .ok (some ⟨2, 9⟩))]
    = .error (.other 3) := rfl
end freeze

/-! ### kernel-checked instances (scalar `Int`): non-vacuity of the hypotheses above, and necessity of the restrictions -/
/-- non-vacuity of `ewma_no_stale_err` (f32 instantiation at `Int`): a run that ends showing an error -/
example : ∃ s, runE (Ewma.step (F := Int) scaleF addF 1) Ewma.init
      [.ok (some ⟨1000000000, 4⟩), .error (.other 2)] = .ok s ∧ Ewma.get s = .error (.other 2) := ⟨_, rfl, rfl⟩
/-- recovery: error, absent, present — no error shows -/
example : ∃ s, runE (Ewma.step (F := Int) scaleF addF 1) Ewma.init
      [.error (.other 1), .ok none, .ok (some ⟨1000000000, 4⟩)] = .ok s ∧ Ewma.get s = .ok (some ⟨1000000000, 4⟩) :=
  ⟨_, rfl, rfl⟩
example : ∃ s, runE (Ewma.step (F := Int) (scaleQdl true) (Quantity.add true) 1) Ewma.init
      [.ok (some ⟨1000000000, ⟨4, MILLIMETER true⟩⟩), .ok (some ⟨2000000000, ⟨8, MILLIMETER true⟩⟩), .error .fromNone] = .ok s
      ∧ Ewma.get s = .error .fromNone := ⟨_, rfl, rfl⟩
/-- non-vacuity of `hpre`: a two-sample prefix does not panic -/
example : ∃ s, runE (Ewma.step (F := Int) scaleF addF 1) Ewma.init
      [.ok (some ⟨1000000000, 4⟩), .ok (some ⟨2000000000, 8⟩)] = .ok s := ⟨_, rfl⟩
/-- absent deletion needs "ends in a non-absent event": after `[err, absent]` the full run shows absent, the run with
the absent event deleted still shows the error (they are `EwmaSim`-related, not equal). -/
example : (runE (Ewma.step (F := Int) scaleF addF 1) Ewma.init [.error (.other 1), .ok none]).map Ewma.get
      = .ok (.ok none)
    ∧ (runE (Ewma.step (F := Int) scaleF addF 1) Ewma.init
        ([.error (.other 1), .ok none].filter (fun i => !isAbsent i))).map Ewma.get = .ok (.error (.other 1)) :=
  ⟨rfl, rfl⟩

example : ∃ s, runE (Ma.step (F := Int) scaleF addF divF (some 0) 2000000000) Ma.init
      [.ok (some ⟨1000000000, 4⟩), .ok (some ⟨2000000000, 8⟩), .error (.other 2)] = .ok s
      ∧ Ma.get s = .error (.other 2) := ⟨_, rfl, rfl⟩
example : ∃ s, runE (Ma.step (F := Int) (scaleQs true) (Quantity.add true) (divQs true) none 2000000000) Ma.init
      [.ok (some ⟨1000000000, ⟨4, MILLIMETER true⟩⟩), .ok none, .ok (some ⟨2000000000, ⟨8, MILLIMETER true⟩⟩)] = .ok s
      ∧ ∃ v, Ma.get s = .ok (some v) := ⟨_, rfl, _, rfl⟩
example : (runE (Ma.step (F := Int) scaleF addF divF (some 0) 2000000000) Ma.init [.error (.other 1), .ok none]).map Ma.get
      = .ok (.ok none)
    ∧ (runE (Ma.step (F := Int) scaleF addF divF (some 0) 2000000000) Ma.init
        ([.error (.other 1), .ok none].filter (fun i => !isAbsent i))).map Ma.get = .ok (.error (.other 1)) :=
  ⟨rfl, rfl⟩

example : ∃ s, runE (A2s.step (F := Int) true) A2s.init
      [.ok (some ⟨1000000000, ⟨4, MILLIMETER_PER_SECOND_SQUARED true⟩⟩), .error (.other 1),
       .ok (some ⟨2000000000, ⟨4, MILLIMETER_PER_SECOND_SQUARED true⟩⟩)] = .ok s ∧ A2s.get true s = .ok (.ok none) :=
  ⟨_, rfl, rfl⟩
example : ∃ s, runE (V2s.step (F := Int) true) V2s.init
      [.ok (some ⟨1000000000, ⟨4, MILLIMETER_PER_SECOND true⟩⟩), .ok (some ⟨2000000000, ⟨6, MILLIMETER_PER_SECOND true⟩⟩)]
      = .ok s ∧ ∃ v, V2s.get true s = .ok (.ok (some v)) := ⟨_, rfl, _, rfl⟩
example : ∃ s, runE (P2s.step (F := Int) true) P2s.init
      [.ok (some ⟨1000000000, ⟨4, MILLIMETER true⟩⟩), .ok (some ⟨2000000000, ⟨6, MILLIMETER true⟩⟩)] = .ok s := ⟨_, rfl⟩

/-! the theorems applied to concrete histories -/
/-- `ewmaF_absent_deletion` applies: the history ends in a present sample -/
example : runE (Ewma.step (F := Int) scaleF addF 1) Ewma.init
      ([.error (.other 1), .ok none, .ok (some ⟨1000000000, 4⟩)].filter (fun i => !isAbsent i))
    = runE (Ewma.step (F := Int) scaleF addF 1) Ewma.init [.error (.other 1), .ok none, .ok (some ⟨1000000000, 4⟩)] :=
  ewmaF_absent_deletion 1 _ (.ok (some ⟨1000000000, 4⟩)) rfl nofun
/-- `maF_absent_deletion` applies: the history ends in an error -/
example : runE (Ma.step (F := Int) scaleF addF divF (some 0) 2000000000) Ma.init
      ([.ok (some ⟨1000000000, 4⟩), .ok none, .error (.other 2)].filter (fun i => !isAbsent i))
    = runE (Ma.step (F := Int) scaleF addF divF (some 0) 2000000000) Ma.init
        [.ok (some ⟨1000000000, 4⟩), .ok none, .error (.other 2)] :=
  maF_absent_deletion 2000000000 _ (.error (.other 2)) rfl nofun
/-- non-vacuity of `hpre` for the moving average (it does panic when the window is not positive: the model's and the
code's `input_values[0]` on an emptied queue) -/
example : ∃ s, runE (Ma.step (F := Int) scaleF addF divF (some 0) 2000000000) Ma.init
      [.ok (some ⟨1000000000, 4⟩), .ok (some ⟨2000000000, 8⟩)] = .ok s := ⟨_, rfl⟩
example : runE (Ma.step (F := Int) scaleF addF divF (some 0) 0) Ma.init [.ok (some ⟨1000000000, 4⟩)] = .error .oob := rfl
/-- pass-through converters: a run that ends showing the error of its last event, and one that has recovered -/
example : ∃ s, runE (f2qStep (F := Int)) F2q.init [.ok (some ⟨1, 4⟩), .error (.other 2)] = .ok s
    ∧ F2q.get (MILLIMETER true) s = .error (.other 2) := ⟨_, rfl, rfl⟩
example : ∃ s, runE (q2fStep (F := Int)) Q2f.init [.error (.other 2), .ok (some ⟨1, ⟨4, MILLIMETER true⟩⟩)] = .ok s
    ∧ Q2f.get s = .ok (some ⟨1, 4⟩) := ⟨_, rfl, rfl⟩

end Rrtk.Thm.C05
