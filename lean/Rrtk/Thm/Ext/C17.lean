/-
C17, extension modules (audited together with `Thm/C17.lean`, all in `namespace Rrtk.Thm.C17`):
* `Thm/Lemmas/C17HeapOps.lean`, `Thm/Lemmas/C17HeapInv.lean` — what each statement of the heap machine does, and the invariants: `HInvA`, which
  every statement (raw aliases and `clone_from` included) preserves, and `HInv`, the same on the machine without raw aliases;
* `Thm/Lemmas/C17Heap.lean` — the heap machine of `Rrtk/RefHeap.lean`: no fault on live handles, the target of a counted `Reference` is alive
  while any handle exists, a write is seen through every alias, mutants that break this, simulation to the `RefCase` model the driver runs;
* `Thm/Lemmas/C17Alias.lean` — the extended machine of `Rrtk/RefAlias.lean` (raw aliases made by `unsafe` code, `clone_from`, `to_dyn!` with the arm
  table as a parameter): `clone_from` makes the slot an owner (and the mutant that skips equal addresses is refuted),
  the target is alive while any COUNTED handle exists; raw aliases can dangle (that is what `unsafe` means);
* `Thm/Lemmas/CellBorrowLaws.lean` — the dynamic borrow state of a `RefCell` while borrows are kept alive (`CellBorrow`): invariant,
  exclusion, balanced programs return to the initial state.
-/
import Rrtk.Thm.Lemmas.C17Heap
import Rrtk.Thm.Lemmas.C17Alias
import Rrtk.Thm.Lemmas.CellBorrowLaws
