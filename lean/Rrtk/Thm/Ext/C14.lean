/-
C14 at binary32.  The theorem `state_updateQ_eq` of `Thm/C14.lean` sits in the tier-R section, but the fact uses no field
law: it is `State.updateQ_eq` (`Lemmas/Dim.lean`), stated for an ARBITRARY scalar, so it is true of IEEE `f32` bit-exactly.
Here is its reading at `SF`.
-/
import Rrtk.Thm.C14
import Rrtk.Thm.Lemmas.SoftScalar
namespace Rrtk.Thm.C14
open Rrtk Rrtk.Thm.SoftScalar

theorem state_updateQ_eq_binary32 (chk : Bool) (s : State SF) (dt : Int) :
    State.updateQ chk s dt = .ok (State.update s dt) := State.updateQ_eq chk s dt

end Rrtk.Thm.C14
