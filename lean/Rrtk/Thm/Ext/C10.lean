/-
C10 beyond Thm/C10.lean: the converters tied to `trapSpec` / `backdiffSpec` (Lemmas/C10Converters.lean) and forward error bounds of the
integral stream at binary32 rounding for the scalar type `SF` (Lemmas/C10Rounding.lean).
-/
import Rrtk.Thm.C10
import Rrtk.Thm.Lemmas.C10Rounding
import Rrtk.Thm.Lemmas.C10Converters
