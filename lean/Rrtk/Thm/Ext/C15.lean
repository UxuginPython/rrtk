/-
C15, extension: a `Terminal` is a `Settable` twice over (`Datum<State>` and `Datum<Command>`), and `impl Updatable for
Terminal` runs `update_following_data` for the COMMAND slot and then for the STATE slot, each followed by `?`.  The
built-in devices start every `update()` with `update_terminals()?`.  Model: `Rrtk/TermFollow.lean` (executed by the
driver's `dv` ops `fs fc nfs nfc gs gc tu u ut`, compared with the real crate on every run).

Tier S: the scalar type is arbitrary, nothing here computes with it.
-/
import Rrtk.Thm.C15
import Rrtk.TermFollow
import Rrtk.Thm.Lemmas.FollowOrder
namespace Rrtk.Thm.C15
open Rrtk

variable {F : Type}

/-- the error a terminal update reports, if any: the command getter is asked first.  (The same function as `followedErr'` of
`Lemmas/FollowOrder.lean`, with the same body, so `followedErr fo = followedErr' fo` is `rfl`; the theorems there speak of
`followedErr'`, `update_terminals_ret` below of this one.) -/
def followedErr (fo : Followed F) : Option Err :=
  match fo.command with
  | some (.error e) => some e
  | _ =>
    match fo.state with
    | some (.error e) => some e
    | _ => none

theorem terminal_update_not_following (w : World F) (i : Nat) :
    w.terminalUpdate i Followed.nothing = (w, .ok ()) := rfl

/-- "forwards exactly the getter's present values to set": the present value of the followed STATE getter becomes the
terminal's own state (the outer timestamp is dropped), provided the command getter did not err -/
theorem terminal_update_forwards_state (w : World F) (i : Nat) (fo : Followed F) (d : Datum (Datum (State F)))
    (hs : fo.state = some (.ok (some d))) (hc : ∀ e, fo.command ≠ some (.error e)) :
    (w.terminalUpdate i fo).2 = .ok () ∧ ((w.terminalUpdate i fo).1.t i).state = some d.value := by
  obtain ⟨fc, fs⟩ := fo
  subst hs
  rw [terminalUpdate_eq]; dsimp only; rw [applyFollowed_t_self]
  rcases fc with _ | (e | oc)
  · exact ⟨rfl, rfl⟩
  · exact absurd rfl (hc e)
  · exact ⟨rfl, rfl⟩

/-- … and the present value of the followed COMMAND getter becomes the terminal's own command, whatever the state getter does
(even when it errs: the command was forwarded before the state getter was asked) -/
theorem terminal_update_forwards_command (w : World F) (i : Nat) (fo : Followed F) (d : Datum (Datum (Command F)))
    (hc : fo.command = some (.ok (some d))) :
    ((w.terminalUpdate i fo).1.t i).command = some d.value := by
  obtain ⟨fc, fs⟩ := fo
  subst hc
  rw [terminalUpdate_eq]; dsimp only; rw [applyFollowed_t_self]
  rfl

/-- "forwards nothing when the getter is absent": absent (or unfollowed) getters leave the terminal exactly as it was -/
theorem terminal_update_absent (w : World F) (i : Nat) (fo : Followed F)
    (hc : fo.command = none ∨ fo.command = some (.ok none)) (hs : fo.state = none ∨ fo.state = some (.ok none)) :
    w.terminalUpdate i fo = (w, .ok ()) := by
  obtain ⟨fc, fs⟩ := fo
  rw [terminalUpdate_eq]
  rcases hc with rfl | rfl <;> rcases hs with rfl | rfl <;> exact congrArg (·, _) (World.setT_self w i)

/-- "propagates its errors": an error of the command getter is returned, nothing is forwarded (not even a present state) -/
theorem terminal_update_command_error (w : World F) (i : Nat) (fo : Followed F) (e : Err)
    (hc : fo.command = some (.error e)) : w.terminalUpdate i fo = (w, .error e) := by
  obtain ⟨fc, fs⟩ := fo
  subst hc
  rw [terminalUpdate_eq]
  exact congrArg (·, _) (World.setT_self w i)

/-- an error of the state getter is returned; a command forwarded just before stays forwarded, the state slot is untouched -/
theorem terminal_update_state_error (w : World F) (i : Nat) (fo : Followed F) (e : Err)
    (hs : fo.state = some (.error e)) (hc : ∀ e', fo.command ≠ some (.error e')) :
    (w.terminalUpdate i fo).2 = .error e ∧ ((w.terminalUpdate i fo).1.t i).state = (w.t i).state := by
  obtain ⟨fc, fs⟩ := fo
  subst hs
  rw [terminalUpdate_eq]; dsimp only; rw [applyFollowed_t_self]
  rcases fc with _ | (e' | oc)
  · exact ⟨rfl, rfl⟩
  · exact absurd rfl (hc e')
  · exact ⟨rfl, rfl⟩

theorem terminal_update_links (w : World F) (i j : Nat) (fo : Followed F) :
    ((w.terminalUpdate i fo).1.t j).other = (w.t j).other ∧ (w.terminalUpdate i fo).1.n = w.n := by
  rw [terminalUpdate_eq]
  refine ⟨?_, rfl⟩
  dsimp only
  by_cases hj : j = i
  · rw [hj, applyFollowed_t_self]; rfl
  · rw [applyFollowed_t_ne _ _ hj]

theorem update_terminals_no_followers (w : World F) (is : List Nat) :
    w.updateTerminals (fun _ => Followed.nothing) is = (w, .ok ()) := by
  induction is with
  | nil => rfl
  | cons i is ih => simp [World.updateTerminals, terminal_update_not_following, ih]

/-- hence a device update in a world without followers is exactly the device's own update of `Rrtk/Devices.lean`:
every theorem of C03, C08, C13 about `Invert.update`, `GearTrain.update`, `Axle.update`, `Differential.update`
is a theorem about the full `update()` of such a world -/
theorem update_with_no_followers (upd : World F → World F) (terms : List Nat) (w : World F) :
    updateWithFollowers upd terms w (fun _ => Followed.nothing) = (upd w, .ok ()) := by
  simp [updateWithFollowers, update_terminals_no_followers]

/-- the return value of `update_terminals`: the error of the first owned terminal (in declaration order) whose getters err -/
theorem update_terminals_ret (w : World F) (fo : Nat → Followed F) (is : List Nat) :
    (w.updateTerminals fo is).2 =
      (match is.findSome? (fun i => followedErr (fo i)) with | some e => .error e | none => .ok ()) := by
  induction is generalizing w with
  | nil => rfl
  | cons i is ih =>
    rw [updateTerminals_cons, List.findSome?_cons]
    cases hfe : followedErr' (fo i) with
    | some e => rw [show followedErr (fo i) = some e from hfe]
    | none => rw [show followedErr (fo i) = none from hfe]; exact ih _

theorem updateWithFollowers_eq (upd : World F → World F) (terms : List Nat) (w : World F) (fo : Nat → Followed F) :
    updateWithFollowers upd terms w fo =
      match (w.updateTerminals fo terms).2 with
      | .error e => ((w.updateTerminals fo terms).1, .error e)
      | .ok _ => (upd (w.updateTerminals fo terms).1, .ok ()) := by
  unfold updateWithFollowers
  rcases w.updateTerminals fo terms with ⟨w1, _ | _⟩ <;> rfl

/-- when some owned terminal's getter errs the device's own update does not run: the world is the one `update_terminals` left -/
theorem update_with_followers_error (upd : World F → World F) (terms : List Nat) (w : World F) (fo : Nat → Followed F) (e : Err)
    (h : (w.updateTerminals fo terms).2 = .error e) :
    updateWithFollowers upd terms w fo = ((w.updateTerminals fo terms).1, .error e) := by
  rw [updateWithFollowers_eq, h]

/-- otherwise the device's own update runs on the world `update_terminals` produced -/
theorem update_with_followers_ok (upd : World F → World F) (terms : List Nat) (w : World F) (fo : Nat → Followed F)
    (h : (w.updateTerminals fo terms).2 = .ok ()) :
    updateWithFollowers upd terms w fo = (upd (w.updateTerminals fo terms).1, .ok ()) := by
  rw [updateWithFollowers_eq, h]

theorem update_terminals_frame (w : World F) (fo : Nat → Followed F) (is : List Nat) (j : Nat) (hj : j ∉ is) :
    (w.updateTerminals fo is).1.t j = w.t j := by
  induction is generalizing w with
  | nil => rfl
  | cons i is ih =>
    have hji : j ≠ i := fun h => hj (h ▸ List.mem_cons_self)
    rw [updateTerminals_cons]
    cases followedErr' (fo i) with
    | some e => exact applyFollowed_t_ne w _ hji
    | none => exact (ih _ (fun h => hj (List.mem_cons_of_mem _ h))).trans (applyFollowed_t_ne w _ hji)

/-! non-vacuity: a concrete history on a two-terminal world -/

private def s1 : State Int := ⟨1, 2, 3⟩
private def c1' : Command Int := Command.new .velocity 7

/-- command present, state errs: the command is forwarded, the error is returned, the state slot keeps its old content -/
example :
    let w : World Int := (World.empty.addTerms 2 : World Int)
    let fo : Followed Int := ⟨some (.ok (some ⟨99, ⟨5, c1'⟩⟩)), some (.error (.other 4))⟩
    (w.terminalUpdate 0 fo).2 = .error (.other 4) ∧ ((w.terminalUpdate 0 fo).1.t 0).command = some ⟨5, c1'⟩ ∧
      ((w.terminalUpdate 0 fo).1.t 0).state = none := by
  intro w fo; exact ⟨rfl, rfl, rfl⟩

/-- two owned terminals, the second one's state getter errs: the first terminal was already updated, the device update is skipped -/
example :
    let w : World Int := (World.empty.addTerms 2 : World Int)
    let fo : Nat → Followed Int := fun i =>
      if i = 0 then ⟨none, some (.ok (some ⟨0, ⟨5, s1⟩⟩))⟩ else ⟨none, some (.error (.other 9))⟩
    let r := updateWithFollowers (fun w => w.setState 1 ⟨0, s1⟩) [0, 1] w fo
    r.2 = .error (.other 9) ∧ (r.1.t 0).state = some ⟨5, s1⟩ ∧ (r.1.t 1).state = none := by
  intro w fo r; exact ⟨rfl, rfl, rfl⟩

end Rrtk.Thm.C15
