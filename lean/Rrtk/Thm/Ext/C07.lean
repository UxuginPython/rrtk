/-
C07 in binary32: the tier-L mirror theorem of `Thm/C07.lean` (`mirror_of_laws`) instantiated at `F = SF`, the finite binary32
numbers with correctly rounded operations (`Thm/Lemmas/SoftScalar.lean`), with every law of `NegLaws` discharged
(round-to-nearest-even is an odd function).

The sign of zero is what `SF` does not see.  `SF` has one zero, so "exactly" means: the same binary32 NUMBER.  In the hardware
format three of the laws hold only up to the sign of a ZERO result: `neg_c0` (`-(0.0)` is `-0.0`), and `neg_add`/`neg_sub` when the
exact sum is zero (`x + (-x)` and `(-x) + x` are both `+0.0`).  So on hardware an output that is zero — the literal `0.0` of the
constant-velocity acceleration and of the post-completion velocity/acceleration, or a velocity/position that cancels exactly —
can be `+0.0` for a move and for its mirror; the two compare equal with `==` and decode to the same number.  Every non-zero
output is negated bit for bit (the remaining laws are sign-bit manipulations that commute with rounding).  A zero limit or an
overflow is outside `SF` altogether (header of `Thm/Ext/C06.lean`).
-/
import Rrtk.Thm.C07
import Rrtk.Thm.Ext.C06
namespace Rrtk.Thm.C07
open Rrtk MotionProfile Rrtk.Thm.SoftScalar

theorem negLaws_binary32 : NegLaws SF :=
  ⟨neg_add_neg', neg_sub_neg', neg_mul', mul_neg', neg_div', div_neg', neg_neg', neg_c0', neg_c1', neg_lt_neg',
    lt_asymm', neg_beq_neg'⟩

/-- **mirror symmetry in binary32 arithmetic**, no arithmetic hypothesis left: every operation rounded to nearest-even,
`as i64` truncating and saturating.  (`SF` identifies `-0.0` with `+0.0`: on hardware a ZERO output may keep its sign, see the
file header.) -/
theorem mirror_binary32 (chk : Bool) (s e : State SF) (mv ma : Quantity SF) (mp : MotionProfile SF)
    (hne : s.position ≠ e.position)
    (h : MotionProfile.new chk s e mv ma = .ok mp) :
    ∃ mp', MotionProfile.new chk (State.neg s) (State.neg e) mv ma = .ok mp' ∧ mp' = mirrorProfile mp ∧
      Mirrored chk mp mp' :=
  mirror_of_laws negLaws_binary32 chk s e mv ma mp (lt_or_gt_of_ne' _ _ hne) h

theorem mirror_binary32_neg_limits (chk : Bool) (s e : State SF) (mv ma : Quantity SF) (mp : MotionProfile SF)
    (hne : s.position ≠ e.position)
    (h : MotionProfile.new chk s e mv ma = .ok mp) :
    ∃ mp', MotionProfile.new chk (State.neg s) (State.neg e) (Quantity.neg mv) (Quantity.neg ma) = .ok mp' ∧
      mp' = mirrorProfile mp ∧ Mirrored chk mp mp' :=
  mirror_of_laws_neg_limits negLaws_binary32 abs_neg' chk s e mv ma mp (lt_or_gt_of_ne' _ _ hne) h

/-- without dimension checking, in binary32, the panics are mirrored as well -/
theorem mirror_binary32_false (s e : State SF) (mv ma : Quantity SF) (hne : s.position ≠ e.position) :
    MotionProfile.new false (State.neg s) (State.neg e) mv ma =
      (MotionProfile.new false s e mv ma).map mirrorProfile :=
  mirror_new_false_of_laws negLaws_binary32 s e mv ma (lt_or_gt_of_ne' _ _ hne)

/-- arrival with a moving end state, read in binary32: `velocity ≠ 0.0` is the negation of `==` -/
theorem arrival_exact_when_end_velocity_binary32 (chk : Bool) (s e : State SF) (mv ma : Quantity SF)
    (mp : MotionProfile SF) (h : MotionProfile.new chk s e mv ma = .ok mp)
    (ha : e.acceleration = c0) (hv : e.velocity ≠ c0) (t : Int) (hc : getPiece mp t = .complete) :
    getVelocity chk mp t = .ok (some ⟨e.velocity, MILLIMETER_PER_SECOND chk⟩) ∧
    historyGet chk mp t = .ok (some ⟨t, .velocity e.velocity⟩) :=
  have r := arrival_exact_when_end_velocity chk s e mv ma mp h ((beq_iff_eq' _ _).2 ha)
    ((beq_c0_false_iff _).2 hv) t hc
  ⟨r.1, r.2.1⟩

/-- `arrival_exact_when_end_velocity`: the accepted profile of `mirror_fails_at_equal_positions` ends with velocity
`0.1 ≠ 0` and acceleration `0`, and is complete from `t = 0` on -/
example :
    MotionProfile.new false sF5 sF5 ⟨1/10, ⟨0, 0⟩⟩ ⟨1/100, ⟨0, 0⟩⟩ = .ok mpF5 ∧
    (sF5.acceleration == (c0 : ℚ)) = true ∧ (sF5.velocity == (c0 : ℚ)) = false ∧
    getPiece mpF5 7 = .complete := by
  refine ⟨mirror_fails_at_equal_positions.2.1, by decide +kernel, by decide +kernel, by decide⟩

/-- … and what the theorem gives there -/
example : getVelocity false mpF5 7 = .ok (some ⟨1/10, MILLIMETER_PER_SECOND false⟩) ∧
    historyGet false mpF5 7 = .ok (some ⟨7, .velocity (1/10)⟩) :=
  have r := arrival_exact_when_end_velocity false sF5 sF5 ⟨1/10, ⟨0, 0⟩⟩ ⟨1/100, ⟨0, 0⟩⟩ mpF5
    mirror_fails_at_equal_positions.2.1 (by decide +kernel) (by decide +kernel) 7 (by decide)
  ⟨r.1, r.2.1⟩

/-- `mirror_of_laws` over `ℚ`: the laws hold (`negLaws_exact`), the 0 → 3 mm move is accepted and strictly ordered -/
example : NegLaws ℚ := negLaws_exact
example : ((⟨0, 0, 0⟩ : State ℚ).position < (⟨3, 0, 0⟩ : State ℚ).position ∨
    (⟨3, 0, 0⟩ : State ℚ).position < (⟨0, 0, 0⟩ : State ℚ).position) ∧
    MotionProfile.new true (⟨0, 0, 0⟩ : State ℚ) ⟨3, 0, 0⟩ ⟨1/10, ⟨1, -1⟩⟩ ⟨1/100, ⟨1, -2⟩⟩ = .ok mpQ :=
  ⟨Or.inl (by norm_num), C06.new_example⟩

/-! ### binary32: a move whose construction really rounds, and its mirror -/
namespace Binary32Mirror

/-- 0 → 3 mm from rest to rest, limits `0.1f32` mm/s and `0.01f32` mm/s² (the literals themselves are rounded): the data of
`C06.Binary32Examples`, term for term, which is why `ex_accepted` below is `exTimes_eq` -/
def exStart : State SF := ⟨c0, c0, c0⟩
def exEnd : State SF := ⟨c3, c0, c0⟩
def exMv : Quantity SF := ⟨rnd (1 / 10), ⟨1, -1⟩⟩
def exMa : Quantity SF := ⟨rnd (1 / 100), ⟨1, -2⟩⟩

/-- observable summary of a constructor call: the three times -/
def times (r : Except Panic (MotionProfile SF)) : Option (Int × Int × Int) :=
  r.toOption.map (fun mp => (mp.t1, mp.t2, mp.t3))

/-- observable summary of an accessor call: the rational the returned binary32 value decodes to -/
def valOf (r : Except Panic (Option (Quantity SF))) : Option ℚ :=
  (r.toOption.bind id).map (fun q => q.value.val)

/-- the move is accepted in binary32 (with `t2 = 30.000001024 s`: the arithmetic rounds), and its positions differ -/
theorem ex_accepted : times (MotionProfile.new true exStart exEnd exMv exMa) =
    some (10000000000, 30000001024, 40000000000) := C06.Binary32Examples.exTimes_eq
example : exStart.position ≠ exEnd.position := by decide +kernel

/-- the mirrored move, evaluated independently: same times -/
example : times (MotionProfile.new true (State.neg exStart) (State.neg exEnd) exMv exMa) =
    some (10000000000, 30000001024, 40000000000) := by decide +kernel

/-- the hypotheses of `mirror_binary32` are satisfiable, and its conclusion at this move -/
example : ∃ mp mp', MotionProfile.new true exStart exEnd exMv exMa = .ok mp ∧
    MotionProfile.new true (State.neg exStart) (State.neg exEnd) exMv exMa = .ok mp' ∧ Mirrored true mp mp' := by
  obtain ⟨mp, hn, -⟩ := Except.ok_of_toOption_map ex_accepted
  obtain ⟨mp', h1, -, h2⟩ := mirror_binary32 true exStart exEnd exMv exMa mp (by decide +kernel) hn
  exact ⟨mp, mp', hn, h1, h2⟩

def exEq : State SF := ⟨c0, rnd (1 / 10), c0⟩
/-- the hypothesis `start.position ≠ end.position` of `mirror_binary32` cannot be dropped — finding F5 in binary32:
the zero-displacement "move" at `+0.1f32 mm/s` is accepted with `t1 = t2 = t3 = 0`, its mirror image with
`t1 = t2 = 20 s`, `t3 = 40 s`, so the mirrored profile is not the negation (`Mirrored` demands equal times) -/
theorem mirror_binary32_fails_at_equal_positions :
    exEq.position = exEq.position ∧
    times (MotionProfile.new true exEq exEq exMv exMa) = some (0, 0, 0) ∧
    times (MotionProfile.new true (State.neg exEq) (State.neg exEq) exMv exMa) =
      some (20000000000, 20000000000, 40000000000) := by
  refine ⟨rfl, by decide +kernel, by decide +kernel⟩

end Binary32Mirror

end Rrtk.Thm.C07
