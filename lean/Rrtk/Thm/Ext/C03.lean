/-
C03 (extension) — the clauses of C03 that speak about the terminal getters, the device updates and the and/or streams,
stated about the model functions the driver runs: `World.getState`, `World.getCommand`, `World.getTerminalData`,
`Invert.update`, `GearTrain.update`, `Axle.update`, `Differential.update`, `Stream.andStream`, `Stream.orStream`.

Tier S throughout: timestamps are `Int`, the scalar type `F` is arbitrary and no law of arithmetic is used.
"Read at terminal i" is `w.getState i` / `w.getCommand i` on the world BEFORE the update; "slot" is the terminal's own
`(w'.t i).state` / `(w'.t i).command` in the world `w'` the update returns.  No distinctness of the device's terminals
is needed for any timestamp statement (where two of them coincide the later write wins and carries the same time).

One clause ("the axle's common time is the time of one of its reads") is false of the model as literally phrased, see
`axle_state_time`: the axle's accumulator starts at `i64::MIN`, so for (non-`i64`) reads older than that the written time is
`i64::MIN`, not a read's time.
-/
import Rrtk.Thm.C03
import Rrtk.Devices
import Rrtk.Thm.C08
import Rrtk.Thm.C09
import Rrtk.Thm.C13
import Rrtk.Thm.Lemmas.IntScalar
-- theorems are stated under the whole scalar-class list of `Rrtk/Devices.lean`, used or not: one context for every caller
set_option linter.unusedSectionVars false
namespace Rrtk.Thm.C03
open Rrtk

section Terminals
variable {F : Type} [Add F] [Sub F] [Mul F] [Div F] [Neg F] [LT F] [LE F] [BEq F]
  [DecidableLT F] [DecidableLE F] [FloatLike F]

/-- `impl Getter<State> for Terminal`; the fourth clause also in the code's form `if a.time ≥ b.time then a.time else b.time` -/
theorem terminal_state_time (w : World F) (i : Nat) :
    (w.getState i = none ↔ (w.t i).state = none ∧ w.partnerState i = none) ∧
    (∀ a, (w.t i).state = some a → w.partnerState i = none → w.getState i = some a) ∧
    (∀ b, (w.t i).state = none → w.partnerState i = some b → w.getState i = some b) ∧
    (∀ a b, (w.t i).state = some a → w.partnerState i = some b →
      ∃ r, w.getState i = some r ∧ r.time = max a.time b.time ∧
        r.time = (if a.time ≥ b.time then a.time else b.time) ∧
        r.value = State.divF (State.add a.value b.value) c2) := by
  refine ⟨C09.state_read_none_iff w i, fun a ha hb => C09.state_read_own w i a ha hb,
    fun b ha hb => C09.state_read_partner w i b ha hb, fun a b ha hb => ?_⟩
  refine ⟨⟨max a.time b.time, State.divF (State.add a.value b.value) c2⟩, ?_, rfl,
    (ite_ge_eq_max _ _).symm, rfl⟩
  rw [C09.state_read_eq, ha, hb]

/-- `impl Getter<Command> for Terminal` -/
theorem terminal_command_sel (w : World F) (i : Nat) :
    (w.getCommand i = none ↔ (w.t i).command = none ∧ w.partnerCommand i = none) ∧
    ∀ r, w.getCommand i = some r →
      ((w.t i).command = some r ∨ w.partnerCommand i = some r) ∧
      (∀ c, (w.t i).command = some c → c.time ≤ r.time) ∧
      (∀ g, w.partnerCommand i = some g → g.time ≤ r.time) := by
  obtain ⟨h1, h2⟩ := C09.command_read_eq w i
  refine ⟨h1, fun r hr => ?_⟩
  obtain ⟨a, b, c, -⟩ := h2 r hr
  exact ⟨a, b, c⟩

/-- `impl Getter<TerminalData> for Terminal`: both the datum's time and the `TerminalData.time` field -/
theorem terminal_data_time (w : World F) (i : Nat) :
    (w.getTerminalData i = none ↔ w.getState i = none ∧ w.getCommand i = none) ∧
    (∀ s, w.getState i = some s →
      ∃ r, w.getTerminalData i = some r ∧ r.time = s.time ∧ r.value.time = s.time) ∧
    (w.getState i = none → ∀ c, w.getCommand i = some c →
      ∃ r, w.getTerminalData i = some r ∧ r.time = c.time ∧ r.value.time = c.time) := by
  obtain ⟨hn, hr⟩ := C09.combined_read_eq w i
  refine ⟨hn, fun s hs => ?_, fun hs c hc => ?_⟩
  · cases hd : w.getTerminalData i with
    | none => rw [(hn.1 hd).1] at hs; cases hs
    | some r =>
      obtain ⟨-, -, h3, h4, -⟩ := hr r hd
      exact ⟨r, rfl, h4 s hs, h3.trans (h4 s hs)⟩
  · cases hd : w.getTerminalData i with
    | none => rw [(hn.1 hd).2] at hc; cases hc
    | some r =>
      obtain ⟨-, -, h3, -, h5⟩ := hr r hd
      exact ⟨r, rfl, h5 hs c hc, h3.trans (h5 hs c hc)⟩

/-- … whatever the commands' times are -/
theorem terminal_data_time_both_states (w : World F) (i : Nat) (a b : Datum (State F))
    (ha : (w.t i).state = some a) (hb : w.partnerState i = some b) :
    ∃ r, w.getTerminalData i = some r ∧ r.time = max a.time b.time := by
  obtain ⟨s, hs, ht, -⟩ := (terminal_state_time w i).2.2.2 a b ha hb
  obtain ⟨r, hr, hrt, -⟩ := (terminal_data_time w i).2.1 s hs
  exact ⟨r, hr, by rw [hrt, ht]⟩

/-- a slot stamped `T` is still stamped `T` after a write stamped `T`, whether or not the write hits that slot: why the
timestamp clauses below need no distinctness of the device's terminals -/
theorem setState_keeps_time {w : World F} {j : Nat} {T : Int} (h : ∃ d, (w.t j).state = some d ∧ d.time = T)
    (i : Nat) (x : State F) : ∃ d, ((w.setState i ⟨T, x⟩).t j).state = some d ∧ d.time = T := by
  by_cases hj : j = i
  · rw [hj]; exact ⟨_, World.setState_state_self .., rfl⟩
  · rw [World.setState_state_ne _ _ hj]; exact h

theorem invert_state_time (w : World F) (i1 i2 : Nat) :
    (w.getState i1 = none → w.getState i2 = none →
      ∀ j, ((Invert.update w i1 i2).t j).state = (w.t j).state) ∧
    (∀ d2, w.getState i1 = none → w.getState i2 = some d2 →
      (∃ d, ((Invert.update w i1 i2).t i1).state = some d ∧ d.time = d2.time) ∧
      ∀ j, j ≠ i1 → ((Invert.update w i1 i2).t j).state = (w.t j).state) ∧
    (∀ d1, w.getState i1 = some d1 → w.getState i2 = none →
      (∃ d, ((Invert.update w i1 i2).t i2).state = some d ∧ d.time = d1.time) ∧
      ∀ j, j ≠ i2 → ((Invert.update w i1 i2).t j).state = (w.t j).state) ∧
    (∀ d1 d2, w.getState i1 = some d1 → w.getState i2 = some d2 →
      (∃ d, ((Invert.update w i1 i2).t i1).state = some d ∧ d.time = max d1.time d2.time) ∧
      (∃ d, ((Invert.update w i1 i2).t i2).state = some d ∧ d.time = max d1.time d2.time) ∧
      ∀ j, j ≠ i1 → j ≠ i2 → ((Invert.update w i1 i2).t j).state = (w.t j).state) := by
  refine ⟨fun h1 h2 => C08.invert_update_none w i1 i2 h1 h2, fun d2 h1 h2 => ?_, fun d1 h1 h2 => ?_,
    fun d1 d2 h1 h2 => ?_⟩
  · obtain ⟨ha, hb⟩ := C08.invert_update_one_right w i1 i2 d2 h1 h2
    exact ⟨⟨_, ha, rfl⟩, hb⟩
  · obtain ⟨ha, hb⟩ := C08.invert_update_one_left w i1 i2 d1 h1 h2
    exact ⟨⟨_, ha, rfl⟩, hb⟩
  · refine ⟨?_, ?_, fun j hj1 hj2 => ?_⟩ <;> rw [C08.invert_update_state, C08.invertStatePhase_both h1 h2]
    · exact setState_keeps_time ⟨_, World.setState_state_self .., rfl⟩ i2 _
    · exact ⟨_, World.setState_state_self .., rfl⟩
    · rw [World.setState_state_ne _ _ hj2, World.setState_state_ne _ _ hj1]

theorem gear_state_time (ratio : F) (w : World F) (i1 i2 : Nat) :
    (w.getState i1 = none → w.getState i2 = none →
      ∀ j, ((GearTrain.update ratio w i1 i2).t j).state = (w.t j).state) ∧
    (∀ d2, w.getState i1 = none → w.getState i2 = some d2 →
      (∃ d, ((GearTrain.update ratio w i1 i2).t i1).state = some d ∧ d.time = d2.time) ∧
      ∀ j, j ≠ i1 → ((GearTrain.update ratio w i1 i2).t j).state = (w.t j).state) ∧
    (∀ d1, w.getState i1 = some d1 → w.getState i2 = none →
      (∃ d, ((GearTrain.update ratio w i1 i2).t i2).state = some d ∧ d.time = d1.time) ∧
      ∀ j, j ≠ i2 → ((GearTrain.update ratio w i1 i2).t j).state = (w.t j).state) ∧
    (∀ d1 d2, w.getState i1 = some d1 → w.getState i2 = some d2 →
      (∃ d, ((GearTrain.update ratio w i1 i2).t i1).state = some d ∧ d.time = max d1.time d2.time) ∧
      (∃ d, ((GearTrain.update ratio w i1 i2).t i2).state = some d ∧ d.time = max d1.time d2.time) ∧
      ∀ j, j ≠ i1 → j ≠ i2 → ((GearTrain.update ratio w i1 i2).t j).state = (w.t j).state) := by
  refine ⟨fun h1 h2 => C08.gear_update_none ratio w i1 i2 h1 h2, fun d2 h1 h2 => ?_, fun d1 h1 h2 => ?_,
    fun d1 d2 h1 h2 => ?_⟩
  · obtain ⟨ha, hb⟩ := C08.gear_update_one_right ratio w i1 i2 d2 h1 h2
    exact ⟨⟨_, ha, rfl⟩, hb⟩
  · obtain ⟨ha, hb⟩ := C08.gear_update_one_left ratio w i1 i2 d1 h1 h2
    exact ⟨⟨_, ha, rfl⟩, hb⟩
  · refine ⟨?_, ?_, fun j hj1 hj2 => ?_⟩ <;> rw [C08.gear_update_state, C08.gearStatePhase_both h1 h2]
    · exact setState_keeps_time ⟨_, World.setState_state_self .., rfl⟩ i2 _
    · exact ⟨_, World.setState_state_self .., rfl⟩
    · rw [World.setState_state_ne _ _ hj2, World.setState_state_ne _ _ hj1]

/-- `Axle::update`, state slots, for a terminal list of any length.  The common time `t` is the time of one of the reads —
or, because the accumulator starts at `i64::MIN`, it is `i64::MIN` and every read is strictly older than that (impossible
for `i64` timestamps, possible for the model's unbounded `Int`: see `exLow` below and `axle_state_time_newest`). -/
theorem axle_state_time (w : World F) (is : List Nat) :
    ((∀ i ∈ is, w.getState i = none) → ∀ j, ((Axle.update w is).t j).state = (w.t j).state) ∧
    ((∃ i ∈ is, w.getState i ≠ none) →
      ∃ t : Int,
        (∀ i ∈ is, ∃ d, ((Axle.update w is).t i).state = some d ∧ d.time = t) ∧
        (∀ j, j ∉ is → ((Axle.update w is).t j).state = (w.t j).state) ∧
        (∀ k ∈ is, ∀ g, w.getState k = some g → g.time ≤ t) ∧
        ((∃ k ∈ is, ∃ g, w.getState k = some g ∧ t = g.time) ∨
          (t = -9223372036854775808 ∧
            ∀ k ∈ is, ∀ g, w.getState k = some g → g.time < -9223372036854775808))) := by
  refine ⟨fun h => C08.axle_update_none w is h, fun h => ?_⟩
  obtain ⟨hb, hc⟩ := C08.axle_update_broadcast w is h
  obtain ⟨-, m2, m3⟩ := C08.maxTime_spec (C08.presentReads w is) C08.i64Min
  have hmin : C08.i64Min = -9223372036854775808 := rfl
  refine ⟨C08.maxTime C08.i64Min (C08.presentReads w is), fun i hi => ⟨_, hb i hi, rfl⟩, hc, ?_, ?_⟩
  · intro k hk g hg
    exact m2 g ((C08.mem_presentReads w is g).2 ⟨k, hk, hg⟩)
  · rcases m3 with m3 | ⟨d, hd, m3⟩
    · by_cases hex : ∃ k ∈ is, ∃ g, w.getState k = some g ∧ g.time = C08.i64Min
      · obtain ⟨k, hk, g, hg, hgt⟩ := hex
        exact Or.inl ⟨k, hk, g, hg, by rw [m3, hgt]⟩
      · refine Or.inr ⟨by rw [m3, hmin], fun k hk g hg => ?_⟩
        have h1 := m2 g ((C08.mem_presentReads w is g).2 ⟨k, hk, hg⟩)
        have h2 : g.time ≠ C08.i64Min := fun e => hex ⟨k, hk, g, hg, e⟩
        omega
    · obtain ⟨k, hk, hg⟩ := (C08.mem_presentReads w is d).1 hd
      exact Or.inl ⟨k, hk, d, hg, m3⟩

/-- `Axle::update`, state slots, at `i64` timestamps (`hmin`: no read is older than `i64::MIN`) -/
theorem axle_state_time_newest (w : World F) (is : List Nat) (h : ∃ i ∈ is, w.getState i ≠ none)
    (hmin : ∀ k ∈ is, ∀ g, w.getState k = some g → -9223372036854775808 ≤ g.time) :
    ∃ t : Int,
      (∀ i ∈ is, ∃ d, ((Axle.update w is).t i).state = some d ∧ d.time = t) ∧
      (∀ k ∈ is, ∀ g, w.getState k = some g → g.time ≤ t) ∧
      (∃ k ∈ is, ∃ g, w.getState k = some g ∧ t = g.time) := by
  obtain ⟨t, h1, -, h3, h4⟩ := (axle_state_time w is).2 h
  refine ⟨t, h1, h3, ?_⟩
  rcases h4 with h4 | ⟨-, h4⟩
  · exact h4
  · exfalso
    obtain ⟨i, hi, hne⟩ := h
    cases hg : w.getState i with
    | none => exact hne hg
    | some g =>
      have := h4 i hi g hg
      have := hmin i hi g hg
      omega

theorem differential_side1_state_time (w : World F) (i1 i2 isum : Nat) (s b : Datum (State F))
    (hs : w.getState isum = some s) (h2 : w.getState i2 = some b) :
    (∃ d, ((Differential.update .side1 w i1 i2 isum).t i1).state = some d ∧ d.time = max s.time b.time) ∧
    ∀ j, j ≠ i1 → ((Differential.update .side1 w i1 i2 isum).t j).state = (w.t j).state := by
  rw [C08.diff_update_side1 w i1 i2 isum s b hs h2]
  exact ⟨⟨_, World.setState_state_self .., rfl⟩, fun _ hj => World.setState_state_ne _ _ hj⟩

theorem differential_side2_state_time (w : World F) (i1 i2 isum : Nat) (s a : Datum (State F))
    (hs : w.getState isum = some s) (h1 : w.getState i1 = some a) :
    (∃ d, ((Differential.update .side2 w i1 i2 isum).t i2).state = some d ∧ d.time = max s.time a.time) ∧
    ∀ j, j ≠ i2 → ((Differential.update .side2 w i1 i2 isum).t j).state = (w.t j).state := by
  rw [C08.diff_update_side2 w i1 i2 isum s a hs h1]
  exact ⟨⟨_, World.setState_state_self .., rfl⟩, fun _ hj => World.setState_state_ne _ _ hj⟩

theorem differential_sum_state_time (w : World F) (i1 i2 isum : Nat) (a b : Datum (State F))
    (h1 : w.getState i1 = some a) (h2 : w.getState i2 = some b) :
    (∃ d, ((Differential.update .sum w i1 i2 isum).t isum).state = some d ∧ d.time = max a.time b.time) ∧
    ∀ j, j ≠ isum → ((Differential.update .sum w i1 i2 isum).t j).state = (w.t j).state := by
  rw [C08.diff_update_sum w i1 i2 isum a b h1 h2]
  exact ⟨⟨_, World.setState_state_self .., rfl⟩, fun _ hj => World.setState_state_ne _ _ hj⟩

theorem differential_equal_state_time (w : World F) (i1 i2 isum : Nat) (a b s : Datum (State F))
    (h1 : w.getState i1 = some a) (h2 : w.getState i2 = some b) (hs : w.getState isum = some s) :
    (∃ d, ((Differential.update .equal w i1 i2 isum).t i1).state = some d ∧
      d.time = max (max a.time b.time) s.time) ∧
    (∃ d, ((Differential.update .equal w i1 i2 isum).t i2).state = some d ∧
      d.time = max (max a.time b.time) s.time) ∧
    (∃ d, ((Differential.update .equal w i1 i2 isum).t isum).state = some d ∧
      d.time = max (max a.time b.time) s.time) ∧
    ∀ j, j ≠ i1 → j ≠ i2 → j ≠ isum →
      ((Differential.update .equal w i1 i2 isum).t j).state = (w.t j).state := by
  rw [C08.diff_update_equal_eq h1 h2 hs]
  refine ⟨?_, ⟨_, World.setState_state_self .., rfl⟩, ?_, fun j hj1 hj2 hjs => ?_⟩
  · exact setState_keeps_time ⟨_, World.setState_state_self .., rfl⟩ i2 _
  · exact setState_keeps_time (setState_keeps_time ⟨_, World.setState_state_self .., rfl⟩ i1 _) i2 _
  · rw [World.setState_state_ne _ _ hj2, World.setState_state_ne _ _ hj1, World.setState_state_ne _ _ hjs]

/-- the lists are in the order of `C08.trusted`, which the uses below unfold to -/
theorem newest_of_two {w : World F} {i k : Nat} {a b : Datum (State F)} (ha : w.getState i = some a)
    (hb : w.getState k = some b) :
    (∀ j ∈ [i, k], ∃ g, w.getState j = some g ∧ g.time ≤ max a.time b.time) ∧
    ∃ j ∈ [i, k], ∃ g, w.getState j = some g ∧ max a.time b.time = g.time := by
  refine ⟨fun j hj => ?_, ?_⟩
  · simp only [List.mem_cons, List.not_mem_nil, or_false] at hj
    rcases hj with rfl | rfl
    · exact ⟨a, ha, Int.le_max_left ..⟩
    · exact ⟨b, hb, Int.le_max_right ..⟩
  · rcases Int.le_total b.time a.time with e | e
    · exact ⟨i, .head _, a, ha, Int.max_eq_left e⟩
    · exact ⟨k, .tail _ (.head _), b, hb, Int.max_eq_right e⟩

theorem newest_of_three {w : World F} {i k l : Nat} {a b c : Datum (State F)} (ha : w.getState i = some a)
    (hb : w.getState k = some b) (hc : w.getState l = some c) :
    (∀ j ∈ [l, i, k], ∃ g, w.getState j = some g ∧ g.time ≤ max (max a.time b.time) c.time) ∧
    ∃ j ∈ [l, i, k], ∃ g, w.getState j = some g ∧ max (max a.time b.time) c.time = g.time := by
  obtain ⟨hle, j, hj, g, hg, e⟩ := newest_of_two ha hb
  refine ⟨fun j hj => ?_, ?_⟩
  · rcases List.mem_cons.1 hj with rfl | hj
    · exact ⟨c, hc, Int.le_max_right ..⟩
    · obtain ⟨g, hg, h⟩ := hle j hj
      exact ⟨g, hg, Int.le_trans h (Int.le_max_left ..)⟩
  · rcases Int.le_total c.time (max a.time b.time) with h | h
    · exact ⟨j, .tail _ hj, g, hg, (Int.max_eq_left h).trans e⟩
    · exact ⟨l, .head _, c, hc, Int.max_eq_right h⟩

/-- `Differential::update`, all four modes, every state slot -/
theorem differential_state_time (mode : Distrust) (w : World F) (i1 i2 isum j : Nat) :
    ((Differential.update mode w i1 i2 isum).t j).state = (w.t j).state ∨
    ∃ d, ((Differential.update mode w i1 i2 isum).t j).state = some d ∧
      (∀ i ∈ C08.trusted mode i1 i2 isum, ∃ g, w.getState i = some g ∧ g.time ≤ d.time) ∧
      (∃ i ∈ C08.trusted mode i1 i2 isum, ∃ g, w.getState i = some g ∧ d.time = g.time) := by
  by_cases hall : ∃ i ∈ C08.trusted mode i1 i2 isum, w.getState i = none
  · left; rw [C08.diff_waits_for_trusted mode w i1 i2 isum hall]
  have hpres : ∀ i ∈ C08.trusted mode i1 i2 isum, ∃ g, w.getState i = some g := fun i hi =>
    Option.ne_none_iff_exists'.1 fun hg => hall ⟨i, hi, hg⟩
  -- all trusted reads are present: each slot the mode writes is stamped with the newest of them
  cases mode with
  | side1 =>
    obtain ⟨s, hs⟩ := hpres isum (.head _)
    obtain ⟨b, h2⟩ := hpres i2 (.tail _ (.head _))
    obtain ⟨⟨d, hd, ht⟩, hne⟩ := differential_side1_state_time w i1 i2 isum s b hs h2
    rcases eq_or_ne j i1 with rfl | hj
    · exact .inr ⟨d, hd, by rw [ht]; exact newest_of_two hs h2⟩
    · exact .inl (hne j hj)
  | side2 =>
    obtain ⟨s, hs⟩ := hpres isum (.head _)
    obtain ⟨a, h1⟩ := hpres i1 (.tail _ (.head _))
    obtain ⟨⟨d, hd, ht⟩, hne⟩ := differential_side2_state_time w i1 i2 isum s a hs h1
    rcases eq_or_ne j i2 with rfl | hj
    · exact .inr ⟨d, hd, by rw [ht]; exact newest_of_two hs h1⟩
    · exact .inl (hne j hj)
  | sum =>
    obtain ⟨a, h1⟩ := hpres i1 (.head _)
    obtain ⟨b, h2⟩ := hpres i2 (.tail _ (.head _))
    obtain ⟨⟨d, hd, ht⟩, hne⟩ := differential_sum_state_time w i1 i2 isum a b h1 h2
    rcases eq_or_ne j isum with rfl | hj
    · exact .inr ⟨d, hd, by rw [ht]; exact newest_of_two h1 h2⟩
    · exact .inl (hne j hj)
  | equal =>
    obtain ⟨s, hs⟩ := hpres isum (.head _)
    obtain ⟨a, h1⟩ := hpres i1 (.tail _ (.head _))
    obtain ⟨b, h2⟩ := hpres i2 (.tail _ (.tail _ (.head _)))
    obtain ⟨⟨d1, hd1, ht1⟩, ⟨d2, hd2, ht2⟩, ⟨ds, hds, hts⟩, hne⟩ :=
      differential_equal_state_time w i1 i2 isum a b s h1 h2 hs
    have hn := newest_of_three h1 h2 hs
    rcases eq_or_ne j i1 with rfl | hj1
    · exact .inr ⟨d1, hd1, by rw [ht1]; exact hn⟩
    rcases eq_or_ne j i2 with rfl | hj2
    · exact .inr ⟨d2, hd2, by rw [ht2]; exact hn⟩
    rcases eq_or_ne j isum with rfl | hjs
    · exact .inr ⟨ds, hds, by rw [hts]; exact hn⟩
    · exact .inl (hne j hj1 hj2 hjs)

theorem invert_command_time (w : World F) (i1 i2 : Nat) :
    (w.getCommand i1 = none → w.getCommand i2 = none →
      ∀ j, ((Invert.update w i1 i2).t j).command = (w.t j).command) ∧
    ((w.getCommand i1 ≠ none ∨ w.getCommand i2 ≠ none) →
      ∃ t : Int,
        (∃ d, ((Invert.update w i1 i2).t i1).command = some d ∧ d.time = t) ∧
        (∃ d, ((Invert.update w i1 i2).t i2).command = some d ∧ d.time = t) ∧
        ((∃ c, w.getCommand i1 = some c ∧ c.time = t) ∨ (∃ c, w.getCommand i2 = some c ∧ c.time = t)) ∧
        (∀ c, w.getCommand i1 = some c → c.time ≤ t) ∧ (∀ c, w.getCommand i2 = some c → c.time ≤ t)) ∧
    (∀ j, j ≠ i1 → j ≠ i2 → ((Invert.update w i1 i2).t j).command = (w.t j).command) := by
  have hw := C13.invert_writes w i1 i2
  refine ⟨fun h1 h2 j => ?_, fun h => ?_, fun j h1 h2 => hw.command_of_none (C13.invertWrites_outside h1 h2 _)⟩
  · rw [(C13.invertWinner_none_iff _ _).2 ⟨h1, h2⟩] at hw
    exact hw.command_of_none (C13.invertWrites_none i1 i2 j)
  · cases hwin : C13.invertWinner (w.getCommand i1) (w.getCommand i2) with
    | none => exact absurd ((C13.invertWinner_none_iff _ _).1 hwin) (by rcases h with h | h <;> simp [h])
    | some dc =>
      rw [hwin] at hw
      -- both slots are written, with data of the winner's time (also when `i1 = i2`: then the negation is written last)
      have h1 : ∃ d, ((Invert.update w i1 i2).t i1).command = some d ∧ d.time = dc.time := by
        by_cases h12 : i1 = i2
        · subst h12; exact ⟨Datum.map Command.neg dc, hw.command_of_some (C13.invertWrites_snd ..), rfl⟩
        · exact ⟨dc, hw.command_of_some (C13.invertWrites_fst h12 _), rfl⟩
      refine ⟨dc.time, h1, ⟨Datum.map Command.neg dc, hw.command_of_some (C13.invertWrites_snd ..), rfl⟩, ?_,
        C13.invertWinner_newest _ _ dc hwin⟩
      rcases C13.invertWinner_mem _ _ dc hwin with h | ⟨b, hb, hdc⟩
      · exact Or.inl ⟨dc, h, rfl⟩
      · exact Or.inr ⟨b, hb, by rw [hdc]; rfl⟩

/-- `GearTrain::update`, command slots: exactly one slot `k` is written -/
theorem gear_command_time (ratio : F) (w : World F) (i1 i2 : Nat) :
    (w.getCommand i1 = none → w.getCommand i2 = none →
      ∀ j, ((GearTrain.update ratio w i1 i2).t j).command = (w.t j).command) ∧
    ((w.getCommand i1 ≠ none ∨ w.getCommand i2 ≠ none) →
      ∃ (k : Nat) (t : Int), (k = i1 ∨ k = i2) ∧
        (∃ d, ((GearTrain.update ratio w i1 i2).t k).command = some d ∧ d.time = t) ∧
        (∀ j, j ≠ k → ((GearTrain.update ratio w i1 i2).t j).command = (w.t j).command) ∧
        ((∃ c, w.getCommand i1 = some c ∧ c.time = t) ∨ (∃ c, w.getCommand i2 = some c ∧ c.time = t)) ∧
        (∀ c, w.getCommand i1 = some c → c.time ≤ t) ∧ (∀ c, w.getCommand i2 = some c → c.time ≤ t)) := by
  have hw := C13.gear_writes ratio w i1 i2
  rcases C13.gearSide_cases (w.getCommand i1) (w.getCommand i2) with ⟨e1, e2⟩ | ⟨a, e1, hs⟩ | ⟨b, e2, hs⟩
  · refine ⟨fun _ _ j => ?_, fun h => absurd h (by simp [e1, e2])⟩
    rw [e1, e2] at hw; exact hw.command_of_none (C13.gearWrites_none ratio i1 i2 j)
  · -- side 1 is relayed: slot `i2` gets its command, scaled, with the same time
    have e := C13.gearWrites_of_side1 ratio i1 i2 e1 hs
    refine ⟨fun h => absurd e1 (by simp [h]), fun _ => ⟨i2, a.time, .inr rfl,
      ⟨_, hw.command_of_some ((e i2).trans (if_pos rfl)), rfl⟩,
      fun j hj => hw.command_of_none ((e j).trans (if_neg hj)), .inl ⟨a, e1, rfl⟩, ?_, ?_⟩⟩
    · intro c hc; rw [e1] at hc; cases hc; exact Int.le_refl _
    · intro c hc; exact (C13.gearSide1Wins_le e1 hc).1 hs
  · have e := C13.gearWrites_of_side2 ratio i1 i2 e2 hs
    refine ⟨fun _ h => absurd e2 (by simp [h]), fun _ => ⟨i1, b.time, .inl rfl,
      ⟨_, hw.command_of_some ((e i1).trans (if_pos rfl)), rfl⟩,
      fun j hj => hw.command_of_none ((e j).trans (if_neg hj)), .inr ⟨b, e2, rfl⟩, ?_, ?_⟩⟩
    · intro c hc; exact (C13.gearSide1Wins_le hc e2).2 hs
    · intro c hc; rw [e2] at hc; cases hc; exact Int.le_refl _

theorem axle_command_time (w : World F) (is : List Nat) :
    ((∀ i ∈ is, w.getCommand i = none) → ∀ j, ((Axle.update w is).t j).command = (w.t j).command) ∧
    ((∃ i ∈ is, w.getCommand i ≠ none) →
      ∃ dc : Datum (Command F),
        (∀ j ∈ is, ((Axle.update w is).t j).command = some dc) ∧
        (∃ k ∈ is, w.getCommand k = some dc) ∧
        (∀ k ∈ is, ∀ c, w.getCommand k = some c → c.time ≤ dc.time)) ∧
    (∀ j, j ∉ is → ((Axle.update w is).t j).command = (w.t j).command) := by
  have hw := C13.axle_writes w is
  refine ⟨fun h j => ?_, fun ⟨i, hi, hn⟩ => ?_, fun j hj => hw.command_of_none (if_neg hj)⟩
  · have hm : C13.newestOf (is.map w.getCommand) = none :=
      (C13.newestOf_spec _).1.2 (fun r hr => by obtain ⟨i, hi, rfl⟩ := List.mem_map.1 hr; exact h i hi)
    rw [hm] at hw; exact hw.command_of_none (ite_self _)
  · cases hm : C13.newestOf (is.map w.getCommand) with
    | none => exact absurd ((C13.newestOf_spec _).1.1 hm _ (List.mem_map.2 ⟨i, hi, rfl⟩)) hn
    | some dc =>
      rw [hm] at hw
      obtain ⟨hmem, hmax⟩ := C13.newestOf_max _ dc hm
      obtain ⟨k, hk, hkd⟩ := List.mem_map.1 hmem
      exact ⟨dc, fun j hj => hw.command_of_some (if_pos hj), ⟨k, hk, hkd⟩,
        fun k hk c hc => hmax c (List.mem_map.2 ⟨k, hk, hc⟩)⟩

end Terminals

theorem logicTime_spec (g1 g2 : Option (Datum Bool)) (t : Int) :
    Stream.logicTime g1 g2 = some t →
    match g1, g2 with
    | some x, some y => t = max x.time y.time
    | some x, none => t = x.time
    | none, some y => t = y.time
    | none, none => False := by
  intro h
  rw [logicTime_max] at h
  cases g1 <;> cases g2
  case none.none => cases h
  all_goals exact (Option.some.inj h).symm

/-- `AndStream::get` -/
theorem and_stream_time (a b : Output Bool) (r : Datum Bool) (h : Stream.andStream a b = .ok (some r)) :
    ∃ g1 g2, a = .ok g1 ∧ b = .ok g2 ∧
      match g1, g2 with
      | some x, some y => r.time = max x.time y.time
      | some x, none => r.time = x.time
      | none, some y => r.time = y.time
      | none, none => False := by
  cases a with
  | error e => simp [Stream.andStream] at h
  | ok g1 =>
    cases b with
    | error e => simp [Stream.andStream] at h
    | ok g2 =>
      refine ⟨g1, g2, rfl, rfl, logicTime_spec g1 g2 r.time ?_⟩
      simp only [Stream.andStream] at h
      cases hl : Stream.logicTime g1 g2 with
      | none => rw [hl] at h; simp at h
      | some t =>
        rw [hl] at h
        simp only [] at h
        -- every arm that returns a datum stamps it `t`
        split at h <;> simp at h <;> rw [← h]

/-- `OrStream::get` -/
theorem or_stream_time (a b : Output Bool) (r : Datum Bool) (h : Stream.orStream a b = .ok (some r)) :
    ∃ g1 g2, a = .ok g1 ∧ b = .ok g2 ∧
      match g1, g2 with
      | some x, some y => r.time = max x.time y.time
      | some x, none => r.time = x.time
      | none, some y => r.time = y.time
      | none, none => False := by
  cases a with
  | error e => simp [Stream.orStream] at h
  | ok g1 =>
    cases b with
    | error e => simp [Stream.orStream] at h
    | ok g2 =>
      refine ⟨g1, g2, rfl, rfl, logicTime_spec g1 g2 r.time ?_⟩
      simp only [Stream.orStream] at h
      cases hl : Stream.logicTime g1 g2 with
      | none => rw [hl] at h; simp at h
      | some t =>
        rw [hl] at h
        simp only [] at h
        -- every arm that returns a datum stamps it `t`
        split at h <;> simp at h <;> rw [← h]

/-! ### non-vacuity: concrete instances (payload type `Int`, scalar instance of `Lemmas/IntScalar.lean`) -/
section Examples

/-- terminals `0`–`1` linked (states at times 5 and 9, commands both at time 7: a tie); `2` holds a state at time 4 and
no command; `3` holds only a command at time 11; `4` is empty; `5` holds a state at time 9 and a command at time 2 -/
def exT : World Int := ⟨6, fun
  | 0 => ⟨some ⟨5, ⟨10, 20, 30⟩⟩, some ⟨7, .velocity 3⟩, some 1⟩
  | 1 => ⟨some ⟨9, ⟨30, 40, 50⟩⟩, some ⟨7, .position 8⟩, some 0⟩
  | 2 => ⟨some ⟨4, ⟨1, 2, 3⟩⟩, none, none⟩
  | 3 => ⟨none, some ⟨11, .position 2⟩, none⟩
  | 4 => ⟨none, none, none⟩
  | 5 => ⟨some ⟨9, ⟨7, 8, 9⟩⟩, some ⟨2, .acceleration 1⟩, none⟩
  | _ => World.freshTerm⟩

-- `terminal_state_time`: all four presence patterns occur
example : (exT.t 0).state = some ⟨5, ⟨10, 20, 30⟩⟩ ∧ exT.partnerState 0 = some ⟨9, ⟨30, 40, 50⟩⟩ ∧
    exT.getState 0 = some ⟨9, ⟨20, 30, 40⟩⟩ := ⟨rfl, rfl, rfl⟩
example : (exT.t 2).state = some ⟨4, ⟨1, 2, 3⟩⟩ ∧ exT.partnerState 2 = none ∧
    exT.getState 2 = some ⟨4, ⟨1, 2, 3⟩⟩ := ⟨rfl, rfl, rfl⟩
example : (exT.t 4).state = none ∧ exT.partnerState 4 = none ∧ exT.getState 4 = none := ⟨rfl, rfl, rfl⟩
example : ((exT.setOther 4 (some 2)).t 4).state = none ∧
    (exT.setOther 4 (some 2)).partnerState 4 = some ⟨4, ⟨1, 2, 3⟩⟩ ∧
    (exT.setOther 4 (some 2)).getState 4 = some ⟨4, ⟨1, 2, 3⟩⟩ := ⟨rfl, rfl, rfl⟩
-- `terminal_command_sel`: a tie (own wins), and an absent read
example : exT.getCommand 0 = some ⟨7, .velocity 3⟩ ∧ exT.getCommand 1 = some ⟨7, .position 8⟩ ∧
    exT.getCommand 4 = none := ⟨rfl, rfl, rfl⟩
-- `terminal_data_time`: the state's time (9) although the command is older (7) resp. the command's time without a state
example : (exT.getTerminalData 0).map (·.time) = some 9 ∧ (exT.getTerminalData 3).map (·.time) = some 11 ∧
    (exT.getTerminalData 5).map (·.time) = some 9 := ⟨rfl, rfl, rfl⟩
example : exT.getState 3 = none ∧ exT.getCommand 3 = some ⟨11, .position 2⟩ := ⟨rfl, rfl⟩

-- `invert_state_time` / `gear_state_time`: one read (time 4), two reads (times 9 and 4 ⇒ 9), no read
example : exT.getState 2 = some ⟨4, ⟨1, 2, 3⟩⟩ ∧ exT.getState 4 = none ∧
    ((Invert.update exT 2 4).t 4).state = some ⟨4, ⟨-1, -2, -3⟩⟩ ∧
    ((Invert.update exT 4 2).t 4).state = some ⟨4, ⟨-1, -2, -3⟩⟩ := ⟨rfl, rfl, rfl, rfl⟩
example : exT.getState 5 = some ⟨9, ⟨7, 8, 9⟩⟩ ∧
    ((Invert.update exT 5 2).t 5).state = some ⟨9, ⟨3, 3, 3⟩⟩ ∧
    ((Invert.update exT 5 2).t 2).state = some ⟨9, ⟨-3, -3, -3⟩⟩ := ⟨rfl, rfl, rfl⟩
example : exT.getState 3 = none ∧ exT.getState 4 = none := ⟨rfl, rfl⟩
example : ((GearTrain.update 2 exT 2 4).t 4).state = some ⟨4, ⟨2, 4, 6⟩⟩ ∧
    ((GearTrain.update 2 exT 4 2).t 4).state = some ⟨4, ⟨0, 1, 1⟩⟩ := ⟨rfl, rfl⟩
example : (((GearTrain.update 2 exT 5 2).t 5).state).map (·.time) = some 9 ∧
    (((GearTrain.update 2 exT 5 2).t 2).state).map (·.time) = some 9 := ⟨rfl, rfl⟩
-- the timestamp statements need no distinctness: the same terminal on both sides
example : (((Invert.update exT 2 2).t 2).state).map (·.time) = some 4 := rfl

-- `axle_state_time(_newest)`: reads at times 4 and 9 and two terminals without data ⇒ everyone gets time 9
example : (∃ i ∈ [2, 4, 5, 3], exT.getState i ≠ none) ∧
    (∀ k ∈ [2, 4, 5, 3], ∀ g, exT.getState k = some g → -9223372036854775808 ≤ g.time) :=
  ⟨⟨2, by decide, by decide⟩, by decide⟩
example : ((Axle.update exT [2, 4, 5, 3]).t 4).state = some ⟨9, ⟨4, 5, 6⟩⟩ ∧
    ((Axle.update exT [2, 4, 5, 3]).t 2).state = some ⟨9, ⟨4, 5, 6⟩⟩ := ⟨rfl, rfl⟩
example : ∀ i ∈ [3, 4], exT.getState i = none := by decide

/-- COUNTEREXAMPLE to "the axle's written time is the max over the reads with data" for the model's unbounded `Int`
timestamps: a single read one tick older than `i64::MIN` — the written time is `i64::MIN` (the accumulator's start),
which is the time of no read.  Not reachable in the crate (`Time` is an `i64`); with `hmin` the statement holds
(`axle_state_time_newest`). -/
def exLow : World Int := ⟨1, fun
  | 0 => ⟨some ⟨-9223372036854775809, ⟨6, 6, 6⟩⟩, none, none⟩
  | _ => World.freshTerm⟩
example : exLow.getState 0 = some ⟨-9223372036854775809, ⟨6, 6, 6⟩⟩ ∧
    ((Axle.update exLow [0]).t 0).state = some ⟨-9223372036854775808, ⟨6, 6, 6⟩⟩ := ⟨rfl, rfl⟩

-- differential: reads `side1`@4 (terminal 2), `side2`@9 (terminal 5), `sum`@9 (terminal 0, the mean read)
example : exT.getState 2 = some ⟨4, ⟨1, 2, 3⟩⟩ ∧ exT.getState 5 = some ⟨9, ⟨7, 8, 9⟩⟩ ∧
    exT.getState 0 = some ⟨9, ⟨20, 30, 40⟩⟩ := ⟨rfl, rfl, rfl⟩
example : ((Differential.update .sum exT 2 5 4).t 4).state = some ⟨9, ⟨8, 10, 12⟩⟩ := rfl
example : ((Differential.update .side1 exT 4 2 5).t 4).state = some ⟨9, ⟨6, 6, 6⟩⟩ := rfl
example : ((Differential.update .side2 exT 2 4 5).t 4).state = some ⟨9, ⟨6, 6, 6⟩⟩ := rfl
example : (((Differential.update .equal exT 2 5 0).t 2).state).map (·.time) = some 9 ∧
    (((Differential.update .equal exT 2 5 0).t 5).state).map (·.time) = some 9 ∧
    (((Differential.update .equal exT 2 5 0).t 0).state).map (·.time) = some 9 := ⟨rfl, rfl, rfl⟩
-- `C08.diff_waits_for_trusted`: a trusted read is missing
example : ∃ i ∈ C08.trusted .equal 2 5 4, exT.getState i = none := ⟨4, by decide, rfl⟩

-- command slots: reads `velocity 3`@7 at terminal 0, `position 2`@11 at terminal 3, nothing at 4 and 2
example : exT.getCommand 0 ≠ none ∨ exT.getCommand 3 ≠ none := Or.inl (by decide)
example : ((Invert.update exT 0 3).t 0).command = some ⟨11, .position (-2)⟩ ∧
    ((Invert.update exT 0 3).t 3).command = some ⟨11, .position 2⟩ := ⟨rfl, rfl⟩
example : ((GearTrain.update 2 exT 0 3).t 0).command = some ⟨11, .position 1⟩ ∧
    ((GearTrain.update 2 exT 0 3).t 3).command = some ⟨11, .position 2⟩ := ⟨rfl, rfl⟩
example : ((GearTrain.update 2 exT 0 4).t 4).command = some ⟨7, .velocity 6⟩ := rfl
example : (∃ i ∈ [4, 0, 3, 5], exT.getCommand i ≠ none) ∧
    ((Axle.update exT [4, 0, 3, 5]).t 4).command = some ⟨11, .position 2⟩ ∧
    ((Axle.update exT [4, 0, 3, 5]).t 5).command = some ⟨11, .position 2⟩ := ⟨⟨0, by decide, by decide⟩, rfl, rfl⟩
example : exT.getCommand 4 = none ∧ exT.getCommand 2 = none ∧ (∀ i ∈ [4, 2], exT.getCommand i = none) :=
  ⟨rfl, rfl, by decide⟩

-- and / or streams: a tie, one input absent, and a present input that does not decide the value still counts
-- for the time (`false`@5 ∧ `true`@9 is `false`@9, as in `AndStream::get`, which stamps before it looks at values)
example : Stream.andStream (.ok (some ⟨5, true⟩)) (.ok (some ⟨5, true⟩)) = .ok (some ⟨5, true⟩) := rfl
example : Stream.andStream (.ok (some ⟨5, false⟩)) (.ok none) = .ok (some ⟨5, false⟩) := rfl
example : Stream.andStream (.ok (some ⟨5, false⟩)) (.ok (some ⟨9, true⟩)) = .ok (some ⟨9, false⟩) := rfl
example : Stream.orStream (.ok none) (.ok (some ⟨3, true⟩)) = .ok (some ⟨3, true⟩) := rfl
example : Stream.orStream (.ok (some ⟨5, true⟩)) (.ok (some ⟨9, false⟩)) = .ok (some ⟨9, true⟩) := rfl
example : Stream.orStream (.ok (some ⟨-4, false⟩)) (.ok (some ⟨-7, false⟩)) = .ok (some ⟨-4, false⟩) := rfl
example : Stream.logicTime (some ⟨5, false⟩) (some ⟨9, true⟩) = some 9 := rfl

end Examples

end Rrtk.Thm.C03
