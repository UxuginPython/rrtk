/-
C18 at real binary32 rounding: the tier-L theorem `commuted_mul` of `Thm/C18.lean` instantiated at the scalar type `SF`
(finite binary32 numbers with correctly rounded `+ − * /`, `Rrtk/Thm/Lemmas/SoftScalar.lean`), with the scalar law it assumes
PROVED.  (The accuracy clauses of C18 already have `*_binary32` versions in `Lemmas/C18Soft.lean`.)  `Lemmas/C18Soft.lean` and
`Lemmas/TimeI64.lean` are imported so that the module the C18 check builds contains them.
-/
import Rrtk.Thm.C18
import Rrtk.Thm.Lemmas.SoftScalar
import Rrtk.Thm.Lemmas.C18Soft
import Rrtk.Thm.Lemmas.TimeI64
namespace Rrtk.Thm.C18
open Rrtk Rrtk.Thm.SoftScalar

/-- the two impls the source writes commuted (`rhs * self`) agree with the converted form, in binary32.  Discharged:
`hcomm` (`mul_comm'`). -/
theorem commuted_mul_binary32 (chk : Bool) (n : Int) (q : Quantity SF) :
    Time.mulQ chk n q = Quantity.mul chk (Quantity.ofTime chk n) q ∧
    DimInt.mulQ chk n q = Quantity.mul chk (Quantity.ofDimInt chk n) q :=
  commuted_mul chk n q mul_comm'

namespace Binary32Examples
/-- an instance where both conversions and the product round: `16777217` is not a binary32 number -/
def q7 : Quantity SF := ⟨(c1 : SF) / FloatLike.ofInt 7, ⟨1, -1⟩⟩
example : (DimInt.mulQ true 16777217 q7).value.val = 9586981 / 4 := by decide +kernel
example : (DimInt.mulQ true 16777217 q7).value.val ≠ 16777217 / 7 := by decide +kernel
example : DimInt.mulQ true 16777217 q7 = Quantity.mul true (Quantity.ofDimInt true 16777217) q7 :=
  (commuted_mul_binary32 _ _ _).2
end Binary32Examples

end Rrtk.Thm.C18
