/-
C13 at real binary32 rounding: the tier-L theorem `invert_side2_roundtrip` of `Thm/C13.lean` instantiated at the scalar
type `SF` (finite binary32 numbers, `Rrtk/Thm/Lemmas/SoftScalar.lean`), with the scalar law it assumes PROVED.
The check reaches `Lemmas/C13ReverseRepeat.lean` (chains traversed from the far end, repeated updates) through this module.
-/
import Rrtk.Thm.C13
import Rrtk.Thm.Lemmas.SoftScalar
import Rrtk.Thm.Lemmas.C13ReverseRepeat
namespace Rrtk.Thm.C13
open Rrtk Rrtk.Thm.SoftScalar

/-- a newest command issued on side 2 of an inverter is read back on side 2 unchanged, in binary32.  Discharged: `hneg`
(`neg_neg'`: negation is exact, so the two sign flips cancel). -/
theorem invert_side2_roundtrip_binary32 (w : World SF) (i1 i2 : Nat) (h12 : i1 ≠ i2)
    (b : Datum (Command SF)) (h2 : w.getCommand i2 = some b)
    (hnewest : ∀ a, w.getCommand i1 = some a → b.time > a.time) :
    (Invert.update w i1 i2).getCommand i2 = some b :=
  invert_side2_roundtrip neg_neg' w i1 i2 h12 b h2 hnewest

namespace Binary32Examples
/-- two terminals, a velocity command `1.5` at time 9 on terminal 1, an older position command on terminal 0 -/
def w : World SF :=
  (((World.empty : World SF).addTerms 2).setCommand 1 ⟨9, .velocity x1_5⟩).setCommand 0 ⟨4, .position c1e9⟩
theorem w_cmd1 : w.getCommand 1 = some ⟨9, .velocity x1_5⟩ := rfl
theorem w_cmd0 : w.getCommand 0 = some ⟨4, .position c1e9⟩ := rfl
/-- the hypotheses of `invert_side2_roundtrip_binary32` hold for it, hence its conclusion -/
example : (Invert.update w 0 1).getCommand 1 = some ⟨9, .velocity x1_5⟩ :=
  invert_side2_roundtrip_binary32 w 0 1 (by decide) _ w_cmd1 (fun a h => by
    rw [w_cmd0] at h; cases h; decide)
end Binary32Examples

end Rrtk.Thm.C13
