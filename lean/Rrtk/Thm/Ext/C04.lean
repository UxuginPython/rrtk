/-
C04 at real binary32 rounding: the tier-L theorems of C04 (`Thm/Lemmas/C04Composed.lean`, `Thm/Lemmas/C04ComposedChecked.lean`,
namespace `Rrtk.Thm.C04`: the PID stream agrees with the controller assembled from the crate's own streams, with dimension
checking compiled out and in) instantiated at the scalar type `SF` (finite binary32 numbers with correctly rounded
`+ − * /`, `Rrtk/Thm/Lemmas/SoftScalar.lean`), with the two scalar laws they assume PROVED.
-/
import Rrtk.Thm.C04
import Rrtk.Thm.Lemmas.SoftScalar
import Rrtk.Thm.Lemmas.C04ComposedChecked
namespace Rrtk.Thm.C04
open Rrtk Rrtk.Thm.SoftScalar

theorem rel_present_binary32 (sp kp ki kd : SF) (p : PidS SF) (s : SpidS SF) (h : Rel p s) (d : Datum (Quantity SF)) :
    ∃ s' r, Spid.step false sp kp ki kd s (.ok (some d)) = .ok (s', r) ∧
      Rel (Pid.step sp ⟨kp, ki, kd⟩ p (toF (.ok (some d)))).1 s' ∧
      Spid.get s' = Pid.get (Pid.step sp ⟨kp, ki, kd⟩ p (toF (.ok (some d)))).1 :=
  rel_present zero_add' add_comm' sp kp ki kd p s h d

theorem rel_run_binary32 (sp kp ki kd : SF) (evs : List (Output (Quantity SF))) (p : PidS SF) (s : SpidS SF)
    (h : Rel p s) : ∃ s', runSpid sp kp ki kd s evs = .ok s' ∧ Rel (runPid sp kp ki kd p evs) s' :=
  rel_run zero_add' add_comm' sp kp ki kd evs p s h

/-- **C04, assembled-controller clause, in binary32**: no hypothesis is left. -/
theorem pid_eq_composed_binary32 (sp kp ki kd : SF) (pre : List (Output (Quantity SF))) (d : Datum (Quantity SF)) :
    ∃ s', runSpid sp kp ki kd Spid.init (pre ++ [.ok (some d)]) = .ok s' ∧
      Spid.get s' = Pid.get (runPid sp kp ki kd Pid.init (pre ++ [.ok (some d)])) :=
  pid_eq_composed zero_add' add_comm' sp kp ki kd pre d

/-- **C04, assembled-controller clause with dimension checking compiled in, in binary32**: the only hypothesis left is
that the present inputs are in millimetres. -/
theorem pid_eq_composed_checked_binary32 (sp kp ki kd : SF) (pre : List (Output (Quantity SF)))
    (d : Datum (Quantity SF)) (hu : AllMm (pre ++ [.ok (some d)])) :
    ∃ s', runE (Spid.step true sp kp ki kd) Spid.init (pre ++ [.ok (some d)]) = .ok s' ∧
      Spid.get s' = Pid.get (runPid sp kp ki kd Pid.init (pre ++ [.ok (some d)])) :=
  pid_eq_composed_checked zero_add' add_comm' sp kp ki kd pre d hu

/-- non-vacuity: a binary32 history in millimetres -/
example : AllMm ([.ok (some ⟨0, ⟨(c1 : SF), ⟨1, 0⟩⟩⟩), .ok none] ++ [.ok (some ⟨1000000000, ⟨(c3 : SF), ⟨1, 0⟩⟩⟩)]) := by
  intro d hd
  simp only [List.cons_append, List.nil_append, List.mem_cons, List.not_mem_nil, or_false, Except.ok.injEq,
    Option.some.injEq, reduceCtorEq, false_or] at hd
  rcases hd with rfl | rfl <;> rfl

/-- the first sample of a run (`pid_first_sample`: `kp·e + ki·(0 + 0) + kd·0`) is EXACTLY the proportional term in
binary32: `0 + 0 = 0`, `k·0 = 0` and `x + 0 = x` are exact on finite values. -/
theorem pid_first_sample_binary32 (sp : SF) (k : PIDK SF) (x : Datum SF) :
    specOut sp k [x] = .ok (some ⟨x.time, k.kp * (sp - x.value)⟩) := by
  rw [pid_first_sample, zero_add', mul_zero', add_zero', mul_zero', add_zero']

namespace Binary32Examples
/-- the related-memories hypothesis of `rel_present_binary32` / `rel_run_binary32` is met by the initial states -/
example : Rel (Pid.init : PidS SF) (Spid.init : SpidS SF) := rel_init
/-- a history with an absent event and an error; setpoint `1e9`, gains `1.5`, `1/3` (rounded), `2^-149` -/
def pre : List (Output (Quantity SF)) :=
  [.ok (some ⟨0, ⟨c1, ⟨0, 0⟩⟩⟩), .ok none, .ok (some ⟨2000000000, ⟨x2p24, ⟨0, 0⟩⟩⟩), .error (.other 3),
   .ok (some ⟨3000000000, ⟨c3, ⟨0, 0⟩⟩⟩), .ok (some ⟨3500000000, ⟨(c1 : SF) / c3, ⟨0, 0⟩⟩⟩)]
def last : Datum (Quantity SF) := ⟨3700000000, ⟨x1_5, ⟨0, 0⟩⟩⟩
/-- what the PID stream shows after that history, computed with binary32 rounding at every step -/
def pidVal : Option (Int × ℚ) :=
  match Pid.get (runPid x1e9 x1_5 ((c1 : SF) / c3) xMinSub Pid.init (pre ++ [.ok (some last)])) with
  | .ok (some d) => some (d.time, d.value.val)
  | _ => none
/-- what the assembled controller shows -/
def spidVal : Option (Int × ℚ) :=
  match runSpid x1e9 x1_5 ((c1 : SF) / c3) xMinSub Spid.init (pre ++ [.ok (some last)]) with
  | .ok s => (match Spid.get s with | .ok (some d) => some (d.time, d.value.val) | _ => none)
  | .error _ => none
/-- both show `1733333376` at `3.7 s` (kernel computation; the agreement itself is `pid_eq_composed_binary32`) -/
theorem pidVal_eq : pidVal = some (3700000000, 1733333376) := by decide +kernel
theorem spidVal_eq : spidVal = some (3700000000, 1733333376) := by decide +kernel
end Binary32Examples

end Rrtk.Thm.C04
