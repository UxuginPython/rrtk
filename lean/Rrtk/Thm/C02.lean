/-
C02 — stateless streams honour their documented error / absent / present contract.
Tier S: payload type and operators arbitrary; n-ary statements are for input lists of **any** length.
"Reading never changes what a later read returns" holds of the model because each combinator is a pure
function of what its inputs return; the correspondence check reads every real combinator twice.
-/
import Rrtk.Streams.Stateless
namespace Rrtk.Thm.C02
open Rrtk Rrtk.Stream

variable {α : Type}

def presentData : List (Output α) → List (Datum α)
  | [] => []
  | .ok (some d) :: r => d :: presentData r
  | _ :: r => presentData r

def firstError : List (Output α) → Option Err
  | [] => none
  | .error e :: _ => some e
  | _ :: r => firstError r

/-! ### n-ary sum / product (any arity) -/

theorem collect_eq (ins : List (Output α)) :
    collect ins = match firstError ins with
      | some e => .error e
      | none => .ok (presentData ins) := by
  induction ins with
  | nil => rfl
  | cons i rest ih =>
    rcases i with e | _ | d
    · rfl
    · exact ih
    · simp only [collect, firstError, presentData, ih]
      cases firstError rest <;> rfl

theorem nary_eq (op : α → α → α) (ins : List (Output α)) :
    nary op ins = match firstError ins with
      | some e => .error e
      | none => .ok (foldData op (presentData ins)) := by
  rw [nary, collect_eq]
  cases firstError ins <;> rfl

/-- an input error is returned unchanged, earliest input first -/
theorem nary_err_iff (op : α → α → α) (ins : List (Output α)) (e : Err) :
    nary op ins = .error e ↔ firstError ins = some e := by
  rw [nary_eq]
  cases firstError ins <;> simp

/-- `firstError` really is "the first non-Ok input": everything before it is `Ok` -/
theorem firstError_spec (ins : List (Output α)) (e : Err) :
    firstError ins = some e ↔ ∃ pre post, ins = pre ++ .error e :: post ∧ ∀ x ∈ pre, ∃ o, x = .ok o := by
  constructor
  · intro h
    induction ins with
    | nil => cases h
    | cons i rest ih =>
      rcases i with e' | o
      · cases h; exact ⟨[], rest, rfl, nofun⟩
      · obtain ⟨pre, post, rfl, hp⟩ := ih h
        exact ⟨.ok o :: pre, post, rfl, List.forall_mem_cons.2 ⟨⟨o, rfl⟩, hp⟩⟩
  · rintro ⟨pre, post, rfl, hp⟩
    induction pre with
    | nil => rfl
    | cons p ps ih =>
      obtain ⟨o, rfl⟩ := hp p List.mem_cons_self
      exact ih fun x hx => hp x (List.mem_cons_of_mem _ hx)

/-- absent only when no input errs and all inputs are absent -/
theorem nary_none_iff (op : α → α → α) (ins : List (Output α)) :
    nary op ins = .ok none ↔ firstError ins = none ∧ presentData ins = [] := by
  rw [nary_eq]
  cases firstError ins with
  | some e => simp
  | none => cases presentData ins <;> simp [foldData]

theorem presentData_nil_iff (ins : List (Output α)) (h : firstError ins = none) :
    presentData ins = [] ↔ ∀ x ∈ ins, x = .ok none := by
  induction ins with
  | nil => simp [presentData]
  | cons i rest ih =>
    rcases i with e | _ | d
    · cases h
    · simp [presentData, ih h]
    · simp [presentData]

/-- otherwise: the left fold of the assign operator over the present inputs, in input order -/
theorem nary_some_eq_fold (op : α → α → α) (ins : List (Output α)) (d : Datum α) (ds : List (Datum α))
    (he : firstError ins = none) (hp : presentData ins = d :: ds) :
    nary op ins = .ok (some (ds.foldl (Datum.combine op) d)) := by
  rw [nary_eq, he, hp]
  rfl

theorem fold_value (op : α → α → α) (ds : List (Datum α)) (d : Datum α) :
    (ds.foldl (Datum.combine op) d).value = (ds.map (·.value)).foldl op d.value := by
  rw [List.foldl_map]
  exact (List.foldl_hom Datum.value fun _ _ => rfl).symm

theorem binary2_eq_nary2 (op : α → α → α) (a b : Output α) : binary2 op a b = nary op [a, b] := by
  rcases a with e | _ | x <;> rcases b with e' | _ | y <;> rfl

/-! ### difference / quotient / exponent (the time of a result on two present inputs: `C03.binaryPass_time_max`) -/
theorem binaryPass_err_first (op : α → α → α) (e : Err) (b : Output α) :
    binaryPass op (.error e) b = .error e := rfl
theorem binaryPass_err_second (op : α → α → α) (ao : Option (Datum α)) (e : Err) :
    binaryPass op (.ok ao) (.error e) = .error e := rfl
theorem binaryPass_none_first (op : α → α → α) (bo : Option (Datum α)) :
    binaryPass op (.ok none) (.ok bo) = .ok none := rfl
theorem binaryPass_pass_second (op : α → α → α) (x : Datum α) :
    binaryPass op (.ok (some x)) (.ok none) = .ok (some x) := rfl
theorem binaryPass_some (op : α → α → α) (x y : Datum α) :
    ∃ t, binaryPass op (.ok (some x)) (.ok (some y)) = .ok (some ⟨t, op x.value y.value⟩) := ⟨_, rfl⟩

/-! ### newest-of skips errors and absent inputs (which datum it selects: `C03.latest_stream_sel`) -/
theorem latest_never_errs (ins : List (Output α)) : ∃ o, latest ins = .ok o := ⟨_, rfl⟩
theorem latest_skips (ins : List (Output α)) (acc : Option (Datum α)) (e : Err) :
    (Except.error e :: ins).foldl latestStep acc = ins.foldl latestStep acc ∧
    ((Except.ok none : Output α) :: ins).foldl latestStep acc = ins.foldl latestStep acc := ⟨rfl, rfl⟩

theorem if_spec (cond : Output Bool) (inp : Output α) :
    ifStream cond inp = match cond with
      | .error e => .error e
      | .ok (some ⟨_, true⟩) => inp
      | .ok _ => .ok none := by
  rcases cond with e | _ | ⟨t, _ | _⟩ <;> rfl

theorem ifElse_spec (cond : Output Bool) (t f : Output α) :
    ifElse cond t f = match cond with
      | .error e => .error e
      | .ok none => .ok none
      | .ok (some ⟨_, true⟩) => t
      | .ok (some ⟨_, false⟩) => f := by
  rcases cond with e | _ | ⟨t', _ | _⟩ <;> rfl

/-- the expirer drops a datum exactly when `now − t > limit`; input errors come before clock errors;
an absent input is absent without consulting the clock -/
theorem expirer_spec (inp : Output α) (now : TimeOutput) (lim : Int) :
    expirer inp now lim = match inp, now with
      | .error e, _ => .error e
      | .ok none, _ => .ok none
      | .ok (some _), .error e => .error e
      | .ok (some d), .ok t => if t - d.time > lim then .ok none else .ok (some d) := by
  rcases inp with e | _ | d
  · rfl
  · rfl
  · cases now <;> rfl

theorem noneToError_spec (inp : Output α) :
    noneToError inp = match inp with
      | .error e => .error e
      | .ok none => .error .fromNone
      | .ok (some d) => .ok (some d) := by
  rcases inp with e | _ | d <;> rfl

theorem noneToValue_spec (inp : Output α) (now : TimeOutput) (v : α) :
    noneToValue inp now v = match inp, now with
      | .error e, _ => .error e
      | .ok (some d), _ => .ok (some d)
      | .ok none, .error e => .error e
      | .ok none, .ok t => .ok (some ⟨t, v⟩) := by
  rcases inp with e | _ | d
  · rfl
  · cases now <;> rfl
  · rfl

theorem constantGetter_spec (now : TimeOutput) (v : α) :
    constantGetter now v = match now with
      | .error e => .error e
      | .ok t => .ok (some ⟨t, v⟩) := by cases now <;> rfl
theorem noneGetter_spec : (noneGetter : Output α) = .ok none := rfl
/-- the time getter built from a getter never reaches its `expect` -/
theorem timeGetterFromGetter_spec (inp : Output α) :
    timeGetterFromGetter inp = match inp with
      | .error e => .error e
      | .ok none => .error .fromNone
      | .ok (some d) => .ok d.time := by
  rcases inp with e | _ | d <;> rfl

/-! ### and / or / not: strong Kleene logic with absent as unknown -/
def kAnd : Option Bool → Option Bool → Option Bool
  | some false, _ => some false
  | _, some false => some false
  | some true, some true => some true
  | _, _ => none
def kOr : Option Bool → Option Bool → Option Bool
  | some true, _ => some true
  | _, some true => some true
  | some false, some false => some false
  | _, _ => none
def kNot : Option Bool → Option Bool
  | some b => some (!b)
  | none => none

def valOf (o : Option (Datum Bool)) : Option Bool := o.map (·.value)

def valOut (o : Output Bool) : Except Err (Option Bool) :=
  match o with
  | .error e => .error e
  | .ok x => .ok (valOf x)

theorem logicTime_some_some (x y : Datum Bool) :
    logicTime (some x) (some y) = some (if y.time > x.time then y.time else x.time) := by
  simp only [logicTime]; split <;> rfl

/-- and-stream on non-error inputs computes Kleene conjunction (the nine documented rows) -/
theorem and_table (g1 g2 : Option (Datum Bool)) :
    valOut (andStream (.ok g1) (.ok g2)) = .ok (kAnd (valOf g1) (valOf g2)) := by
  rcases g1 with _ | ⟨ta, va⟩ <;> rcases g2 with _ | ⟨tb, vb⟩
  · rfl
  · cases vb <;> rfl
  · cases va <;> rfl
  · cases va <;> cases vb <;> simp only [andStream, logicTime_some_some] <;> rfl

theorem not_table (a : Output Bool) :
    notStream a = match a with
      | .error e => .error e
      | .ok none => .ok none
      | .ok (some d) => .ok (some ⟨d.time, !d.value⟩) := by
  rcases a with e | _ | d <;> rfl

/-- errors: first input first -/
theorem and_err (e : Err) (b : Output Bool) : andStream (.error e) b = .error e := rfl
theorem and_err2 (g : Option (Datum Bool)) (e : Err) : andStream (.ok g) (.error e) = .error e := rfl
theorem or_err (e : Err) (b : Output Bool) : orStream (.error e) b = .error e := rfl
theorem or_err2 (g : Option (Datum Bool)) (e : Err) : orStream (.ok g) (.error e) = .error e := rfl

/-- De Morgan duality, for **all** inputs including errors, absent values and timestamps -/
theorem de_morgan_and (a b : Output Bool) :
    notStream (andStream a b) = orStream (notStream a) (notStream b) := by
  rcases a with e | _ | ⟨tx, vx⟩
  · rfl
  · rcases b with e | _ | ⟨ty, vy⟩
    · rfl
    · rfl
    · cases vy <;> rfl
  · rcases b with e | _ | ⟨ty, vy⟩
    · rfl
    · cases vx <;> rfl
    · cases vx <;> cases vy <;> simp only [andStream, orStream, notStream, logicTime_some_some] <;> rfl

theorem notStream_notStream (a : Output Bool) : notStream (notStream a) = a := by
  rcases a with e | _ | ⟨t, v⟩
  · rfl
  · rfl
  · simp only [notStream, Bool.not_not]

theorem de_morgan_or (a b : Output Bool) :
    notStream (orStream a b) = andStream (notStream a) (notStream b) := by
  rw [← notStream_notStream (andStream _ _), de_morgan_and, notStream_notStream, notStream_notStream]

theorem valOut_notStream (a : Output Bool) : valOut (notStream a) = (valOut a).map kNot := by
  rcases a with e | _ | d <;> rfl
theorem kNot_kAnd_kNot (x y : Option Bool) : kNot (kAnd (kNot x) (kNot y)) = kOr x y := by
  rcases x with _ | _ | _ <;> rcases y with _ | _ | _ <;> rfl

/-- or-stream on non-error inputs computes Kleene disjunction: the dual of `and_table` under `de_morgan_and` -/
theorem or_table (g1 g2 : Option (Datum Bool)) :
    valOut (orStream (.ok g1) (.ok g2)) = .ok (kOr (valOf g1) (valOf g2)) := by
  -- `or a b = not (and (not a) (not b))`, and `not (.ok g)` is again of the form `.ok g'` with `valOf g' = kNot (valOf g)`
  have h := congrArg valOut (de_morgan_and (notStream (.ok g1)) (notStream (.ok g2)))
  rw [notStream_notStream, notStream_notStream, valOut_notStream] at h
  rw [← h, ← kNot_kAnd_kNot]
  cases g1 <;> cases g2 <;> simp only [notStream, and_table] <;> rfl

/-- an absent input in the middle is skipped; of two errors the earlier is returned -/
example : nary (· + ·) [.ok (some (⟨1, 10⟩ : Datum Int)), .ok none, .ok (some ⟨3, 5⟩)] = .ok (some ⟨3, 15⟩) := by rfl
example : nary (· + ·) [.ok (some (⟨1, 10⟩ : Datum Int)), .error (.other 2), .error (.other 1)] = .error (.other 2) := by rfl

end Rrtk.Thm.C02
