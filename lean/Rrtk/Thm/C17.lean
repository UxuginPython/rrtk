/-
C17 — `Reference`: aliasing of clones / `to_dyn!` results, target lifetime, no lost update under the lock protocol
(every schedule), and the arms of `to_dyn!` against the variants of the build.  Tier S (no scalar at all).
-/
import Rrtk.Reference
namespace Rrtk.Thm.C17
open Rrtk

/-! ## the lock protocol: no lost update, for every schedule

That two threads never hold the lock at once is not proved here and does not follow from `LInv`: `LockState.holder`
(`Rrtk/Reference.lean`) is an `Option (Nat × LockPhase)`, so EVERY `LockState`, reachable or not, has at most one holder by its
type; the theorems below are about the value under that discipline. -/

/-- contribution to the shared value of an increment that has been written but not yet counted in `done` -/
def pending : Option (Nat × LockPhase) → Int
  | some (_, .written) => 1
  | _ => 0

/-- every written increment is accounted for, in `done` or as the holder's `pending` one, and what the holder has read is
still the value: nobody else moves while the lock is held; the holder is a thread of the table (one of the `n`, by
`lock_run_length`) that has not finished its `k` increments, and no thread has done more than `k` -/
def LInv (k : Nat) (s : LockState) : Prop :=
  s.value = (s.done.sum : Int) + pending s.holder ∧
  (∀ i x, s.holder = some (i, .read x) → x = s.value) ∧
  (∀ i ph, s.holder = some (i, ph) → i < s.done.length ∧ s.done.getD i 0 < k) ∧
  (∀ j, s.done.getD j 0 ≤ k)

theorem sum_replicate_zero (n : Nat) : (List.replicate n 0).sum = 0 := by
  induction n with
  | zero => rfl
  | succ m ih => simp [List.replicate_succ, ih]

theorem sum_set_succ (l : List Nat) (i : Nat) (hi : i < l.length) :
    (l.set i (l.getD i 0 + 1)).sum = l.sum + 1 := by
  induction l generalizing i with
  | nil => simp at hi
  | cons a t ih =>
    cases i with
    | zero => simp [List.set]; omega
    | succ j =>
      have hj : j < t.length := by simpa using hi
      have := ih j hj
      simp only [List.set, List.sum_cons, List.getD_cons_succ]
      omega

theorem getD_set {α : Type} {l : List α} {i j : Nat} {a d : α} (hi : i < l.length) :
    (l.set i a).getD j d = if j = i then a else l.getD j d := by
  simp only [List.getD_eq_getElem?_getD, List.getElem?_set]
  by_cases h : i = j
  · subst h; simp [hi]
  · have h' : ¬ j = i := fun e => h e.symm
    simp [h, h']

theorem sum_eq_mul_of_all (l : List Nat) (n k : Nat) (hl : l.length = n) (h : ∀ i, i < n → l.getD i 0 = k) :
    l.sum = n * k := by
  induction l generalizing n with
  | nil => subst hl; simp
  | cons a t ih =>
    subst hl
    have h0 : a = k := by simpa using h 0 (by simp)
    have ht : t.sum = t.length * k := ih t.length rfl (fun i hi => by
      have := h (i + 1) (by simp; omega)
      simpa using this)
    simp only [List.sum_cons, List.length_cons, ht, h0, Nat.succ_mul]
    omega

theorem linv_init (n k : Nat) : LInv k (LockState.init n) := by
  refine ⟨?_, ?_, ?_, ?_⟩
  · simp [LockState.init, pending]
  · intro i x h; simp [LockState.init] at h
  · intro i ph h; simp [LockState.init] at h
  · intro j
    simp only [LockState.init, List.getD_eq_getElem?_getD, List.getElem?_replicate]
    split <;> exact Nat.zero_le k

theorem linv_step (k : Nat) (s s' : LockState) (hinv : LInv k s) (hstep : LockStep k s s') : LInv k s' := by
  obtain ⟨h1, h2, h3, h4⟩ := hinv
  cases hstep with
  | acquire i hi hfree hk =>
    rw [hfree] at h1
    refine ⟨h1, ?_, ?_, h4⟩
    · intro _ _ h; cases h
    · intro _ _ h; cases h; exact ⟨hi, hk⟩
  | read i h =>
    rw [h] at h1
    refine ⟨h1, ?_, ?_, h4⟩
    · intro _ _ hx; cases hx; rfl
    · intro _ _ hx; cases hx; exact h3 _ _ h
  | write i x h =>
    -- what the holder read is still the value, so its increment is not lost
    have hx : x = s.value := h2 i x h
    rw [h] at h1
    refine ⟨?_, ?_, ?_, h4⟩
    · show x + 1 = (s.done.sum : Int) + 1
      simp only [pending] at h1
      omega
    · intro _ _ hx'; cases hx'
    · intro _ _ hx'; cases hx'; exact h3 _ _ h
  | release i h =>
    obtain ⟨hi, hk⟩ := h3 _ _ h
    rw [h] at h1
    refine ⟨?_, ?_, ?_, fun j => ?_⟩
    · show s.value = ((s.done.set i (s.done.getD i 0 + 1)).sum : Int) + 0
      rw [sum_set_succ _ _ hi]
      simp only [pending] at h1
      omega
    · intro _ _ hx; cases hx
    · intro _ _ hx; cases hx
    · show (s.done.set i (s.done.getD i 0 + 1)).getD j 0 ≤ k
      rw [getD_set hi]
      split
      · omega
      · exact h4 j

theorem linv_reachable (n k : Nat) (s : LockState) (hrun : LockRun k (LockState.init n) s) : LInv k s := by
  induction hrun with
  | refl => exact linv_init n k
  | step _ hstep ih => exact linv_step k _ _ ih hstep

theorem lock_run_length (k n : Nat) (s : LockState) (hrun : LockRun k (LockState.init n) s) :
    s.done.length = n := by
  induction hrun with
  | refl => simp [LockState.init]
  | step _ hstep ih => rw [← ih]; cases hstep <;> simp

/-- **No lost update, every schedule.** In every state reachable from the initial one by any interleaving of the
threads' atomic steps: whenever the lock is free the shared value is exactly the number of completed increments; and
when every thread has finished its `k` increments it is `n * k`. -/
theorem locked_increments_no_lost_update (n k : Nat) (s : LockState) (hrun : LockRun k (LockState.init n) s) :
    (s.holder = none → s.value = (s.done.sum : Int)) ∧
    (s.holder = none → (∀ i, i < n → s.done.getD i 0 = k) → s.value = (n : Int) * (k : Int)) := by
  have hinv := linv_reachable n k s hrun
  have hlen := lock_run_length k n s hrun
  have hfree : s.holder = none → s.value = (s.done.sum : Int) := by
    intro hf
    have := hinv.1
    simpa [hf, pending] using this
  refine ⟨hfree, ?_⟩
  intro hf hall
  rw [hfree hf, sum_eq_mul_of_all s.done n k hlen hall]
  simp

/-- while the lock is held, the value is the completed increments plus the holder's increment if already written:
nobody else's write can be in flight -/
theorem locked_value_while_held (n k : Nat) (s : LockState) (hrun : LockRun k (LockState.init n) s) :
    s.value = (s.done.sum : Int) + pending s.holder :=
  (linv_reachable n k s hrun).1

/-- the value a holder has read is still the current value when it writes (no interference between its read and its
write) -/
theorem locked_read_is_current (n k : Nat) (s : LockState) (hrun : LockRun k (LockState.init n) s)
    (i : Nat) (x : Int) (h : s.holder = some (i, .read x)) : x = s.value :=
  (linv_reachable n k s hrun).2.1 i x h

/-- no deadlock: a holder can always move; with the lock free any unfinished thread can acquire -/
theorem lock_progress (n k : Nat) (s : LockState) (hrun : LockRun k (LockState.init n) s) :
    ((∃ h, s.holder = some h) → ∃ s', LockStep k s s') ∧
    (s.holder = none → (∃ i, i < n ∧ s.done.getD i 0 < k) → ∃ s', LockStep k s s') := by
  have hlen := lock_run_length k n s hrun
  constructor
  · rintro ⟨⟨i, ph⟩, h⟩
    cases ph with
    | acquired => exact ⟨_, LockStep.read s i h⟩
    | read x => exact ⟨_, LockStep.write s i x h⟩
    | written => exact ⟨_, LockStep.release s i h⟩
  · rintro hf ⟨i, hi, hk⟩
    exact ⟨_, LockStep.acquire s i (by omega) hf hk⟩

/-- a state in which no step is enabled is a finished one, and there the value is `n * k` -/
theorem locked_increments_terminal (n k : Nat) (s : LockState) (hrun : LockRun k (LockState.init n) s)
    (hstuck : ¬ ∃ s', LockStep k s s') :
    s.holder = none ∧ (∀ i, i < n → s.done.getD i 0 = k) ∧ s.value = (n : Int) * (k : Int) := by
  have hinv := linv_reachable n k s hrun
  have hp := lock_progress n k s hrun
  have hf : s.holder = none := by
    cases hh : s.holder with
    | none => rfl
    | some h => exact absurd (hp.1 ⟨h, hh⟩) hstuck
  have hall : ∀ i, i < n → s.done.getD i 0 = k := by
    intro i hi
    have hle := hinv.2.2.2 i
    by_cases hlt : s.done.getD i 0 < k
    · exact absurd (hp.2 hf ⟨i, hi, hlt⟩) hstuck
    · omega
  exact ⟨hf, hall, (locked_increments_no_lost_update n k s hrun).2 hf hall⟩

/-- a finished state has no enabled step (so "finished" and "stuck" coincide on reachable states) -/
theorem lock_finished_is_stuck (n k : Nat) (s : LockState) (hrun : LockRun k (LockState.init n) s)
    (hf : s.holder = none) (hall : ∀ i, i < n → s.done.getD i 0 = k) : ¬ ∃ s', LockStep k s s' := by
  have hlen := lock_run_length k n s hrun
  rintro ⟨s', hstep⟩
  cases hstep with
  | acquire i hi hfree hk => have := hall i (by omega); omega
  | read i h => rw [hf] at h; cases h
  | write i x h => rw [hf] at h; cases h
  | release i h => rw [hf] at h; cases h

/-- non-vacuity: a complete run of two threads, one increment each (thread 1 first, then thread 0) -/
theorem lock_run_2_1 : LockRun 1 (LockState.init 2) ⟨2, none, [1, 1]⟩ := by
  have s0 : LockRun 1 (LockState.init 2) ⟨0, none, [0, 0]⟩ := LockRun.refl _
  have s1 : LockRun 1 (LockState.init 2) ⟨0, some (1, .acquired), [0, 0]⟩ :=
    LockRun.step s0 (LockStep.acquire ⟨0, none, [0, 0]⟩ 1 (by decide) rfl (by decide))
  have s2 : LockRun 1 (LockState.init 2) ⟨0, some (1, .read 0), [0, 0]⟩ :=
    LockRun.step s1 (LockStep.read ⟨0, some (1, .acquired), [0, 0]⟩ 1 rfl)
  have s3 : LockRun 1 (LockState.init 2) ⟨1, some (1, .written), [0, 0]⟩ :=
    LockRun.step s2 (LockStep.write ⟨0, some (1, .read 0), [0, 0]⟩ 1 0 rfl)
  have s4 : LockRun 1 (LockState.init 2) ⟨1, none, [0, 1]⟩ :=
    LockRun.step s3 (LockStep.release ⟨1, some (1, .written), [0, 0]⟩ 1 rfl)
  have s5 : LockRun 1 (LockState.init 2) ⟨1, some (0, .acquired), [0, 1]⟩ :=
    LockRun.step s4 (LockStep.acquire ⟨1, none, [0, 1]⟩ 0 (by decide) rfl (by decide))
  have s6 : LockRun 1 (LockState.init 2) ⟨1, some (0, .read 1), [0, 1]⟩ :=
    LockRun.step s5 (LockStep.read ⟨1, some (0, .acquired), [0, 1]⟩ 0 rfl)
  have s7 : LockRun 1 (LockState.init 2) ⟨2, some (0, .written), [0, 1]⟩ :=
    LockRun.step s6 (LockStep.write ⟨1, some (0, .read 1), [0, 1]⟩ 0 1 rfl)
  exact LockRun.step s7 (LockStep.release ⟨2, some (0, .written), [0, 1]⟩ 0 rfl)

/-- the theorem applied to that run: value `2 = 2 * 1` -/
example : (⟨2, none, [1, 1]⟩ : LockState).value = ((2 : Nat) : Int) * ((1 : Nat) : Int) :=
  (locked_increments_no_lost_update 2 1 _ lock_run_2_1).2 rfl (by
    intro i hi
    match i, hi with
    | 0, _ => rfl
    | 1, _ => rfl)

/-- … and it is stuck (non-vacuity of `locked_increments_terminal`) -/
example : ¬ ∃ s', LockStep 1 ⟨2, none, [1, 1]⟩ s' :=
  lock_finished_is_stuck 2 1 _ lock_run_2_1 rfl (by
    intro i hi
    match i, hi with
    | 0, _ => rfl
    | 1, _ => rfl)

/-! ### the same increments WITHOUT the lock lose updates (the theorem has teeth) -/

/-- unlocked read-modify-write: each thread has a register holding what it read -/
structure RacyState where
  value : Int
  regs : List (Option Int)
  done : List Nat

/-- same thread program `{ read; write (read + 1) }`, but nothing excludes two threads being between their read and
their write at the same time -/
inductive RacyStep : RacyState → RacyState → Prop where
  | read (s : RacyState) (i : Nat) (hi : i < s.regs.length) (h : s.regs.getD i none = none) :
      RacyStep s { s with regs := s.regs.set i (some s.value) }
  | write (s : RacyState) (i : Nat) (x : Int) (h : s.regs.getD i none = some x) :
      RacyStep s { s with value := x + 1, regs := s.regs.set i none, done := s.done.set i (s.done.getD i 0 + 1) }

inductive RacyRun : RacyState → RacyState → Prop where
  | refl (s : RacyState) : RacyRun s s
  | step {a b c : RacyState} : RacyRun a b → RacyStep b c → RacyRun a c

/-- a lost update: both threads complete one increment, the value ends at `1`, not `2` -/
theorem racy_lost_update : RacyRun ⟨0, [none, none], [0, 0]⟩ ⟨1, [none, none], [1, 1]⟩ := by
  have s0 : RacyRun ⟨0, [none, none], [0, 0]⟩ ⟨0, [none, none], [0, 0]⟩ := RacyRun.refl _
  have s1 : RacyRun ⟨0, [none, none], [0, 0]⟩ ⟨0, [some 0, none], [0, 0]⟩ :=
    RacyRun.step s0 (RacyStep.read ⟨0, [none, none], [0, 0]⟩ 0 (by decide) rfl)
  have s2 : RacyRun ⟨0, [none, none], [0, 0]⟩ ⟨0, [some 0, some 0], [0, 0]⟩ :=
    RacyRun.step s1 (RacyStep.read ⟨0, [some 0, none], [0, 0]⟩ 1 (by decide) rfl)
  have s3 : RacyRun ⟨0, [none, none], [0, 0]⟩ ⟨1, [none, some 0], [1, 0]⟩ :=
    RacyRun.step s2 (RacyStep.write ⟨0, [some 0, some 0], [0, 0]⟩ 0 0 rfl)
  exact RacyRun.step s3 (RacyStep.write ⟨1, [none, some 0], [1, 0]⟩ 1 0 rfl)

example : (⟨1, [none, none], [1, 1]⟩ : RacyState).value ≠ ((⟨1, [none, none], [1, 1]⟩ : RacyState).done.sum : Int) := by
  decide

/-! ## handles: clones and `to_dyn!` results alias one target; the target lives while a clone exists -/

inductive ROp where
  | clone (h : Nat)
  | toDyn (h : Nat)
  | read (h : Nat)
  | write (h : Nat) (v : Int)
  | drop (h : Nat)
  deriving DecidableEq, Repr

/-- one operation, in a crate with features `feats`: an operation on a dead (or never created) handle is skipped; a
`to_dyn!` without a usable arm panics.  (The driver instead STOPS a case at an operation on a dead handle — `absEvent` in
`Lemmas/C17Heap.lean` answers `bad`; before that point both run the same `RefCase` functions, so what is proved below of
every operation sequence holds of every sequence the driver runs.) -/
def step (feats : List String) (c : RefCase) : ROp → Except Panic RefCase
  | .clone h => .ok ((c.clone h).getD c)
  | .toDyn h =>
    match c.toDyn feats h with
    | none => .ok c
    | some r => r
  | .read _ => .ok c
  | .write h v => .ok ((c.write h v).getD c)
  | .drop h => .ok ((c.drop h).getD c)

/-- an operation sequence; a panic stops it. Result: the state reached and whether it panicked. -/
def runP (feats : List String) : RefCase → List ROp → RefCase × Bool
  | c, [] => (c, false)
  | c, op :: rest =>
    match step feats c op with
    | .ok c' => runP feats c' rest
    | .error _ => (c, true)

def run (feats : List String) (c : RefCase) (ops : List ROp) : RefCase := (runP feats c ops).1

/-- did the operation take effect (live handle; for `to_dyn!` also: an arm exists) -/
def took (feats : List String) (c : RefCase) : ROp → Bool
  | .clone h => c.handleLive h
  | .toDyn h => c.handleLive h && toDynHasArm feats c.variant
  | .read h => c.handleLive h
  | .write h _ => c.handleLive h
  | .drop h => c.handleLive h

/-- the operations of the sequence that took effect, in order (those on dead handles and everything from a panic on
are left out) -/
def trace (feats : List String) : RefCase → List ROp → List ROp
  | _, [] => []
  | c, op :: rest =>
    match step feats c op with
    | .ok c' => if took feats c op then op :: trace feats c' rest else trace feats c' rest
    | .error _ => []

def writeVal : ROp → Option Int
  | .write _ v => some v
  | _ => none

/-- the value of the most recent write in a list of operations (non-incremental: the tail is consulted first) -/
def lastWrite : List ROp → Option Int
  | [] => none
  | op :: rest =>
    match lastWrite rest with
    | some v => some v
    | none => writeVal op

theorem trace_sublist (feats : List String) (c : RefCase) (ops : List ROp) : (trace feats c ops).Sublist ops := by
  induction ops generalizing c with
  | nil => exact List.Sublist.slnil
  | cons op rest ih =>
    simp only [trace]
    cases hs : step feats c op with
    | error p => exact List.nil_sublist _
    | ok c' =>
      cases took feats c op
      · exact List.Sublist.cons _ (ih c')
      · exact List.Sublist.cons_cons _ (ih c')

-- (a concrete trace through a `to_dyn!` without an arm is in Thm/Lemmas/C17Snapshot.lean: it depends on TODAY's arm table)

theorem run_cons_ok {feats : List String} {c c' : RefCase} {op : ROp} (rest : List ROp)
    (h : step feats c op = .ok c') : run feats c (op :: rest) = run feats c' rest := by
  simp [run, runP, h]

theorem run_cons_err {feats : List String} {c : RefCase} {op : ROp} (rest : List ROp) {p : Panic}
    (h : step feats c op = .error p) : run feats c (op :: rest) = c := by
  simp [run, runP, h]

theorem run_induction (feats : List String) {P : RefCase → Prop} (ops : List ROp)
    (hstep : ∀ c c' op, op ∈ ops → P c → step feats c op = .ok c' → P c') (c : RefCase) (h : P c) :
    P (run feats c ops) := by
  induction ops generalizing c with
  | nil => exact h
  | cons op rest ih =>
    cases hs : step feats c op with
    | error p => rw [run_cons_err rest hs]; exact h
    | ok c' =>
      rw [run_cons_ok rest hs]
      exact ih (fun x x' o ho => hstep x x' o (List.mem_cons_of_mem _ ho)) c'
        (hstep c c' op (List.mem_cons_self ..) h hs)

/-- what an operation that takes effect does to the case -/
def eff (c : RefCase) : ROp → RefCase
  | .clone h => { c with handles := c.handles ++ [c.handles.getD h none] }
  | .toDyn _ => { c with handles := c.handles ++ [some true] }
  | .read _ => c
  | .write _ v => { c with value := v }
  | .drop h => { c with handles := c.handles.set h none,
                        dropped := c.dropped || (c.variant.counted && !((c.handles.set h none).any (·.isSome))) }

/-- (`bif`, not `if`: a `Decidable` instance in the statement gets in the way of every later rewrite with it) -/
theorem step_ok {feats : List String} {c c' : RefCase} {op : ROp} (h : step feats c op = .ok c') :
    c' = bif took feats c op then eff c op else c := by
  cases op with
  | clone hd =>
    obtain rfl := Except.ok.inj h
    simp only [RefCase.clone, took, RefCase.handleLive, eff]
    cases c.handles.getD hd none <;> rfl
  | toDyn hd =>
    simp only [step, RefCase.toDyn] at h
    simp only [took, RefCase.handleLive, eff]
    cases hh : c.handles.getD hd none with
    | none => rw [hh] at h; exact (Except.ok.inj h).symm
    | some d =>
      rw [hh] at h
      cases ha : toDynHasArm feats c.variant with
      | false => simp [ha] at h
      | true => simp only [ha, if_true] at h; exact (Except.ok.inj h).symm
  | read hd => obtain rfl := Except.ok.inj h; simp only [eff, Bool.cond_self]
  | write hd v =>
    obtain rfl := Except.ok.inj h
    simp only [RefCase.write, took, eff]
    cases c.handleLive hd <;> rfl
  | drop hd =>
    obtain rfl := Except.ok.inj h
    simp only [RefCase.drop, took, eff]
    cases c.handleLive hd <;> rfl

theorem step_value (feats : List String) (c c' : RefCase) (op : ROp) (h : step feats c op = .ok c') :
    c'.value = if took feats c op then (writeVal op).getD c.value else c.value := by
  rw [step_ok h]
  cases took feats c op
  · rfl
  · cases op <;> rfl

/-- **history-level aliasing**: after ANY operation sequence (clones, conversions, drops, reads, writes through any
handles, in any order), the target's value is the value of the most recent write that took effect — whichever handle
it went through — and the initial value if there was none -/
theorem run_value (feats : List String) (c : RefCase) (ops : List ROp) :
    (run feats c ops).value = (lastWrite (trace feats c ops)).getD c.value := by
  induction ops generalizing c with
  | nil => rfl
  | cons op rest ih =>
    cases hs : step feats c op with
    | error p => rw [run_cons_err rest hs]; simp [trace, hs, lastWrite]
    | ok c' =>
      rw [run_cons_ok rest hs, ih c', step_value feats c c' op hs]
      simp only [trace, hs]
      cases ht : took feats c op
      · simp
      · simp only [if_true, lastWrite]
        cases lastWrite (trace feats c' rest) <;> simp

/-- a read through ANY live handle returns the most recent effective write (0 from a fresh case if none); a read
through a dead handle returns nothing -/
theorem read_returns_most_recent_write (feats : List String) (v : RefVariant) (ops : List ROp) (h : Nat) :
    ((run feats (RefCase.init v) ops).handleLive h = true →
      (run feats (RefCase.init v) ops).read h = some ((lastWrite (trace feats (RefCase.init v) ops)).getD 0)) ∧
    ((run feats (RefCase.init v) ops).handleLive h = false → (run feats (RefCase.init v) ops).read h = none) := by
  constructor
  · intro hl
    simp only [RefCase.read, hl, if_true, run_value]
    rfl
  · intro hl
    simp [RefCase.read, hl]

/-- all live handles of a case read the same thing: the one target -/
theorem live_handles_agree (c : RefCase) (h h' : Nat) (hl : c.handleLive h = true) (hl' : c.handleLive h' = true) :
    c.read h = c.read h' ∧ c.read h = some c.value := by
  simp [RefCase.read, hl, hl']

theorem run_value_no_write (feats : List String) (c : RefCase) (ops : List ROp)
    (hnw : ∀ op, op ∈ ops → writeVal op = none) : (run feats c ops).value = c.value :=
  run_induction feats (P := fun x => x.value = c.value) ops
    (fun x x' op hop hx hs => by rw [step_value feats x x' op hs, hnw op hop, Option.getD_none, ite_self]; exact hx) c rfl

/-- a mutation made through a mutable borrow of any clone (`h`) is observed through every other clone (`h'`, original
handle, clone, or `to_dyn!` result, whether it existed at the time of the write or was made later), until the next
write — whatever clones / conversions / drops / reads happen in between -/
theorem write_seen_by_all_clones (feats : List String) (c c' : RefCase) (h : Nat) (v : Int) (ops : List ROp) (h' : Nat)
    (hw : c.write h v = some c') (hnw : ∀ op, op ∈ ops → writeVal op = none)
    (hl : (run feats c' ops).handleLive h' = true) :
    (run feats c' ops).read h' = some v := by
  have hv : c'.value = v := by
    simp only [RefCase.write] at hw
    cases hlive : c.handleLive h <;> simp [hlive] at hw
    subst hw; rfl
  simp [RefCase.read, hl, run_value_no_write feats c' ops hnw, hv]

/-- non-vacuity: clone, write through the original, convert the clone, drop the original (the write through the
never-created handle 5 is skipped): the `dyn` handle reads the 7.  The two examples after it meet the hypotheses of
`write_seen_by_all_clones` at `h = 0`, `v = 7`, `h' = 2`. -/
example : (run ["std", "alloc"] (RefCase.init .rcRefCell)
    [.clone 0, .write 0 7, .toDyn 1, .drop 0, .write 5 9]).read 2 = some 7 := by decide
example : (RefCase.init .rcRefCell).write 0 7 = some ⟨.rcRefCell, 7, [some false], false⟩ := by rfl
example : (run ["std", "alloc"] ⟨.rcRefCell, 7, [some false], false⟩ [.clone 0, .toDyn 1, .drop 0]).handleLive 2 = true := by
  decide

theorem getD_append_left {α : Type} {l : List α} {x d : α} {i : Nat} (hi : i < l.length) :
    (l ++ [x]).getD i d = l.getD i d := by
  simp [List.getD_eq_getElem?_getD, List.getElem?_append_left hi]

theorem getD_append_self {α : Type} {l : List α} {x d : α} : (l ++ [x]).getD l.length d = x := by
  simp [List.getD_eq_getElem?_getD]

/-- `clone` only appends a live handle of the same kind: value, variant, liveness of the target and every existing
handle are untouched; the new handle reads the same target -/
theorem clone_preserves (c c' : RefCase) (h : Nat) (hc : c.clone h = some c') :
    c'.value = c.value ∧ c'.variant = c.variant ∧ c'.dropped = c.dropped ∧
    (∃ d, c.handles.getD h none = some d ∧ c'.handles = c.handles ++ [some d]) ∧
    (∀ h', h' < c.handles.length → c'.handles.getD h' none = c.handles.getD h' none) ∧
    c'.handleLive c.handles.length = true ∧ c'.read c.handles.length = some c.value := by
  simp only [RefCase.clone] at hc
  cases hh : c.handles.getD h none with
  | none => rw [hh] at hc; simp at hc
  | some d =>
    rw [hh] at hc
    simp only [Option.some.injEq] at hc
    subst hc
    refine ⟨rfl, rfl, rfl, ⟨d, rfl, rfl⟩, ?_, ?_, ?_⟩
    · intro h' hlt; exact getD_append_left hlt
    · simp [RefCase.handleLive]
    · simp [RefCase.read, RefCase.handleLive]

/-- a successful `to_dyn!` only appends a live (trait-object) handle: value, variant, target liveness and the existing
handles are untouched; the result reads the same target, and an arm existed -/
theorem to_dyn_preserves (feats : List String) (c c' : RefCase) (h : Nat) (hc : c.toDyn feats h = some (.ok c')) :
    c'.value = c.value ∧ c'.variant = c.variant ∧ c'.dropped = c.dropped ∧
    c.handleLive h = true ∧ toDynHasArm feats c.variant = true ∧
    c'.handles = c.handles ++ [some true] ∧
    (∀ h', h' < c.handles.length → c'.handles.getD h' none = c.handles.getD h' none) ∧
    c'.handleLive c.handles.length = true ∧ c'.read c.handles.length = some c.value := by
  simp only [RefCase.toDyn] at hc
  cases hh : c.handles.getD h none with
  | none => rw [hh] at hc; simp at hc
  | some d =>
    rw [hh] at hc
    cases ha : toDynHasArm feats c.variant with
    | false => simp [ha] at hc
    | true =>
      simp only [ha, if_true, Option.some.injEq, Except.ok.injEq] at hc
      subst hc
      refine ⟨rfl, rfl, rfl, by unfold RefCase.handleLive; rw [hh]; rfl, rfl, rfl, ?_, ?_, ?_⟩
      · intro h' hlt; exact getD_append_left hlt
      · simp [RefCase.handleLive]
      · simp [RefCase.read, RefCase.handleLive]

/-- the result of `to_dyn!` aliases the same object: a write through it is read back through every handle that was
live before the conversion -/
theorem to_dyn_aliases (feats : List String) (c c' : RefCase) (h : Nat) (hc : c.toDyn feats h = some (.ok c'))
    (v : Int) (h' : Nat) (hl : c.handleLive h' = true) :
    ∃ c'', c'.write c.handles.length v = some c'' ∧ c''.read h' = some v := by
  obtain ⟨_, _, _, _, _, _, hsame, hnew, _⟩ := to_dyn_preserves feats c c' h hc
  have hlt : h' < c.handles.length := by
    simp only [RefCase.handleLive, List.getD_eq_getElem?_getD] at hl
    by_cases hlt : h' < c.handles.length
    · exact hlt
    · simp [List.getElem?_eq_none (Nat.le_of_not_lt hlt)] at hl
  have hl' : c'.handleLive h' = true := by
    unfold RefCase.handleLive at hl ⊢
    rw [hsame h' hlt]; exact hl
  refine ⟨{ c' with value := v }, ?_, ?_⟩
  · unfold RefCase.write; rw [hnew]; rfl
  · have : ({ c' with value := v } : RefCase).handleLive h' = true := hl'
    unfold RefCase.read; rw [this]; rfl

/-- `to_dyn!` on a live handle succeeds exactly when the macro has a usable arm for the variant in the calling crate;
otherwise it panics with `unimplemented!()` -/
theorem to_dyn_succeeds_iff_arm (feats : List String) (c : RefCase) (h : Nat) (hl : c.handleLive h = true) :
    (toDynHasArm feats c.variant = true → ∃ c', c.toDyn feats h = some (.ok c')) ∧
    (toDynHasArm feats c.variant = false → c.toDyn feats h = some (.error .unimpl)) := by
  unfold RefCase.handleLive at hl
  cases hh : c.handles.getD h none with
  | none => rw [hh] at hl; simp at hl
  | some d =>
    constructor
    · intro ha
      exact ⟨{ c with handles := c.handles ++ [some true] }, by unfold RefCase.toDyn; rw [hh]; simp only [ha, if_true]⟩
    · intro ha; unfold RefCase.toDyn; rw [hh]; simp [ha]

example : (RefCase.init .ptr).toDyn [] 0 = some (.ok ⟨.ptr, 0, [some false, some true], false⟩) := by rfl
example : (RefCase.init .rcRefCell).clone 0 = some ⟨.rcRefCell, 0, [some false, some false], false⟩ := by rfl

/-! ### target lifetime -/

theorem any_of_getD_isSome (l : List (Option Bool)) (h : Nat) (hl : (l.getD h none).isSome = true) :
    l.any (·.isSome) = true := by
  rw [List.any_eq_true]
  simp only [List.getD_eq_getElem?_getD] at hl
  cases hg : l[h]? with
  | none => simp [hg] at hl
  | some x =>
    simp only [hg, Option.getD_some] at hl
    exact ⟨x, List.mem_of_getElem? hg, hl⟩

theorem any_of_any_set_none (l : List (Option Bool)) (h : Nat) (ha : (l.set h none).any (·.isSome) = true) :
    l.any (·.isSome) = true := by
  rw [List.any_eq_true] at ha ⊢
  obtain ⟨x, hx, hs⟩ := ha
  rcases List.mem_or_eq_of_mem_set hx with hm | he
  · exact ⟨x, hm, hs⟩
  · subst he; simp at hs

/-- lifetime invariant: a dropped target has no live handle; a counted target (Rc / Arc) with no live handle has been
dropped; a pointer-variant target (static) is never dropped -/
def AliveInv (c : RefCase) : Prop :=
  (c.dropped = true → c.anyLive = false) ∧
  (c.variant.counted = true → c.anyLive = false → c.dropped = true) ∧
  (c.variant.counted = false → c.dropped = false)

theorem aliveInv_init (v : RefVariant) : AliveInv (RefCase.init v) := by
  refine ⟨?_, ?_, ?_⟩ <;> simp [RefCase.init, RefCase.anyLive]

theorem AliveInv.not_dropped {c : RefCase} (hinv : AliveInv c) (ha : c.anyLive = true) : c.dropped = false := by
  cases hdd : c.dropped with
  | false => rfl
  | true => rw [hinv.1 hdd] at ha; cases ha

theorem aliveInv_push (c : RefCase) (x : Option Bool) (hinv : AliveInv c) (ha : c.anyLive = true) :
    AliveInv { c with handles := c.handles ++ [x] } := by
  have hd := hinv.not_dropped ha
  refine ⟨fun h => absurd (hd.symm.trans h) (by decide), fun _ h => ?_, hinv.2.2⟩
  simp only [RefCase.anyLive, List.any_append, Bool.or_eq_false_iff] at h
  exact absurd (ha.symm.trans h.1) (by decide)

theorem aliveInv_step (feats : List String) (c c' : RefCase) (op : ROp) (hinv : AliveInv c)
    (hs : step feats c op = .ok c') : AliveInv c' := by
  rw [step_ok hs]
  cases ht : took feats c op with
  | false => exact hinv
  | true =>
    have hlive : ∀ h, c.handleLive h = true → c.anyLive = true := fun h hl => any_of_getD_isSome _ h hl
    cases op with
    | clone hd => exact aliveInv_push c _ hinv (hlive hd ht)
    | toDyn hd => exact aliveInv_push c _ hinv (hlive hd (Bool.and_eq_true_iff.1 ht).1)
    | read hd => exact hinv
    | write hd v => exact hinv
    | drop hd =>
      show AliveInv (eff c (.drop hd))
      -- the target was alive, so after the drop `dropped` says whether it is counted and has lost its last handle
      have hdr : (eff c (.drop hd)).dropped = (c.variant.counted && !(eff c (.drop hd)).anyLive) := by
        simp only [eff, RefCase.anyLive, hinv.not_dropped (hlive hd ht), Bool.false_or]
      refine ⟨fun h => ?_, fun hc h => ?_, fun hc => ?_⟩
      · rw [hdr] at h
        simpa using (Bool.and_eq_true_iff.1 h).2
      · rw [hdr, show c.variant.counted = true from hc, h]; rfl
      · rw [hdr, show c.variant.counted = false from hc]; rfl

theorem aliveInv_run (feats : List String) (c : RefCase) (ops : List ROp) (hinv : AliveInv c) :
    AliveInv (run feats c ops) :=
  run_induction feats ops (fun x x' op _ hx hs => aliveInv_step feats x x' op hx hs) c hinv

theorem step_variant (feats : List String) (c c' : RefCase) (op : ROp) (hs : step feats c op = .ok c') :
    c'.variant = c.variant := by
  rw [step_ok hs]
  cases took feats c op
  · rfl
  · cases op <;> rfl

theorem run_variant (feats : List String) (c : RefCase) (ops : List ROp) : (run feats c ops).variant = c.variant :=
  run_induction feats (P := fun x => x.variant = c.variant) ops
    (fun x x' op _ hx hs => (step_variant feats x x' op hs).trans hx) c rfl

/-- **the target stays alive as long as any clone exists**: from a fresh case of any variant, after any operation
sequence in a crate with any features: a dropped target has no live handle left (equivalently: while some handle is
live the target is alive); for the counted variants the target is dropped as soon as no handle is left; for the pointer
variants (statics) it is never dropped. -/
theorem alive_while_cloned (feats : List String) (v : RefVariant) (ops : List ROp) :
    ((run feats (RefCase.init v) ops).dropped = true → (run feats (RefCase.init v) ops).anyLive = false) ∧
    ((run feats (RefCase.init v) ops).anyLive = true → (run feats (RefCase.init v) ops).live = true) ∧
    (v.counted = true → (run feats (RefCase.init v) ops).anyLive = false →
      (run feats (RefCase.init v) ops).dropped = true) ∧
    (v.counted = false → (run feats (RefCase.init v) ops).dropped = false) := by
  have hinv := aliveInv_run feats (RefCase.init v) ops (aliveInv_init v)
  have hnd := hinv.not_dropped
  obtain ⟨i1, i2, i3⟩ := hinv
  have hv : (run feats (RefCase.init v) ops).variant = v := run_variant feats _ ops
  rw [hv] at i2 i3
  exact ⟨i1, fun ha => by simp [RefCase.live, hnd ha], i2, i3⟩

/-- non-vacuity: an Rc target survives the drop of the original while a clone lives, and dies with the last handle;
a static target never dies -/
example : (run ["std", "alloc"] (RefCase.init .rcRefCell) [.clone 0, .drop 0]).live = true := by decide
example : (run ["std", "alloc"] (RefCase.init .rcRefCell) [.clone 0, .drop 0, .drop 1]).live = false := by decide
example : (run ["std", "alloc"] (RefCase.init .ptrMutex) [.clone 0, .drop 0, .drop 1]).live = true := by decide

/-! ## the arms of `to_dyn!` (table regenerated from `src/reference.rs` on every run)

The model is of the tree AFTER the `fix:` commit that moved the feature selection from `#[cfg]`s inside the exported
macro body (resolved in the calling crate) to `cfg`-selected definitions inside rrtk. -/

/-- the valid feature sets of an rrtk build as far as `Reference` is concerned (`std` implies `alloc`): the three builds
`{}`, `{alloc}`, `{std, alloc}`, the last under three spellings (`rrtkFeatOn` ignores the order and closes `std ⇒ alloc`, so
they evaluate alike) -/
def rrtkBuilds : List (List String) := [[], ["alloc"], ["std", "alloc"], ["alloc", "std"], ["std"]]

/-- no arm of any definition carries a `cfg` inside the macro body: nothing is resolved in the calling crate -/
theorem to_dyn_no_in_body_guards :
    Gen.toDynDefs.all (fun d => d.2.all (fun a => a.2 == "")) = true := by decide

/-- `toDynHasArmIn` for an arbitrary table of definitions, so that a table other than today's (`toDynDefsPrefix` below) can
be evaluated and the facts that hold of every guard-free table are stated of a variable -/
def hasArmWith (defs : List (List (String × Bool) × List (String × String))) (callerFeats rrtkFeats : List String)
    (v : RefVariant) : Bool :=
  defs.any (fun d => itemCfgHolds rrtkFeats d.1 && d.2.any (fun a => a.1 == v.name && featOn callerFeats a.2))

theorem hasArmWith_current (c r : List String) (v : RefVariant) :
    hasArmWith Gen.toDynDefs c r v = toDynHasArmIn c r v := rfl

theorem any_congr_mem {α : Type} {p q : α → Bool} : ∀ (l : List α), (∀ a ∈ l, p a = q a) → l.any p = l.any q
  | [], _ => rfl
  | a :: l, h => by
    rw [List.any_cons, List.any_cons, h a (List.mem_cons_self ..),
      any_congr_mem l fun b hb => h b (List.mem_cons_of_mem _ hb)]

/-- a table none of whose arms carries a guard inside the macro body gives every caller the same arms -/
theorem hasArmWith_caller_irrelevant (defs : List (List (String × Bool) × List (String × String)))
    (hg : defs.all (fun d => d.2.all (fun a => a.2 == "")) = true) (c r : List String) (v : RefVariant) :
    hasArmWith defs c r v = hasArmWith defs [] r v := by
  have hf : ∀ d ∈ defs, ∀ a ∈ d.2, ∀ c', featOn c' a.2 = true := fun d hd a ha c' => by
    have := List.all_eq_true.1 (List.all_eq_true.1 hg d hd) a ha
    simp [featOn, this]
  unfold hasArmWith
  refine any_congr_mem _ fun d hd => ?_
  congr 1
  exact any_congr_mem d.2 fun a ha => by rw [hf d hd a ha c, hf d hd a ha []]

/-- a variant that no arm of the table names never converts, whatever the features on either side -/
theorem hasArmWith_unlisted (defs : List (List (String × Bool) × List (String × String))) (v : RefVariant)
    (hn : defs.all (fun d => d.2.all (fun a => a.1 != v.name)) = true) (c r : List String) :
    hasArmWith defs c r v = false := by
  unfold hasArmWith
  rw [List.any_eq_false]
  intro d hd h
  obtain ⟨a, ha, h3⟩ := List.any_eq_true.1 (Bool.and_eq_true_iff.1 h).2
  have hne : (a.1 != v.name) = true := List.all_eq_true.1 (List.all_eq_true.1 hn d hd) a ha
  rw [bne, (Bool.and_eq_true_iff.1 h3).1] at hne
  cases hne

theorem to_dyn_caller_independent (c1 c2 rrtkFeats : List String) (v : RefVariant) :
    toDynHasArmIn c1 rrtkFeats v = toDynHasArmIn c2 rrtkFeats v :=
  (hasArmWith_caller_irrelevant _ to_dyn_no_in_body_guards c1 rrtkFeats v).trans
    (hasArmWith_caller_irrelevant _ to_dyn_no_in_body_guards c2 rrtkFeats v).symm

/-- **the property's clause at full strength**: for EVERY feature set the calling crate may declare (any list of
strings), for every rrtk build, every variant the macro lists that exists in that build converts. -/
theorem to_dyn_arms_cover (callerFeats : List String) (rrtkFeats : List String) (hr : rrtkFeats ∈ rrtkBuilds)
    (v : RefVariant) (hl : toDynLists v = true) (he : variantExists rrtkFeats v = true) :
    toDynHasArmIn callerFeats rrtkFeats v = true := by
  -- the caller does not matter; what is left is a table of 5 builds × 6 variants
  rw [to_dyn_caller_independent callerFeats [] rrtkFeats v]
  have table : ∀ r ∈ rrtkBuilds, ∀ v ∈ [RefVariant.ptr, .rcRefCell, .ptrRwLock, .ptrMutex, .arcRwLock, .arcMutex],
      toDynLists v = true → variantExists r v = true → toDynHasArmIn [] r v = true := by decide
  exact table rrtkFeats hr v (by cases v <;> decide) hl he

-- (that exactly ONE definition of the implementing macro is compiled into each rrtk build is a fact about how the macro is written today —
--  one cfg-selected definition per feature tier — not a requirement: a chain of helper macros, each adding the arms of one tier, is just
--  as good.  It lives in Thm/Lemmas/C17Snapshot.lean.  What IS required, `to_dyn_arms_cover` above, is insensitive to that structure.)

example : toDynLists .rcRefCell = true ∧ variantExists ["alloc"] .rcRefCell = true ∧
    toDynHasArmIn [] ["alloc"] .rcRefCell = true := by decide

-- (which variants the macro lists TODAY — `Ptr`, `RcRefCell`, `PtrRwLock` — is a snapshot of the regenerated table, not a requirement of
--  the property: listing more variants is conformant. Those facts live in Thm/Lemmas/C17Snapshot.lean, outside the obligations.)

/-- ... but the list may not SHRINK: the macro still lists (at least) the three variants it listed when the property was written.
Without this, deleting an arm everywhere would "de-list" the variant and every other statement about `to_dyn!` would stay true while a
conversion that used to work turns into `unimplemented!()`. (Listing more variants is fine.) -/
theorem to_dyn_lists_baseline :
    toDynLists .ptr = true ∧ toDynLists .rcRefCell = true ∧ toDynLists .ptrRwLock = true := by decide

/-- every arm names a variant of the enum, and a definition only has arms for variants that exist in the builds it is
compiled into -/
theorem to_dyn_arms_are_variants :
    ∀ r ∈ rrtkBuilds, ∀ d ∈ Gen.toDynDefs, itemCfgHolds r d.1 = true →
      ∀ a ∈ d.2, Gen.refVariants.any (fun x => x.1 == a.1 && (x.2 == "" || rrtkFeatOn r x.2)) = true := by decide

/-! ### `cfg` guards inside the macro body make the clause false (defect F3, repaired in /repo)

Before the repair ("pre-fix", hence `toDynDefsPrefix`) there was a single definition whose arms carried
`#[cfg(feature = …)]` INSIDE the exported macro body.  On that table the full-strength clause fails for a calling crate
that declares no features. -/
def toDynDefsPrefix : List (List (String × Bool) × List (String × String)) :=
  [([], [("Ptr", ""), ("RcRefCell", "alloc"), ("PtrRwLock", "std")])]

/-- the old table: a featureless caller of an rrtk built with std gets no arm for `RcRefCell` (→ `unimplemented!()`),
while a caller that happens to declare `alloc` does -/
theorem to_dyn_prefix_fails_for_featureless_caller :
    hasArmWith toDynDefsPrefix [] ["std", "alloc"] .rcRefCell = false ∧
    hasArmWith toDynDefsPrefix [] ["std", "alloc"] .ptrRwLock = false ∧
    hasArmWith toDynDefsPrefix ["alloc"] ["std", "alloc"] .rcRefCell = true ∧
    hasArmWith toDynDefsPrefix [] ["std", "alloc"] .ptr = true := by decide

/-- consequence at the handle level for the current tree: `to_dyn!` of an `Rc<RefCell<_>>` Reference succeeds in a
featureless caller -/
theorem to_dyn_succeeds_for_featureless_caller :
    ∃ c', (RefCase.init .rcRefCell).toDyn [] 0 = some (.ok c') :=
  (to_dyn_succeeds_iff_arm [] (RefCase.init .rcRefCell) 0 (by decide)).1 (by decide)

end Rrtk.Thm.C17
