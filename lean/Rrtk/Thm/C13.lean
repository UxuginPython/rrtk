/-
C13 — one-degree-of-freedom devices (inverter, gear train, axle) relay the newest command to every terminal,
mapped from the issuing side to the reading side; chains relay to the far end; a differential never alters commands.
Tier S throughout (no law of the scalar is used), except `invert_side2_roundtrip` (tier L, `-(-x) = x`) and
`chain_scale_is_product` / `chain_relays_scaled` (tier R, section `R` near the end of this file).
A device's update is described once, as the set of command slots it writes (`Writes`, `invert_writes`, `gear_writes`,
`axle_writes`); the reads after it and the chain induction (`chainB_relays_newest`) rest on that.  Chains traversed from
the far end and repeated updates: `Lemmas/C13ReverseRepeat.lean`.
-/
import Rrtk.Devices
import Rrtk.Thm.Lemmas.Exact
import Rrtk.Thm.Lemmas.Dim
import Rrtk.Thm.Lemmas.Newest
import Rrtk.Thm.Lemmas.DevicePhases
-- theorems are stated under the whole scalar-class list of `Rrtk/Devices.lean`, used or not: one context for every caller
set_option linter.unusedSectionVars false
namespace Rrtk.Thm.C13
open Rrtk

section
variable {F : Type}
theorem neg_kind [Neg F] (c : Command F) : (Command.neg c).kind = c.kind := by cases c <;> rfl
theorem neg_raw [Neg F] (c : Command F) : (Command.neg c).raw = -c.raw := by cases c <;> rfl
theorem mulF_kind [Mul F] (c : Command F) (x : F) : (Command.mulF c x).kind = c.kind := Command.kind_new _ _
theorem mulF_raw [Mul F] (c : Command F) (x : F) : (Command.mulF c x).raw = c.raw * x := Command.raw_new _ _
theorem divF_kind [Div F] (c : Command F) (x : F) : (Command.divF c x).kind = c.kind := Command.kind_new _ _
theorem divF_raw [Div F] (c : Command F) (x : F) : (Command.divF c x).raw = c.raw / x := Command.raw_new _ _
theorem command_ext (a b : Command F) (hk : a.kind = b.kind) (hr : a.raw = b.raw) : a = b := by
  cases a <;> cases b <;> simp_all [Command.kind, Command.raw]

/-! Each of the three devices first rewrites state slots (no command slot, no link changes) and then overwrites some command
slots with data computed from the commands read at its terminals.  `Writes` names that; what a terminal reads afterwards
follows from `Writes.read_kept` (nothing it looks at is written), `Writes.read_written` (its own slot is) and
`Writes.read_partner_written` (only its partner's slot is). -/

/-- `w'` is `w` with the command slot of every `j` with `wr j = some d` overwritten by `d`; links are kept, state slots
are free -/
structure Writes (w w' : World F) (wr : Nat → Option (Datum (Command F))) : Prop where
  other : ∀ j, (w'.t j).other = (w.t j).other
  command : ∀ j, (w'.t j).command = (wr j).or (w.t j).command

section
variable {w w' w1 w2 : World F} {wr wr' wr1 wr2 : Nat → Option (Datum (Command F))}

theorem Writes.command_of_some (h : Writes w w' wr) {j : Nat} {d : Datum (Command F)} (hj : wr j = some d) :
    (w'.t j).command = some d := by
  rw [h.command, hj]; rfl

theorem Writes.command_of_none (h : Writes w w' wr) {j : Nat} (hj : wr j = none) :
    (w'.t j).command = (w.t j).command := by
  rw [h.command, hj]; rfl

theorem Writes.congr (h : Writes w w' wr) (e : ∀ j, wr j = wr' j) : Writes w w' wr' :=
  ⟨h.other, fun j => e j ▸ h.command j⟩

theorem _root_.Rrtk.StatesOnly.writes {dev : List Nat} (h : StatesOnly dev w w') : Writes w w' (fun _ => none) :=
  ⟨h.other, h.command⟩

theorem Writes.setCommand (h : Writes w w' wr) (i : Nat) (d : Datum (Command F)) :
    Writes w (w'.setCommand i d) (fun j => if j = i then some d else wr j) where
  other j := (World.setCommand_other ..).trans (h.other j)
  command j := by
    rw [World.setCommand_command, h.command]
    show _ = (if j = i then some d else wr j).or _
    split <;> rfl

theorem Writes.foldl_setCommand (dc : Datum (Command F)) (is : List Nat) :
    ∀ {v : World F} {m : Nat → Option (Datum (Command F))}, Writes w v m →
      Writes w (is.foldl (fun w' i => w'.setCommand i dc) v) (fun j => if j ∈ is then some dc else m j) := by
  induction is with
  | nil => intro v m h; exact h.congr (fun j => by simp)
  | cons i is ih =>
    intro v m h
    exact (ih (h.setCommand i dc)).congr (fun j => by
      by_cases h1 : j ∈ is <;> by_cases h2 : j = i <;> simp [h1, h2])

/-- writing the same data into the same slots a second time changes no command slot -/
theorem Writes.again (h1 : Writes w w1 wr) (h2 : Writes w1 w2 wr) : Writes w1 w2 (fun _ => none) :=
  ⟨h2.other, fun j => by rw [h2.command, h1.command]; cases wr j <;> rfl⟩

theorem Writes.read_kept (h : Writes w w' wr) {i : Nat} (hi : wr i = none)
    (hp : ∀ p, (w.t i).other = some p → wr p = none) : w'.getCommand i = w.getCommand i :=
  World.getCommand_congr (h.other i) (h.command_of_none hi) (fun p hp' => h.command_of_none (hp p hp'))

/-- own slots win ties, and an unwritten partner slot was already counted in the old read -/
theorem Writes.read_written (h : Writes w w' wr) {i : Nat} {d : Datum (Command F)} (hi : wr i = some d)
    (hold : ∀ r, w.getCommand i = some r → r.time ≤ d.time)
    (hp : ∀ p g, (w.t i).other = some p → wr p = some g → g.time ≤ d.time) : w'.getCommand i = some d := by
  refine World.getCommand_eq_own _ _ _ (h.command_of_some hi) (fun g hg => ?_)
  cases ho : (w.t i).other with
  | none => rw [World.partnerCommand_unlinked ((h.other i).trans ho)] at hg; cases hg
  | some p =>
    rw [World.partnerCommand_linked ((h.other i).trans ho), h.command] at hg
    cases hw : wr p with
    | some g' => rw [hw] at hg; cases hg; exact hp p g ho hw
    | none =>
      rw [hw] at hg
      obtain ⟨r, hr, hgr⟩ := World.partner_le_read w i g ((World.partnerCommand_linked ho).trans hg)
      exact Int.le_trans hgr (hold r hr)

theorem Writes.read_partner_written (h : Writes w w' wr) {i p : Nat} {d : Datum (Command F)} (hi : wr i = none)
    (hl : (w.t i).other = some p) (hp : wr p = some d) (hown : ∀ o, (w.t i).command = some o → o.time < d.time) :
    w'.getCommand i = some d := by
  refine World.getCommand_eq_partner_of_newer _ _ _ ?_ (fun o ho => hown o ((h.command_of_none hi).symm.trans ho))
  rw [World.partnerCommand_linked ((h.other i).trans hl)]
  exact h.command_of_some hp

theorem Writes.read_single {k : Nat} {d : Datum (Command F)}
    (h : Writes w w' (fun j => if j = k then some d else none)) :
    ((w.t k).other ≠ some k → (∀ r, w.getCommand k = some r → r.time ≤ d.time) → w'.getCommand k = some d) ∧
    (∀ o, o ≠ k → (w.t o).other ≠ some k → w'.getCommand o = w.getCommand o) := by
  refine ⟨fun hk hold => h.read_written (if_pos rfl) hold (fun p g hp hg => ?_),
    fun o ho hok => h.read_kept (if_neg ho) (fun p hp => if_neg (fun e : p = k => hok (e ▸ hp)))⟩
  split at hg
  · exact absurd (by subst_vars; exact hp) hk
  · cases hg

end
end

section S
variable {F : Type} [Add F] [Sub F] [Mul F] [Div F] [Neg F] [LT F] [LE F] [BEq F]
  [DecidableLT F] [DecidableLE F] [FloatLike F]

theorem setCommand_state (w : World F) (i j : Nat) (d : Datum (Command F)) :
    ((w.setCommand i d).t j).state = (w.t j).state :=
  World.setCommand_state w i j d

theorem new_raw (pd : PosDer) (v : F) : (Command.new pd v).raw = v := Command.raw_new pd v

/-- the state half that opens each `update` changes no command read: the command half sees the reads of before the update -/
theorem invert_state_phase_keeps_commands (w : World F) (i1 i2 i : Nat) :
    (invertStatePhase w i1 i2).getCommand i = w.getCommand i :=
  (invertStatePhase_statesOnly w i1 i2).getCommand i
theorem gear_state_phase_keeps_commands (ratio : F) (w : World F) (i1 i2 i : Nat) :
    (gearStatePhase ratio w i1 i2).getCommand i = w.getCommand i :=
  (gearStatePhase_statesOnly ratio w i1 i2).getCommand i
theorem axle_state_phase_keeps_commands (w : World F) (is : List Nat) (i : Nat) :
    (axleStatePhase w is).getCommand i = w.getCommand i :=
  (axleStatePhase_statesOnly w is).getCommand i

/-- `Differential::update` only ever calls the state setter (`Differential.update_statesOnly`), in all four modes: every
command read, at its own terminals and anywhere else, is unchanged. -/
theorem diff_keeps_commands (mode : Distrust) (w : World F) (i1 i2 isum i : Nat) :
    (Differential.update mode w i1 i2 isum).getCommand i = w.getCommand i :=
  (Differential.update_statesOnly mode w i1 i2 isum).getCommand i

/-- the command an inverter relays, in side-1 orientation: the newer of the read at side 1 and the negated read
at side 2; side 1 wins ties -/
def invertWinner (c1 c2 : Option (Datum (Command F))) : Option (Datum (Command F)) :=
  match c1, c2 with
  | none, none => none
  | some a, none => some a
  | none, some b => some (Datum.map Command.neg b)
  | some a, some b => if b.time > a.time then some (Datum.map Command.neg b) else some a

theorem invertWinner_eq_newestOf (c1 c2 : Option (Datum (Command F))) :
    invertWinner c1 c2 = newestOf [c1, c2.map (Datum.map Command.neg)] := by
  simp only [newestOf, newestFrom, List.foldl_cons, List.foldl_nil, replaceOpt_step]
  rcases c1 with _ | a <;> rcases c2 with _ | b <;> try rfl
  show (if b.time > a.time then _ else _) = if a.time ≥ b.time then _ else _
  by_cases h : b.time > a.time
  · rw [if_pos h, if_neg (by omega)]
  · rw [if_neg h, if_pos (by omega)]

/-- the code's two `replace_if_none_or_older_than` calls compute the winner -/
theorem invertCmdPhase_eq (w1 : World F) (i1 i2 : Nat) :
    invertCmdPhase w1 i1 i2 =
      match invertWinner (w1.getCommand i1) (w1.getCommand i2) with
      | some dc => (w1.setCommand i1 dc).setCommand i2 (Datum.map Command.neg dc)
      | none => w1 := by
  rw [invertWinner_eq_newestOf]
  simp only [invertCmdPhase, newestOf, newestFrom, List.foldl_cons, List.foldl_nil]
  cases w1.getCommand i2 <;> rfl

theorem invertWinner_none_iff (c1 c2 : Option (Datum (Command F))) :
    invertWinner c1 c2 = none ↔ c1 = none ∧ c2 = none := by
  rw [invertWinner_eq_newestOf, (newestOf_spec _).1]; simp

theorem invertWinner_mem (c1 c2 : Option (Datum (Command F))) (dc : Datum (Command F))
    (h : invertWinner c1 c2 = some dc) :
    c1 = some dc ∨ ∃ b, c2 = some b ∧ dc = Datum.map Command.neg b := by
  rw [invertWinner_eq_newestOf] at h
  rcases List.mem_cons.1 (newestOf_max _ dc h).1 with e | e
  · exact .inl e.symm
  · obtain ⟨b, hb, hdc⟩ := Option.map_eq_some_iff.1 (List.mem_singleton.1 e).symm
    exact .inr ⟨b, hb, hdc.symm⟩

theorem invertWinner_newest (c1 c2 : Option (Datum (Command F))) (dc : Datum (Command F))
    (h : invertWinner c1 c2 = some dc) :
    (∀ a, c1 = some a → a.time ≤ dc.time) ∧ (∀ b, c2 = some b → b.time ≤ dc.time) := by
  rw [invertWinner_eq_newestOf] at h
  have hmax := (newestOf_max _ dc h).2
  exact ⟨fun a ha => hmax a (ha ▸ List.mem_cons_self),
    fun b hb => hmax (Datum.map Command.neg b) (hb ▸ List.mem_cons_of_mem _ List.mem_cons_self)⟩

/-- with distinct timestamps the winner is side 1's read iff that one is strictly newer (ties never arise) -/
theorem invertWinner_distinct (a b : Datum (Command F)) (hd : a.time ≠ b.time) :
    invertWinner (some a) (some b) = if a.time > b.time then some a else some (Datum.map Command.neg b) := by
  simp only [invertWinner]
  by_cases h : b.time > a.time
  · rw [if_pos h, if_neg (by omega)]
  · rw [if_neg h, if_pos (by omega)]

theorem invertWinner_of_newest1 {c1 c2 : Option (Datum (Command F))} {c : Datum (Command F)} (h1 : c1 = some c)
    (h2 : ∀ x, c2 = some x → x.time < c.time) : invertWinner c1 c2 = some c := by
  subst h1
  cases c2 with
  | none => rfl
  | some x => exact if_neg (by have := h2 x rfl; omega)

theorem invertWinner_of_newest2 {c1 c2 : Option (Datum (Command F))} {c : Datum (Command F)} (h2 : c2 = some c)
    (h1 : ∀ x, c1 = some x → x.time < c.time) : invertWinner c1 c2 = some (Datum.map Command.neg c) := by
  subst h2
  cases c1 with
  | none => rfl
  | some x => exact if_pos (h1 x rfl)

/-- what `Invert::update` writes: the winner at side 1, its negation at side 2 -/
def invertWrites (i1 i2 : Nat) (win : Option (Datum (Command F))) (j : Nat) : Option (Datum (Command F)) :=
  if j = i2 then win.map (Datum.map Command.neg) else if j = i1 then win else none

theorem invertWrites_snd (i1 i2 : Nat) (win : Option (Datum (Command F))) :
    invertWrites i1 i2 win i2 = win.map (Datum.map Command.neg) := if_pos rfl

theorem invertWrites_fst {i1 i2 : Nat} (h : i1 ≠ i2) (win : Option (Datum (Command F))) :
    invertWrites i1 i2 win i1 = win := (if_neg h).trans (if_pos rfl)

theorem invertWrites_outside {i1 i2 j : Nat} (h1 : j ≠ i1) (h2 : j ≠ i2) (win : Option (Datum (Command F))) :
    invertWrites i1 i2 win j = none := (if_neg h2).trans (if_neg h1)

theorem invertWrites_none (i1 i2 j : Nat) : invertWrites i1 i2 (none : Option (Datum (Command F))) j = none := by
  simp [invertWrites]

theorem invertWrites_time_le {i1 i2 j : Nat} (dc : Datum (Command F)) {g : Datum (Command F)}
    (h : invertWrites i1 i2 (some dc) j = some g) : g.time ≤ dc.time := by
  simp only [invertWrites, Option.map_some] at h
  split at h
  · cases h; exact Int.le_refl _
  · split at h
    · cases h; exact Int.le_refl _
    · cases h

theorem invert_writes (w : World F) (i1 i2 : Nat) :
    Writes w (Invert.update w i1 i2) (invertWrites i1 i2 (invertWinner (w.getCommand i1) (w.getCommand i2))) := by
  have hs := invertStatePhase_statesOnly w i1 i2
  rw [invert_update_phases, invertCmdPhase_eq, hs.getCommand, hs.getCommand]
  cases invertWinner (w.getCommand i1) (w.getCommand i2) with
  | none => exact hs.writes.congr (fun j => (invertWrites_none i1 i2 j).symm)
  | some dc =>
    exact ((hs.writes.setCommand i1 dc).setCommand i2 _).congr (fun j => by simp only [invertWrites, Option.map_some])

/-- the relayed command carries the issuer's timestamp and kind on both sides -/
theorem invert_relayed_time_kind (dc : Datum (Command F)) :
    (Datum.map Command.neg dc).time = dc.time ∧ (Datum.map Command.neg dc).value.kind = dc.value.kind ∧
    (Datum.map Command.neg dc).value.raw = -dc.value.raw :=
  ⟨rfl, neg_kind _, neg_raw _⟩

/-- C13 for the inverter.  After `Invert::update` terminal 1 reads the winner — the most recently issued of the two
commands read before the update, with its issuer's time and kind, negated iff it came from side 2 — and terminal 2 reads
its negation.  No assumption on ties or on how the terminals are connected is needed: the relayed command is written
into both own slots, own slots win ties in the terminal getter, and a partner outside the device cannot hold anything
newer because the winner was chosen from reads that included it. -/
theorem invert_relays_newest (w : World F) (i1 i2 : Nat) (h12 : i1 ≠ i2) :
    (Invert.update w i1 i2).getCommand i1 = invertWinner (w.getCommand i1) (w.getCommand i2) ∧
    (Invert.update w i1 i2).getCommand i2 =
      (invertWinner (w.getCommand i1) (w.getCommand i2)).map (Datum.map Command.neg) := by
  have hw := invert_writes w i1 i2
  cases hwin : invertWinner (w.getCommand i1) (w.getCommand i2) with
  | none =>
    rw [hwin] at hw
    have hn := (invertWinner_none_iff _ _).1 hwin
    have hkept := fun i => hw.read_kept (invertWrites_none i1 i2 i) (fun p _ => invertWrites_none i1 i2 p)
    exact ⟨(hkept i1).trans hn.1, (hkept i2).trans hn.2⟩
  | some dc =>
    rw [hwin] at hw
    obtain ⟨hle1, hle2⟩ := invertWinner_newest _ _ dc hwin
    exact ⟨hw.read_written (invertWrites_fst h12 _) hle1 (fun _ _ _ => invertWrites_time_le dc),
      hw.read_written (invertWrites_snd i1 i2 _) hle2 (fun _ _ _ => invertWrites_time_le dc)⟩

/-- Tier L.  A command issued on side 2 that is the newest is read back on side 2, after the update, with its
original value, time and kind: the two negations cancel (`hneg`: `-(-x) = x`, true of IEEE negation). -/
theorem invert_side2_roundtrip (hneg : ∀ x : F, -(-x) = x) (w : World F) (i1 i2 : Nat) (h12 : i1 ≠ i2)
    (b : Datum (Command F)) (h2 : w.getCommand i2 = some b)
    (hnewest : ∀ a, w.getCommand i1 = some a → b.time > a.time) :
    (Invert.update w i1 i2).getCommand i2 = some b := by
  rw [(invert_relays_newest w i1 i2 h12).2, invertWinner_of_newest2 h2 hnewest]
  have : Command.neg (Command.neg b.value) = b.value :=
    command_ext _ _ (by rw [neg_kind, neg_kind]) (by rw [neg_raw, neg_raw, hneg])
  simp only [Option.map, Datum.map, this]

/-- which side a gear train relays from: side 1 unless only side 2 reads a command or side 2's is strictly newer -/
def gearSide1Wins (c1 c2 : Option (Datum (Command F))) : Bool :=
  match c1, c2 with
  | some a, some b => decide (a.time ≥ b.time)
  | some _, none => true
  | none, _ => false

/-- the commands read at (terminal 1, terminal 2) after a gear-train update, from the reads before it:
the newer read stays what it is on its own side and appears multiplied by the ratio (1 → 2) or divided by it
(2 → 1) on the other side, with the same timestamp -/
def gearReads (ratio : F) (c1 c2 : Option (Datum (Command F))) :
    Option (Datum (Command F)) × Option (Datum (Command F)) :=
  match c1, c2 with
  | none, none => (none, none)
  | some a, none => (some a, some (Datum.scalar Command.mulF a ratio))
  | none, some b => (some (Datum.scalar Command.divF b ratio), some b)
  | some a, some b =>
    if a.time ≥ b.time then (some a, some (Datum.scalar Command.mulF a ratio))
    else (some (Datum.scalar Command.divF b ratio), some b)

/-- the relayed command carries the issuer's timestamp and kind; its raw value is multiplied / divided by the ratio -/
theorem gear_relayed_time_kind (d : Datum (Command F)) (ratio : F) :
    ((Datum.scalar Command.mulF d ratio).time = d.time ∧ (Datum.scalar Command.mulF d ratio).value.kind = d.value.kind ∧
      (Datum.scalar Command.mulF d ratio).value.raw = d.value.raw * ratio) ∧
    ((Datum.scalar Command.divF d ratio).time = d.time ∧ (Datum.scalar Command.divF d ratio).value.kind = d.value.kind ∧
      (Datum.scalar Command.divF d ratio).value.raw = d.value.raw / ratio) :=
  ⟨⟨rfl, mulF_kind _ _, mulF_raw _ _⟩, ⟨rfl, divF_kind _ _, divF_raw _ _⟩⟩

theorem gearSide_cases (c1 c2 : Option (Datum (Command F))) :
    (c1 = none ∧ c2 = none) ∨ (∃ a, c1 = some a ∧ gearSide1Wins c1 c2 = true) ∨
    (∃ b, c2 = some b ∧ gearSide1Wins c1 c2 = false) := by
  cases c1 with
  | none =>
    cases c2 with
    | none => left; exact ⟨rfl, rfl⟩
    | some b => right; right; exact ⟨b, rfl, rfl⟩
  | some a =>
    cases c2 with
    | none => right; left; exact ⟨a, rfl, rfl⟩
    | some b =>
      by_cases h : a.time ≥ b.time
      · right; left; exact ⟨a, rfl, decide_eq_true h⟩
      · right; right; exact ⟨b, rfl, decide_eq_false h⟩

theorem gearSide1Wins_le {c1 c2 : Option (Datum (Command F))} {a b : Datum (Command F)} (h1 : c1 = some a)
    (h2 : c2 = some b) :
    (gearSide1Wins c1 c2 = true → b.time ≤ a.time) ∧ (gearSide1Wins c1 c2 = false → a.time ≤ b.time) := by
  subst h1 h2
  simp only [gearSide1Wins, decide_eq_true_eq, decide_eq_false_iff_not]
  exact ⟨id, fun h => by omega⟩

theorem gearSide1Wins_of_newest1 {c1 c2 : Option (Datum (Command F))} {c : Datum (Command F)} (h1 : c1 = some c)
    (h2 : ∀ x, c2 = some x → x.time < c.time) : gearSide1Wins c1 c2 = true := by
  subst h1
  cases c2 with
  | none => rfl
  | some x => exact decide_eq_true (by have := h2 x rfl; omega)

theorem gearSide1Wins_of_newest2 {c1 c2 : Option (Datum (Command F))} {c : Datum (Command F)} (h2 : c2 = some c)
    (h1 : ∀ x, c1 = some x → x.time < c.time) : gearSide1Wins c1 c2 = false := by
  subst h2
  cases c1 with
  | none => rfl
  | some x => exact decide_eq_false (by have := h1 x rfl; omega)

theorem gearReads_of_side1 (ratio : F) (c1 c2 : Option (Datum (Command F))) (a : Datum (Command F))
    (h1 : c1 = some a) (hs : gearSide1Wins c1 c2 = true) :
    gearReads ratio c1 c2 = (some a, some (Datum.scalar Command.mulF a ratio)) := by
  subst h1
  cases c2 with
  | none => rfl
  | some b =>
    simp only [gearSide1Wins, decide_eq_true_eq] at hs
    simp only [gearReads]; rw [if_pos hs]

theorem gearReads_of_side2 (ratio : F) (c1 c2 : Option (Datum (Command F))) (b : Datum (Command F))
    (h2 : c2 = some b) (hs : gearSide1Wins c1 c2 = false) :
    gearReads ratio c1 c2 = (some (Datum.scalar Command.divF b ratio), some b) := by
  subst h2
  cases c1 with
  | none => rfl
  | some a =>
    simp only [gearSide1Wins, decide_eq_false_iff_not] at hs
    simp only [gearReads]; rw [if_neg hs]

/-- what `GearTrain::update` writes: only the slot of the side that is NOT relayed, with the other side's read scaled -/
def gearWrites (ratio : F) (i1 i2 : Nat) (c1 c2 : Option (Datum (Command F))) (j : Nat) : Option (Datum (Command F)) :=
  if gearSide1Wins c1 c2 then (if j = i2 then c1.map (Datum.scalar Command.mulF · ratio) else none)
  else (if j = i1 then c2.map (Datum.scalar Command.divF · ratio) else none)

theorem gearWrites_none (ratio : F) (i1 i2 j : Nat) :
    gearWrites ratio i1 i2 (none : Option (Datum (Command F))) none j = none := by
  simp [gearWrites, gearSide1Wins]

theorem gearWrites_of_side1 (ratio : F) (i1 i2 : Nat) {c1 c2 : Option (Datum (Command F))} {a : Datum (Command F)}
    (h1 : c1 = some a) (hs : gearSide1Wins c1 c2 = true) (j : Nat) :
    gearWrites ratio i1 i2 c1 c2 j = if j = i2 then some (Datum.scalar Command.mulF a ratio) else none := by
  subst h1; simp only [gearWrites, hs, if_true, Option.map_some]

theorem gearWrites_of_side2 (ratio : F) (i1 i2 : Nat) {c1 c2 : Option (Datum (Command F))} {b : Datum (Command F)}
    (h2 : c2 = some b) (hs : gearSide1Wins c1 c2 = false) (j : Nat) :
    gearWrites ratio i1 i2 c1 c2 j = if j = i1 then some (Datum.scalar Command.divF b ratio) else none := by
  subst h2; simp only [gearWrites, hs, Option.map_some]; rfl

theorem gear_writes (ratio : F) (w : World F) (i1 i2 : Nat) :
    Writes w (GearTrain.update ratio w i1 i2) (gearWrites ratio i1 i2 (w.getCommand i1) (w.getCommand i2)) := by
  have hs := gearStatePhase_statesOnly ratio w i1 i2
  rw [gear_update_phases, gearCmdPhase, hs.getCommand, hs.getCommand]
  cases w.getCommand i1 with
  | none =>
    cases w.getCommand i2 with
    | none => exact hs.writes.congr (fun j => (gearWrites_none ratio i1 i2 j).symm)
    | some b => exact (hs.writes.setCommand i1 _).congr (fun j => (gearWrites_of_side2 ratio i1 i2 rfl rfl j).symm)
  | some a =>
    cases w.getCommand i2 with
    | none => exact (hs.writes.setCommand i2 _).congr (fun j => (gearWrites_of_side1 ratio i1 i2 rfl rfl j).symm)
    | some b =>
      by_cases ht : a.time ≥ b.time
      · simp only [if_pos ht]
        exact (hs.writes.setCommand i2 _).congr
          (fun j => (gearWrites_of_side1 (c2 := some b) ratio i1 i2 rfl (decide_eq_true ht) j).symm)
      · simp only [if_neg ht]
        exact (hs.writes.setCommand i1 _).congr
          (fun j => (gearWrites_of_side2 (c1 := some a) ratio i1 i2 rfl (decide_eq_false ht) j).symm)

/-- C13 for the gear train.  If its two terminals are joined to terminals other than its own (`hext1`, `hext2`;
unconnected is fine; `exLoop` below shows why), after `GearTrain::update` the commands read at its terminals are
`gearReads`: the most recently issued of the two commands read before the update (side 1 on ties) is read unchanged on its
own side and, with the same timestamp and kind, multiplied by the ratio on side 2 resp. divided by it on side 1. -/
theorem gear_relays_newest (ratio : F) (w : World F) (i1 i2 : Nat) (h12 : i1 ≠ i2)
    (hext1 : (w.t i1).other ≠ some i1 ∧ (w.t i1).other ≠ some i2)
    (hext2 : (w.t i2).other ≠ some i1 ∧ (w.t i2).other ≠ some i2) :
    (GearTrain.update ratio w i1 i2).getCommand i1 = (gearReads ratio (w.getCommand i1) (w.getCommand i2)).1 ∧
    (GearTrain.update ratio w i1 i2).getCommand i2 = (gearReads ratio (w.getCommand i1) (w.getCommand i2)).2 := by
  have hw := gear_writes ratio w i1 i2
  rcases gearSide_cases (w.getCommand i1) (w.getCommand i2) with ⟨e1, e2⟩ | ⟨a, e1, hs⟩ | ⟨b, e2, hs⟩
  · rw [e1, e2] at hw ⊢
    have hkept := fun i => hw.read_kept (gearWrites_none ratio i1 i2 i) (fun p _ => gearWrites_none ratio i1 i2 p)
    exact ⟨(hkept i1).trans e1, (hkept i2).trans e2⟩
  · -- side 1 is relayed: only slot `i2` is written, and by `hext` neither terminal is linked to it
    have h := (hw.congr (gearWrites_of_side1 ratio i1 i2 e1 hs)).read_single
    rw [gearReads_of_side1 ratio _ _ a e1 hs]
    exact ⟨(h.2 i1 h12 hext1.2).trans e1, h.1 hext2.2 (fun r hr => (gearSide1Wins_le e1 hr).1 hs)⟩
  · have h := (hw.congr (gearWrites_of_side2 ratio i1 i2 e2 hs)).read_single
    rw [gearReads_of_side2 ratio _ _ b e2 hs]
    exact ⟨h.1 hext1.1 (fun r hr => (gearSide1Wins_le hr e2).2 hs), (h.2 i2 (Ne.symm h12) hext2.1).trans e2⟩

/-- the code's fold over the terminals is `newestOf` of the list of reads taken before the update -/
theorem axle_choice_eq (w : World F) (is : List Nat) :
    is.foldl (fun (m : Option (Datum (Command F))) i =>
      (Datum.replaceIfNoneOrOlderThanOption m ((axleStatePhase w is).getCommand i)).1) none =
    newestOf (is.map w.getCommand) := by
  simp only [newestOf, newestFrom, List.foldl_map, axle_state_phase_keeps_commands]

theorem axle_writes (w : World F) (is : List Nat) :
    Writes w (Axle.update w is) (fun j => if j ∈ is then newestOf (is.map w.getCommand) else none) := by
  have hs := axleStatePhase_statesOnly w is
  rw [axle_update_phases, axleCmdPhase, axle_choice_eq]
  cases newestOf (is.map w.getCommand) with
  | none => exact hs.writes.congr (fun j => (ite_self _).symm)
  | some dc => exact hs.writes.foldl_setCommand dc is

/-- C13 for the axle.  After `Axle::update`, reading the command at any terminal of the axle yields the first newest of
the commands read at its terminals before the update — the issuer's datum itself: same timestamp, kind and value.
Holds for every number of terminals, every wiring, and with ties (all own slots hold the same datum and own slots win
ties). -/
theorem axle_relays_newest (w : World F) (is : List Nat) (i : Nat) (hi : i ∈ is) :
    (Axle.update w is).getCommand i = newestOf (is.map w.getCommand) := by
  have hw := axle_writes w is
  cases hm : newestOf (is.map w.getCommand) with
  | none =>
    rw [hm] at hw
    rw [hw.read_kept (ite_self _) (fun p _ => ite_self _)]
    exact (newestOf_spec _).1.1 hm _ (List.mem_map.2 ⟨i, hi, rfl⟩)
  | some dc =>
    rw [hm] at hw
    refine hw.read_written (if_pos hi) (fun r hr => (newestOf_max _ dc hm).2 r (List.mem_map.2 ⟨i, hi, hr⟩))
      (fun p g _ hg => ?_)
    -- every terminal of the axle gets the same datum
    split at hg <;> cases hg
    exact Int.le_refl _

/-- a one-degree-of-freedom device with an entry terminal `a` and an exit terminal `b`:
inverter (side 1 = `a`), gear train (side 1 = `a`), or an axle over any terminal list `is` containing both -/
inductive Dev1 (F : Type) where
  | inv (a b : Nat)
  | gear (ratio : F) (a b : Nat)
  | axle (is : List Nat) (a b : Nat)

namespace Dev1
def fst : Dev1 F → Nat
  | inv a _ => a | gear _ a _ => a | axle _ a _ => a
def snd : Dev1 F → Nat
  | inv _ b => b | gear _ _ b => b | axle _ _ b => b
def terms : Dev1 F → List Nat
  | inv a b => [a, b] | gear _ a b => [a, b] | axle is _ _ => is
def update : Dev1 F → World F → World F
  | inv a b, w => Invert.update w a b
  | gear r a b, w => GearTrain.update r w a b
  | axle is _ _, w => Axle.update w is
/-- how a command value is mapped from the entry to the exit side -/
def mapCmd : Dev1 F → Command F → Command F
  | inv _ _, c => Command.neg c
  | gear r _ _, c => Command.mulF c r
  | axle _ _ _, c => c
def WF (d : Dev1 F) : Prop := d.fst ∈ d.terms ∧ d.snd ∈ d.terms ∧ d.fst ≠ d.snd
end Dev1

def chainTerms : List (Dev1 F) → List Nat
  | [] => []
  | d :: ds => d.terms ++ chainTerms ds

def runChain (w : World F) : List (Dev1 F) → World F
  | [] => w
  | d :: ds => runChain (d.update w) ds

def chainMap : List (Dev1 F) → Command F → Command F
  | [], c => c
  | d :: ds, c => chainMap ds (d.mapCmd c)

/-- exit terminal of the last device -/
def farEnd (d : Dev1 F) : List (Dev1 F) → Nat
  | [] => d.snd
  | d' :: ds => farEnd d' ds

/-- A chain in the world `w` (only the links of `w` matter): every device has distinct entry/exit among its terminals;
the entry of each next device is connected to the exit of the previous one; devices share no terminal; apart from that
one connection no terminal of a later device is wired to a terminal of an earlier one; and the far end is not wired
back into its own device.  For a concrete world and list: `simp only [ChainOK, Dev1.WF]; decide`, with the name of the list
among the simp lemmas if it is a `def` (the recursion and `Dev1.WF` carry no `Decidable` instance, so `decide` alone fails). -/
def ChainOK (w : World F) : List (Dev1 F) → Prop
  | [] => True
  | [d] => d.WF ∧ ∀ p ∈ d.terms, (w.t d.snd).other ≠ some p
  | d :: d' :: rest =>
    d.WF ∧ (w.t d'.fst).other = some d.snd ∧ (∀ x ∈ d.terms, x ∉ chainTerms (d' :: rest)) ∧
    (∀ j ∈ chainTerms (d' :: rest), j ≠ d'.fst → ∀ p ∈ d.terms, (w.t j).other ≠ some p) ∧
    ChainOK w (d' :: rest)

/-- a one-degree-of-freedom device with an entry terminal `a` and an exit terminal `b`, entered from either side:
`inv`/`gear` are entered at side 1 (as `Dev1.inv`/`Dev1.gear`); `invRev`/`gearRev` are entered at side 2 — the device's
`update` is still called with (side 1, side 2) = (`b`, `a`); an axle has no sides.  Traversing a chain from its far end
(`Lemmas/C13ReverseRepeat.lean`) needs this type, so the chain theorem is proved for it; the chain clause of C13 is stated for
`Dev1` (entered at side 1 throughout): `Dev1.toB` embeds it and the `*_toB` lemmas carry the theorems over. -/
inductive DevB (F : Type) where
  | inv (a b : Nat)
  | invRev (a b : Nat)
  | gear (ratio : F) (a b : Nat)
  | gearRev (ratio : F) (a b : Nat)
  | axle (is : List Nat) (a b : Nat)

namespace DevB
def fst : DevB F → Nat
  | inv a _ => a | invRev a _ => a | gear _ a _ => a | gearRev _ a _ => a | axle _ a _ => a
def snd : DevB F → Nat
  | inv _ b => b | invRev _ b => b | gear _ _ b => b | gearRev _ _ b => b | axle _ _ b => b
def terms : DevB F → List Nat
  | inv a b => [a, b] | invRev a b => [a, b] | gear _ a b => [a, b] | gearRev _ a b => [a, b] | axle is _ _ => is
/-- the device's `update`: the model functions the driver runs, with side 1 / side 2 in the device's own order -/
def update : DevB F → World F → World F
  | inv a b, w => Invert.update w a b
  | invRev a b, w => Invert.update w b a
  | gear r a b, w => GearTrain.update r w a b
  | gearRev r a b, w => GearTrain.update r w b a
  | axle is _ _, w => Axle.update w is
/-- how a command value is mapped from the entry to the exit side: a gear train entered at side 2 divides by its ratio -/
def mapCmd : DevB F → Command F → Command F
  | inv _ _, c => Command.neg c
  | invRev _ _, c => Command.neg c
  | gear r _ _, c => Command.mulF c r
  | gearRev r _ _, c => Command.divF c r
  | axle _ _ _, c => c
def WF (d : DevB F) : Prop := d.fst ∈ d.terms ∧ d.snd ∈ d.terms ∧ d.fst ≠ d.snd
/-- the same physical device traversed the other way: entry and exit swapped, `update` unchanged -/
def rev : DevB F → DevB F
  | inv a b => invRev b a
  | invRev a b => inv b a
  | gear r a b => gearRev r b a
  | gearRev r a b => gear r b a
  | axle is a b => axle is b a
end DevB

/-- a `Dev1` (entered at side 1) as a bidirectional device -/
def Dev1.toB : Dev1 F → DevB F
  | .inv a b => .inv a b
  | .gear r a b => .gear r a b
  | .axle is a b => .axle is a b

def chainTermsB : List (DevB F) → List Nat
  | [] => []
  | d :: ds => d.terms ++ chainTermsB ds

def runChainB (w : World F) : List (DevB F) → World F
  | [] => w
  | d :: ds => runChainB (d.update w) ds

def chainMapB : List (DevB F) → Command F → Command F
  | [], c => c
  | d :: ds, c => chainMapB ds (d.mapCmd c)

def farEndB (d : DevB F) : List (DevB F) → Nat
  | [] => d.snd
  | d' :: ds => farEndB d' ds

/-- the chain conditions of `ChainOK`, for bidirectional devices (only the links of `w` matter); for a concrete world and
list `simp only [ChainOKB, DevB.WF]; decide`, as there -/
def ChainOKB (w : World F) : List (DevB F) → Prop
  | [] => True
  | [d] => d.WF ∧ ∀ p ∈ d.terms, (w.t d.snd).other ≠ some p
  | d :: d' :: rest =>
    d.WF ∧ (w.t d'.fst).other = some d.snd ∧ (∀ x ∈ d.terms, x ∉ chainTermsB (d' :: rest)) ∧
    (∀ j ∈ chainTermsB (d' :: rest), j ≠ d'.fst → ∀ p ∈ d.terms, (w.t j).other ≠ some p) ∧
    ChainOKB w (d' :: rest)

theorem ChainOKB.congr {w w' : World F} (h : ∀ j, (w'.t j).other = (w.t j).other) :
    ∀ ds : List (DevB F), ChainOKB w ds → ChainOKB w' ds
  | [], _ => trivial
  | [d], hc => ⟨hc.1, fun p hp => by rw [h]; exact hc.2 p hp⟩
  | d :: d' :: rest, hc =>
    ⟨hc.1, by rw [h]; exact hc.2.1, hc.2.2.1, fun j hj hne p hp => by rw [h]; exact hc.2.2.2.1 j hj hne p hp,
      ChainOKB.congr h (d' :: rest) hc.2.2.2.2⟩

theorem ChainOKB.head_WF {w : World F} {d : DevB F} {ds : List (DevB F)} (h : ChainOKB w (d :: ds)) : d.WF := by
  cases ds with
  | nil => exact h.1
  | cons d' rest => exact h.1

/-- a device whose entry terminal reads the strictly newest of the commands read at its terminals writes it, mapped, into
the exit terminal's own slot, and writes nothing outside the device -/
theorem devB_writes (d : DevB F) (hwf : d.WF) (w : World F) (c : Datum (Command F))
    (hc : w.getCommand d.fst = some c)
    (hold : ∀ j ∈ d.terms, j ≠ d.fst → ∀ r, w.getCommand j = some r → r.time < c.time) :
    ∃ wr, Writes w (d.update w) wr ∧ wr d.snd = some ⟨c.time, d.mapCmd c.value⟩ ∧ ∀ j, j ∉ d.terms → wr j = none := by
  obtain ⟨hfm, hsm, hne⟩ := hwf
  have hb := hold d.snd hsm (Ne.symm hne)
  have hout : ∀ {a b j : Nat}, j ∉ [a, b] → j ≠ a ∧ j ≠ b := fun hj =>
    ⟨fun e => hj (e ▸ List.mem_cons_self), fun e => hj (e ▸ List.mem_cons_of_mem _ List.mem_cons_self)⟩
  cases d with
  | inv a b =>
    refine ⟨_, invert_writes w a b, ?_⟩
    rw [show invertWinner (w.getCommand a) (w.getCommand b) = _ from invertWinner_of_newest1 hc hb]
    exact ⟨invertWrites_snd a b _, fun j hj => invertWrites_outside (hout hj).1 (hout hj).2 _⟩
  | invRev a b =>
    refine ⟨_, invert_writes w b a, ?_⟩
    rw [show invertWinner (w.getCommand b) (w.getCommand a) = _ from invertWinner_of_newest2 hc hb]
    exact ⟨invertWrites_fst (Ne.symm hne) _, fun j hj => invertWrites_outside (hout hj).2 (hout hj).1 _⟩
  | gear r a b =>
    exact ⟨_, (gear_writes r w a b).congr (gearWrites_of_side1 r a b hc (gearSide1Wins_of_newest1 hc hb)),
      if_pos rfl, fun j hj => if_neg (hout hj).2⟩
  | gearRev r a b =>
    exact ⟨_, (gear_writes r w b a).congr (gearWrites_of_side2 r b a hc (gearSide1Wins_of_newest2 hc hb)),
      if_pos rfl, fun j hj => if_neg (hout hj).2⟩
  | axle is a b =>
    refine ⟨_, axle_writes w is, ?_⟩
    have hm : newestOf (is.map w.getCommand) = some c := by
      refine newestOf_eq_of_strict_max _ c (List.mem_map.2 ⟨a, hfm, hc⟩) (fun x hx => ?_)
      obtain ⟨j, hj, e⟩ := List.mem_map.1 hx
      by_cases hja : j = a
      · left; rw [hja] at e; exact Option.some.inj (e.symm.trans hc)
      · right; exact hold j hj hja x e
    rw [hm]
    exact ⟨if_pos hsm, fun j hj => if_neg hj⟩

theorem mem_chainTermsB_cons {d : DevB F} {ds : List (DevB F)} {j : Nat} :
    j ∈ chainTermsB (d :: ds) ↔ j ∈ d.terms ∨ j ∈ chainTermsB ds := List.mem_append

theorem DevB.mapCmd_kind (d : DevB F) (c : Command F) : (d.mapCmd c).kind = c.kind := by
  cases d
  exacts [neg_kind c, neg_kind c, mulF_kind c _, divF_kind c _, rfl]

theorem chainMapB_kind (ds : List (DevB F)) (c : Command F) : (chainMapB ds c).kind = c.kind := by
  induction ds generalizing c with
  | nil => rfl
  | cons d ds ih => exact (ih _).trans (d.mapCmd_kind c)

/-- C13 for chains of any length, each device entered from either side, stale commands allowed.  If the entry terminal of
the first device reads the command `c` and every command read at any other terminal of the chain is strictly older than
`c`, then after updating the devices in order along the chain the far terminal's own slot holds — and the far terminal
reads — a command with the issuer's timestamp, the issuer's kind (`chainMapB_kind`) and the value obtained by applying
the per-device maps in order.

Induction along the chain, for all worlds: after the first device the entry of the rest of the chain reads the relayed
command through its link, every other terminal of the rest reads what it read before, and the links are as they were. -/
theorem chainB_relays_newest (d : DevB F) (ds : List (DevB F)) (w : World F) (c : Datum (Command F))
    (hok : ChainOKB w (d :: ds)) (hc : w.getCommand d.fst = some c)
    (hold : ∀ j ∈ chainTermsB (d :: ds), j ≠ d.fst → ∀ r, w.getCommand j = some r → r.time < c.time) :
    ((runChainB w (d :: ds)).t (farEndB d ds)).command = some ⟨c.time, chainMapB (d :: ds) c.value⟩ ∧
    (runChainB w (d :: ds)).getCommand (farEndB d ds) = some ⟨c.time, chainMapB (d :: ds) c.value⟩ := by
  induction ds generalizing d w c with
  | nil =>
    show ((d.update w).t d.snd).command = some ⟨c.time, d.mapCmd c.value⟩ ∧
      (d.update w).getCommand d.snd = some ⟨c.time, d.mapCmd c.value⟩
    obtain ⟨hwf, hfree⟩ := hok
    obtain ⟨wr, hw, hs, hout⟩ := devB_writes d hwf w c hc (fun j hj => hold j (mem_chainTermsB_cons.2 (.inl hj)))
    refine ⟨hw.command_of_some hs, hw.read_written hs (fun r hr => ?_) (fun p g hp hg => ?_)⟩
    · exact Int.le_of_lt (hold _ (mem_chainTermsB_cons.2 (.inl hwf.2.1)) (Ne.symm hwf.2.2) r hr)
    · -- the far terminal's partner lies outside the device
      rw [hout p (fun hm => hfree p hm hp)] at hg; cases hg
  | cons d' rest ih =>
    obtain ⟨hwf, hlink, hdisj, hiso, hrest⟩ := hok
    obtain ⟨wr, hw, hs, hout⟩ := devB_writes d hwf w c hc (fun j hj => hold j (mem_chainTermsB_cons.2 (.inl hj)))
    have hnotd : ∀ j ∈ chainTermsB (d' :: rest), j ∉ d.terms := fun j hj hm => hdisj j hm hj
    have hold₀ : ∀ j ∈ chainTermsB (d' :: rest), ∀ r, w.getCommand j = some r → r.time < c.time :=
      fun j hj => hold j (mem_chainTermsB_cons.2 (.inr hj)) (fun e => hnotd j hj (e ▸ hwf.1))
    have hfst' : d'.fst ∈ chainTermsB (d' :: rest) := mem_chainTermsB_cons.2 (.inl (ChainOKB.head_WF hrest).1)
    refine ih d' (d.update w) ⟨c.time, d.mapCmd c.value⟩ (ChainOKB.congr hw.other _ hrest) ?_ ?_
    · -- the next entry terminal reads the relayed command through its link: its own slot, if any, is strictly older
      refine hw.read_partner_written (hout _ (hnotd _ hfst')) hlink hs (fun o ho => ?_)
      obtain ⟨r, hr, hor⟩ := World.own_le_read w d'.fst o ho
      exact Int.lt_of_le_of_lt hor (hold₀ _ hfst' r hr)
    · -- every other later terminal reads what it read before
      intro j hj hjne r hr
      rw [hw.read_kept (hout j (hnotd j hj)) (fun p hp => hout p (fun hm => hiso j hj hjne p hm hp))] at hr
      exact hold₀ j hj r hr

/-- what an outside observer sees: a terminal `e` outside the chain that is connected to the far end and whose own slot
is empty or strictly older reads the relayed command -/
theorem chainB_relays_newest_external (d : DevB F) (ds : List (DevB F)) (w : World F) (c : Datum (Command F))
    (hok : ChainOKB w (d :: ds)) (hc : w.getCommand d.fst = some c)
    (hold : ∀ j ∈ chainTermsB (d :: ds), j ≠ d.fst → ∀ r, w.getCommand j = some r → r.time < c.time)
    (e : Nat) (he : ((runChainB w (d :: ds)).t e).other = some (farEndB d ds))
    (hown : ∀ o, ((runChainB w (d :: ds)).t e).command = some o → o.time < c.time) :
    (runChainB w (d :: ds)).getCommand e = some ⟨c.time, chainMapB (d :: ds) c.value⟩ :=
  World.getCommand_eq_partner_of_newer _ _ _
    ((World.partnerCommand_linked he).trans (chainB_relays_newest d ds w c hok hc hold).1) hown

/-! ### `Dev1` chains are `DevB` chains -/

theorem Dev1.toB_fst (d : Dev1 F) : d.toB.fst = d.fst := by cases d <;> rfl
theorem Dev1.toB_snd (d : Dev1 F) : d.toB.snd = d.snd := by cases d <;> rfl
theorem Dev1.toB_terms (d : Dev1 F) : d.toB.terms = d.terms := by cases d <;> rfl
theorem Dev1.toB_update (d : Dev1 F) (w : World F) : d.toB.update w = d.update w := by cases d <;> rfl
theorem Dev1.toB_mapCmd (d : Dev1 F) (c : Command F) : d.toB.mapCmd c = d.mapCmd c := by cases d <;> rfl
theorem Dev1.toB_WF (d : Dev1 F) (h : d.WF) : d.toB.WF := by
  unfold DevB.WF; rw [Dev1.toB_fst, Dev1.toB_snd, Dev1.toB_terms]; exact h

theorem chainTermsB_toB (ds : List (Dev1 F)) : chainTermsB (ds.map Dev1.toB) = chainTerms ds := by
  induction ds with
  | nil => rfl
  | cons d ds ih => simp only [List.map_cons, chainTermsB, chainTerms, ih, Dev1.toB_terms]

theorem runChainB_toB (ds : List (Dev1 F)) (w : World F) : runChainB w (ds.map Dev1.toB) = runChain w ds := by
  induction ds generalizing w with
  | nil => rfl
  | cons d ds ih => simp only [List.map_cons, runChainB, runChain, ih, Dev1.toB_update]

theorem chainMapB_toB (ds : List (Dev1 F)) (c : Command F) : chainMapB (ds.map Dev1.toB) c = chainMap ds c := by
  induction ds generalizing c with
  | nil => rfl
  | cons d ds ih => simp only [List.map_cons, chainMapB, chainMap, ih, Dev1.toB_mapCmd]

theorem farEndB_toB (d : Dev1 F) (ds : List (Dev1 F)) : farEndB d.toB (ds.map Dev1.toB) = farEnd d ds := by
  induction ds generalizing d with
  | nil => exact Dev1.toB_snd d
  | cons d' ds ih => simp only [List.map_cons, farEndB, farEnd, ih]

theorem ChainOKB_toB (w : World F) : ∀ ds : List (Dev1 F), ChainOK w ds → ChainOKB w (ds.map Dev1.toB)
  | [], _ => trivial
  | [d], hc => ⟨Dev1.toB_WF d hc.1, by rw [Dev1.toB_snd, Dev1.toB_terms]; exact hc.2⟩
  | d :: d' :: rest, hc => by
    obtain ⟨hwf, hlink, hdisj, hiso, hrest⟩ := hc
    have ht : chainTermsB (d'.toB :: rest.map Dev1.toB) = chainTerms (d' :: rest) := chainTermsB_toB (d' :: rest)
    refine ⟨Dev1.toB_WF d hwf, ?_, ?_, ?_, ChainOKB_toB w (d' :: rest) hrest⟩
    · rw [Dev1.toB_fst, Dev1.toB_snd]; exact hlink
    · rw [ht, Dev1.toB_terms]; exact hdisj
    · rw [ht, Dev1.toB_terms, Dev1.toB_fst]; exact hiso

/-- `chainB_relays_newest` for a chain entered at side 1 throughout -/
theorem chain_relays_newest (d : Dev1 F) (ds : List (Dev1 F)) (w : World F) (c : Datum (Command F))
    (hok : ChainOK w (d :: ds)) (hc : w.getCommand d.fst = some c)
    (hold : ∀ j ∈ chainTerms (d :: ds), j ≠ d.fst → ∀ r, w.getCommand j = some r → r.time < c.time) :
    ((runChain w (d :: ds)).t (farEnd d ds)).command = some ⟨c.time, chainMap (d :: ds) c.value⟩ ∧
    (runChain w (d :: ds)).getCommand (farEnd d ds) = some ⟨c.time, chainMap (d :: ds) c.value⟩ := by
  rw [← runChainB_toB, ← chainMapB_toB, ← farEndB_toB]
  exact chainB_relays_newest d.toB (ds.map Dev1.toB) w c (ChainOKB_toB w (d :: ds) hok) (by rwa [Dev1.toB_fst])
    (fun j hj hne => hold j (chainTermsB_toB (d :: ds) ▸ hj) (Dev1.toB_fst d ▸ hne))

theorem chainMap_kind (ds : List (Dev1 F)) (c : Command F) : (chainMap ds c).kind = c.kind :=
  chainMapB_toB ds c ▸ chainMapB_kind _ c

/-- C13, the chain clause (any length; inverters, gear trains and axles of any size).  If the entry terminal of the first
device reads the command `c` and no other terminal of the chain reads any command, then after updating the devices in
order along the chain the far terminal's own slot holds — and the far terminal reads — a command with the issuer's
timestamp, the issuer's kind (`chainMap_kind`) and the value obtained by applying the per-device maps in order. -/
theorem chain_relays (d : Dev1 F) (ds : List (Dev1 F)) (w : World F) (c : Datum (Command F))
    (hok : ChainOK w (d :: ds)) (hc : w.getCommand d.fst = some c)
    (hnone : ∀ j ∈ chainTerms (d :: ds), j ≠ d.fst → w.getCommand j = none) :
    ((runChain w (d :: ds)).t (farEnd d ds)).command = some ⟨c.time, chainMap (d :: ds) c.value⟩ ∧
    (runChain w (d :: ds)).getCommand (farEnd d ds) = some ⟨c.time, chainMap (d :: ds) c.value⟩ :=
  chain_relays_newest d ds w c hok hc (fun j hj hne r hr => by rw [hnone j hj hne] at hr; cases hr)

/-- what an outside observer sees: a terminal `e` outside the chain that is connected to the far end and has no command of
its own reads the relayed command -/
theorem chain_relays_external (d : Dev1 F) (ds : List (Dev1 F)) (w : World F) (c : Datum (Command F))
    (hok : ChainOK w (d :: ds)) (hc : w.getCommand d.fst = some c)
    (hnone : ∀ j ∈ chainTerms (d :: ds), j ≠ d.fst → w.getCommand j = none)
    (e : Nat) (he : ((runChain w (d :: ds)).t e).other = some (farEnd d ds))
    (hown : ((runChain w (d :: ds)).t e).command = none) :
    (runChain w (d :: ds)).getCommand e = some ⟨c.time, chainMap (d :: ds) c.value⟩ := by
  rw [World.getCommand_eq_partner _ _ hown, World.partnerCommand_linked he]
  exact (chain_relays d ds w c hok hc hnone).1

/-- the chain clause as the property words it: a command present only in the own slot of the first terminal of the first
device (every other command slot of the world empty), no chain terminal other than that one wired to it -/
theorem chain_relays_fresh (d : Dev1 F) (ds : List (Dev1 F)) (w : World F) (c : Datum (Command F))
    (hok : ChainOK w (d :: ds)) (hc : (w.t d.fst).command = some c)
    (hempty : ∀ j, j ≠ d.fst → (w.t j).command = none)
    (hentry : ∀ j ∈ chainTerms (d :: ds), j ≠ d.fst → (w.t j).other ≠ some d.fst) :
    (runChain w (d :: ds)).getCommand (farEnd d ds) = some ⟨c.time, chainMap (d :: ds) c.value⟩ := by
  -- every other slot being empty, a partner's slot holds something only if the partner is `d.fst`, and then it holds `c`
  have hpart : ∀ j g, w.partnerCommand j = some g → (w.t j).other = some d.fst ∧ g = c := fun j g hg => by
    cases hp : (w.t j).other with
    | none => rw [World.partnerCommand_unlinked hp] at hg; cases hg
    | some p =>
      rw [World.partnerCommand_linked hp] at hg
      by_cases e : p = d.fst
      · rw [e, hc] at hg; exact ⟨e ▸ rfl, (Option.some.inj hg).symm⟩
      · rw [hempty p e] at hg; cases hg
  refine (chain_relays d ds w c hok ?_ (fun j hj hne => ?_)).2
  · exact World.getCommand_eq_own _ _ _ hc (fun g hg => Int.le_of_eq (congrArg Datum.time (hpart _ g hg).2))
  · refine (World.getCommand_none_iff w j).2 ⟨hempty j hne, ?_⟩
    cases hg : w.partnerCommand j with
    | none => rfl
    | some g => exact absurd (hpart j g hg).1 (hentry j hj hne)

/-- the read half of `chain_relays`, which is `chain_relays_newest` with nothing else read anywhere in the chain -/
theorem chain_relays_of_newest (d : Dev1 F) (ds : List (Dev1 F)) (w : World F) (c : Datum (Command F))
    (hok : ChainOK w (d :: ds)) (hc : w.getCommand d.fst = some c)
    (hnone : ∀ j ∈ chainTerms (d :: ds), j ≠ d.fst → w.getCommand j = none) :
    (runChain w (d :: ds)).getCommand (farEnd d ds) = some ⟨c.time, chainMap (d :: ds) c.value⟩ :=
  (chain_relays d ds w c hok hc hnone).2

/-- the newest-command form of `chain_relays_external` -/
theorem chain_relays_newest_external (d : Dev1 F) (ds : List (Dev1 F)) (w : World F) (c : Datum (Command F))
    (hok : ChainOK w (d :: ds)) (hc : w.getCommand d.fst = some c)
    (hold : ∀ j ∈ chainTerms (d :: ds), j ≠ d.fst → ∀ r, w.getCommand j = some r → r.time < c.time)
    (e : Nat) (he : ((runChain w (d :: ds)).t e).other = some (farEnd d ds))
    (hown : ∀ o, ((runChain w (d :: ds)).t e).command = some o → o.time < c.time) :
    (runChain w (d :: ds)).getCommand e = some ⟨c.time, chainMap (d :: ds) c.value⟩ :=
  World.getCommand_eq_partner_of_newer _ _ _
    ((World.partnerCommand_linked he).trans (chain_relays_newest d ds w c hok hc hold).1) hown

end S

section R
variable {F : Type} [Field F] [LinearOrder F] [IsStrictOrderedRing F] [FloatLike F] [ExactScalar F]

/-- the ratio of a device, entry → exit: `-1` for an inverter, the gear ratio, `1` for an axle -/
def Dev1.ratio : Dev1 F → F
  | .inv _ _ => -1
  | .gear r _ _ => r
  | .axle _ _ _ => 1

/-- the factor of a device, entry → exit: `-1` for an inverter (either way), the gear ratio when entered at side 1,
its reciprocal when entered at side 2, `1` for an axle -/
def DevB.ratio : DevB F → F
  | .inv _ _ => -1
  | .invRev _ _ => -1
  | .gear r _ _ => r
  | .gearRev r _ _ => r⁻¹
  | .axle _ _ _ => 1

theorem Dev1.toB_ratio (d : Dev1 F) : d.toB.ratio = d.ratio := by cases d <;> rfl

theorem DevB.mapCmd_raw (d : DevB F) (c : Command F) : (d.mapCmd c).raw = c.raw * d.ratio := by
  cases d
  · exact (neg_raw c).trans (mul_neg_one _).symm
  · exact (neg_raw c).trans (mul_neg_one _).symm
  · exact mulF_raw c _
  · exact (divF_raw c _).trans (div_eq_mul_inv _ _)
  · exact (mul_one _).symm

theorem chainB_scale_is_product (ds : List (DevB F)) (c : Command F) :
    (chainMapB ds c).kind = c.kind ∧ (chainMapB ds c).raw = c.raw * (ds.map DevB.ratio).prod := by
  refine ⟨chainMapB_kind ds c, ?_⟩
  induction ds generalizing c with
  | nil => exact (mul_one _).symm
  | cons d ds ih => rw [chainMapB, ih, DevB.mapCmd_raw, List.map_cons, List.prod_cons, mul_assoc]

theorem prod_ratio_toB (ds : List (Dev1 F)) :
    ((ds.map Dev1.toB).map DevB.ratio).prod = (ds.map Dev1.ratio).prod := by
  induction ds with
  | nil => rfl
  | cons d ds ih => simp only [List.map_cons, List.prod_cons, ih, Dev1.toB_ratio]

/-- Tier R: over an ordered field the value that reaches the far end is the issued value times the product of the ratios
along the chain (an inverter counting as `-1`, an axle as `1`), of the same kind. -/
theorem chain_scale_is_product (ds : List (Dev1 F)) (c : Command F) :
    (chainMap ds c).kind = c.kind ∧ (chainMap ds c).raw = c.raw * (ds.map Dev1.ratio).prod := by
  rw [← chainMapB_toB, ← prod_ratio_toB]; exact chainB_scale_is_product _ c

/-- Tier R, end to end: the command read at the far end of a chain of any length has the issuer's timestamp, the issuer's
kind, and the issuer's value scaled by the product of the ratios. -/
theorem chain_relays_scaled (d : Dev1 F) (ds : List (Dev1 F)) (w : World F) (c : Datum (Command F))
    (hok : ChainOK w (d :: ds)) (hc : w.getCommand d.fst = some c)
    (hnone : ∀ j ∈ chainTerms (d :: ds), j ≠ d.fst → w.getCommand j = none) :
    ∃ r, (runChain w (d :: ds)).getCommand (farEnd d ds) = some r ∧ r.time = c.time ∧
      r.value.kind = c.value.kind ∧ r.value.raw = c.value.raw * ((d :: ds).map Dev1.ratio).prod :=
  ⟨_, (chain_relays d ds w c hok hc hnone).2, rfl, (chain_scale_is_product (d :: ds) c.value).1,
    (chain_scale_is_product (d :: ds) c.value).2⟩

/-- the same with stale commands allowed -/
theorem chain_relays_newest_scaled (d : Dev1 F) (ds : List (Dev1 F)) (w : World F) (c : Datum (Command F))
    (hok : ChainOK w (d :: ds)) (hc : w.getCommand d.fst = some c)
    (hold : ∀ j ∈ chainTerms (d :: ds), j ≠ d.fst → ∀ r, w.getCommand j = some r → r.time < c.time) :
    ∃ r, (runChain w (d :: ds)).getCommand (farEnd d ds) = some r ∧ r.time = c.time ∧
      r.value.kind = c.value.kind ∧ r.value.raw = c.value.raw * ((d :: ds).map Dev1.ratio).prod :=
  ⟨_, (chain_relays_newest d ds w c hok hc hold).2, rfl, (chain_scale_is_product (d :: ds) c.value).1,
    (chain_scale_is_product (d :: ds) c.value).2⟩

end R

/-! non-vacuity: concrete instances over `Int` payloads -/
section Examples
/-- integers as a (law-free) scalar, for examples only -/
local instance : FloatLike Int := ⟨id, id, fun _ _ => 1, fun x => x.natAbs⟩

/-- device terminals 0 and 1, joined to outside terminals 2 and 3 which hold a velocity command issued at time 5 and
a position command issued at time 9; terminal 4 is free -/
def exW : World Int := ⟨5, fun
  | 0 => ⟨none, none, some 2⟩
  | 1 => ⟨none, none, some 3⟩
  | 2 => ⟨none, some ⟨5, .velocity 3⟩, some 0⟩
  | 3 => ⟨none, some ⟨9, .position 4⟩, some 1⟩
  | _ => World.freshTerm⟩

example : exW.getCommand 0 = some ⟨5, .velocity 3⟩ ∧ exW.getCommand 1 = some ⟨9, .position 4⟩ := ⟨rfl, rfl⟩
-- inverter: side 2's command is newer; it is read negated on side 1 and as issued on side 2
example : invertWinner (exW.getCommand 0) (exW.getCommand 1) = some ⟨9, .position (-4)⟩ := by rfl
example : (Invert.update exW 0 1).getCommand 0 = some ⟨9, .position (-4)⟩ :=
  (invert_relays_newest exW 0 1 (by decide)).1
example : (Invert.update exW 0 1).getCommand 1 = some ⟨9, .position 4⟩ :=
  invert_side2_roundtrip (F := Int) (fun x => by omega) exW 0 1 (by decide) ⟨9, .position 4⟩ rfl
    (fun a h => by
      have h' : exW.getCommand 0 = some ⟨5, .velocity 3⟩ := rfl
      rw [h'] at h; cases h; decide)
-- the outside terminals see it too
example : (Invert.update exW 0 1).getCommand 2 = some ⟨9, .position (-4)⟩ := by rfl
-- gear train with ratio 2: hypotheses of `gear_relays_newest` hold, side 2 wins, side 1 reads 4 / 2
example : (exW.t 0).other ≠ some 0 ∧ (exW.t 0).other ≠ some 1 ∧ (exW.t 1).other ≠ some 0 ∧ (exW.t 1).other ≠ some 1 := by
  decide
example : gearReads 2 (exW.getCommand 0) (exW.getCommand 1) = (some ⟨9, .position 2⟩, some ⟨9, .position 4⟩) := by rfl
example : (GearTrain.update 2 exW 0 1).getCommand 0 = some ⟨9, .position 2⟩ :=
  (gear_relays_newest 2 exW 0 1 (by decide) (by decide) (by decide)).1
example : gearSide1Wins (exW.getCommand 0) (exW.getCommand 1) = false := by rfl
-- and the other way round (terminal roles swapped: side 1 = terminal 1 wins, side 2 reads 4 * 2)
example : (GearTrain.update 2 exW 1 0).getCommand 0 = some ⟨9, .position 8⟩ :=
  (gear_relays_newest 2 exW 1 0 (by decide) (by decide) (by decide)).2
/-- why `hext1`/`hext2` are there: a gear train whose own two terminals are connected to each other (a degenerate wiring).
Terminal 1 holds ⟨5, position 4⟩; both terminals read it (a tie), side 1 "wins", slot 1 is overwritten with 4·2 and
terminal 0 — which has no slot of its own — now reads 8 instead of the 4 it read before. -/
def exLoop : World Int := ⟨2, fun
  | 0 => ⟨none, none, some 1⟩
  | 1 => ⟨none, some ⟨5, .position 4⟩, some 0⟩
  | _ => World.freshTerm⟩
example : (GearTrain.update 2 exLoop 0 1).getCommand 0 = some ⟨5, .position 8⟩ ∧
    (gearReads 2 (exLoop.getCommand 0) (exLoop.getCommand 1)).1 = some ⟨5, .position 4⟩ := ⟨rfl, rfl⟩
-- axle over three terminals, one of which sees nothing
example : newestOf ([0, 4, 1].map exW.getCommand) = some ⟨9, .position 4⟩ := by rfl
example : (Axle.update exW [0, 4, 1]).getCommand 4 = some ⟨9, .position 4⟩ :=
  axle_relays_newest exW [0, 4, 1] 4 (by decide)
-- ties: the first of the newest wins
example : newestOf [some (⟨5, 1⟩ : Datum Int), none, some ⟨9, 2⟩, some ⟨9, 3⟩] = some ⟨9, 2⟩ := by decide
-- the distinct-timestamps hypothesis of `newestOf_unique_of_distinct` on a concrete list of reads
example : ∀ x y, some x ∈ [some (⟨5, 1⟩ : Datum Int), none, some ⟨9, 2⟩] → some y ∈ [some (⟨5, 1⟩ : Datum Int), none, some ⟨9, 2⟩] →
    x.time = y.time → x = y := by
  intro x y hx hy
  simp only [List.mem_cons, Option.some.injEq, List.mem_nil_iff, or_false, reduceCtorEq, false_or] at hx hy
  rcases hx with rfl | rfl <;> rcases hy with rfl | rfl <;> decide
-- terminal 2 meets the hypotheses of `World.getCommand_eq_own`: a command of its own, none at its partner
example : (exW.t 2).command = some ⟨5, .velocity 3⟩ ∧ exW.partnerCommand 2 = none := ⟨rfl, rfl⟩
-- differential: commands stay
example : (Differential.update .equal exW 0 1 4).getCommand 0 = some ⟨5, .velocity 3⟩ := by rfl

/-- a chain: inverter (0→1), gear train ×3 (2→3), axle over {4,5,6} (4→5); links 1–2 and 3–4; a velocity command
issued at time 5 on terminal 0 -/
def exC : World Int := ⟨7, fun
  | 0 => ⟨none, some ⟨5, .velocity 7⟩, none⟩
  | 1 => ⟨none, none, some 2⟩
  | 2 => ⟨none, none, some 1⟩
  | 3 => ⟨none, none, some 4⟩
  | 4 => ⟨none, none, some 3⟩
  | _ => World.freshTerm⟩
def exDevs : List (Dev1 Int) := [.gear 3 2 3, .axle [4, 5, 6] 4 5]

example : (runChain exC (.inv 0 1 :: exDevs)).getCommand 5 = some ⟨5, .velocity (-21)⟩ :=
  chain_relays_fresh (.inv 0 1) exDevs exC ⟨5, .velocity 7⟩
    (by simp only [ChainOK, exDevs, Dev1.WF]; decide) rfl
    (fun j hj => by
      simp only [Dev1.fst] at hj
      match j, hj with
      | 1, _ | 2, _ | 3, _ | 4, _ => rfl
      | (n + 5), _ => rfl)
    (by decide)
end Examples

end Rrtk.Thm.C13
