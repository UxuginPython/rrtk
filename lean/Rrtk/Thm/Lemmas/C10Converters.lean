/-
C10, the to-state converters tied to the SAME trapezoid sums and backward differences as the integral / derivative streams.

`a2s_eq_spec`, `v2s_eq_spec`, `p2s_eq_spec` (Thm/C10.lean) describe what the converters report by specifications that repeat the
converters' own recursions.  Here the reported numbers are related to `trapSpec` and `backdiffSpec`, the specifications of
`IntegralStream` and `DerivativeStream`.  The difference clauses hold at tier S: the converters' terms are literally those of
`backdiffSpec`.  The trapezoid clauses need exact arithmetic (tier R): the integral stream computes one trapezoid as
`dt * (p + o) / 2` and adds it in front (`addend + sum`), the converters compute `(p + o) / 2 * dt` and add it behind; both are the
area under the run (`trapRev_area`, `trapRunRev_area`, `a2sPosRev_area`), but the terms differ — the last `example` of this file
exhibits a scalar without laws on which the numbers differ.
-/
import Rrtk.Thm.C10
namespace Rrtk.Thm.C10
open Rrtk

/-! ## tier S: the difference clauses, and what exists whenever a converter reports -/
section S
variable {F : Type} [Add F] [Sub F] [Mul F] [Div F] [Neg F] [LT F] [LE F] [BEq F]
  [DecidableLT F] [DecidableLE F] [FloatLike F]

/-- **VelocityToState, acceleration = backward difference (tier S, bit-exact).**  Whenever the converter reports a state,
its acceleration is the value of `backdiffSpec` — the derivative stream's specification — on the run of present samples
since the last error, with the same time. -/
theorem v2s_acc_eq_backdiff (chk : Bool) (evs : List (Output (Quantity F))) (s : Option (V2sU0 F))
    (h : runE (V2s.step chk) V2s.init evs = .ok s) (d : Datum (State F))
    (hg : V2s.get chk s = .ok (.ok (some d))) :
    ∃ r, backdiffSpec chk (lastRunIgnoringAbsent evs) = .ok (some r) ∧
      d.value.acceleration = r.value.value ∧ d.time = r.time := by
  obtain ⟨o, p, rest, pos, acc, hrr, -, hacc, rfl⟩ := v2s_get_some chk evs s h d hg
  exact ⟨⟨o.time, acc⟩, by rw [backdiffSpec, hrr, backdiffRev_cons₂, hacc]; rfl, rfl, rfl⟩

/-- **PositionToState = backward differences applied once and twice (tier S, bit-exact).**  Whenever the converter
reports a state, with `run` the present samples since the last error:
* `v1`, the reported velocity, is `backdiffSpec run` (the derivative stream's specification; time = newest sample's);
* `v0 = backdiffSpec` of the run without its newest sample is the velocity one sample earlier;
* the reported acceleration is `backdiffSpec` of the two-sample velocity run `[v0, v1]` — the same difference quotient
  applied to the velocities, over the same time step;
* the reported position is the newest sample. -/
theorem p2s_eq_backdiff_twice (chk : Bool) (evs : List (Output (Quantity F))) (s : Option (P2sU0 F))
    (h : runE (P2s.step chk) P2s.init evs = .ok s) (d : Datum (State F))
    (hg : P2s.get chk s = .ok (.ok (some d))) :
    ∃ v0 v1 a dn, (lastRunIgnoringAbsent evs).getLast? = some dn ∧
      backdiffSpec chk (lastRunIgnoringAbsent evs).dropLast = .ok (some v0) ∧
      backdiffSpec chk (lastRunIgnoringAbsent evs) = .ok (some v1) ∧
      backdiffSpec chk [v0, v1] = .ok (some a) ∧
      d.value.position = dn.value.value ∧ d.value.velocity = v1.value.value ∧
      d.value.acceleration = a.value.value ∧ d.time = dn.time ∧ v1.time = dn.time ∧ a.time = dn.time := by
  obtain ⟨o, p, q, rest, v0, v1, acc, hrr, hv0, hv1, hacc, rfl⟩ := p2s_get_some chk evs s h d hg
  have hlast : (lastRunIgnoringAbsent evs).getLast? = some o := by
    rw [← List.head?_reverse, hrr]; rfl
  have hdl : (lastRunIgnoringAbsent evs).dropLast.reverse = p :: q :: rest := by
    rw [← List.tail_reverse, hrr]; rfl
  refine ⟨⟨p.time, v0⟩, ⟨o.time, v1⟩, ⟨o.time, acc⟩, o, hlast, ?_, ?_, ?_, rfl, rfl, rfl, rfl, rfl, rfl⟩
  · rw [backdiffSpec, hdl, backdiffRev_cons₂, hv0]; rfl
  · rw [backdiffSpec, hrr, backdiffRev_cons₂, hv1]; rfl
  · -- the quotient of the two velocities over the same step is `backdiffQ` of the velocity samples
    have : backdiffQ chk ⟨o.time, v1⟩ ⟨p.time, v0⟩ = .ok acc := hacc
    simp only [backdiffSpec, List.reverse_cons, List.reverse_nil, List.nil_append, List.cons_append, backdiffRev_cons₂,
      this]
    rfl

/-! ### the run of running trapezoid sums (what the integral stream shows along a run) -/

/-- `vr` is the run of values the integral stream shows along the run `run` (both oldest first): one datum per sample
from the second on, the `i`-th being the trapezoidal sum `trapSpec` of the first `i + 2` samples of `run` -/
def IsTrapRun (chk : Bool) (run vr : List (Datum (Quantity F))) : Prop :=
  vr.length = run.length - 1 ∧
    ∀ (i : Nat) (hi : i < vr.length), trapSpec chk (run.take (i + 2)) = .ok (some vr[i])

/-- proof device: the same run computed newest-first (`trapRev` of every suffix with at least two samples) -/
def trapRunsRev (chk : Bool) : List (Datum (Quantity F)) → Except Panic (List (Datum (Quantity F)))
  | [] => .ok []
  | [_] => .ok []
  | o :: p :: rest =>
    match trapRev chk (o :: p :: rest) with
    | .error e => .error e
    | .ok none => .ok []
    | .ok (some r) =>
      match trapRunsRev chk (p :: rest) with
      | .error e => .error e
      | .ok l => .ok (r :: l)

theorem trapRunsRev_cons (chk : Bool) (o p : Datum (Quantity F)) (rest l : List (Datum (Quantity F)))
    (h : trapRunsRev chk (o :: p :: rest) = .ok l) :
    ∃ v l', trapRev chk (o :: p :: rest) = .ok (some ⟨o.time, v⟩) ∧ trapRunsRev chk (p :: rest) = .ok l' ∧
      l = ⟨o.time, v⟩ :: l' := by
  rw [trapRunsRev] at h
  cases hr : trapRev chk (o :: p :: rest) with
  | error e => rw [hr] at h; cases h
  | ok r =>
    obtain ⟨v, rfl⟩ := trapRev_cons₂_ok chk o p rest r hr
    rw [hr] at h
    cases hl' : trapRunsRev chk (p :: rest) with
    | error e => simp only [hl'] at h; cases h
    | ok l' => simp only [hl'] at h; cases h; exact ⟨v, l', rfl, rfl, rfl⟩

theorem trapRunsRev_spec (chk : Bool) : ∀ (rr l : List (Datum (Quantity F))), trapRunsRev chk rr = .ok l →
    l.length = rr.length - 1 ∧ ∀ (i : Nat) (hi : i < l.length), trapRev chk (rr.drop i) = .ok (some l[i])
  | [], l, h => by cases h; exact ⟨rfl, fun i hi => absurd hi (Nat.not_lt_zero i)⟩
  | [_], l, h => by cases h; exact ⟨rfl, fun i hi => absurd hi (Nat.not_lt_zero i)⟩
  | o :: p :: rest, l, h => by
    obtain ⟨v, l', hr, hl', rfl⟩ := trapRunsRev_cons chk o p rest l h
    obtain ⟨ihlen, ih⟩ := trapRunsRev_spec chk (p :: rest) l' hl'
    refine ⟨congrArg (· + 1) ihlen, ?_⟩
    intro i hi
    cases i with
    | zero => exact hr
    | succ j => exact ih j (Nat.lt_of_succ_lt_succ hi)

theorem isTrapRun_of_rev (chk : Bool) (run l : List (Datum (Quantity F)))
    (h : trapRunsRev chk run.reverse = .ok l) : IsTrapRun chk run l.reverse := by
  obtain ⟨hlen, hidx⟩ := trapRunsRev_spec chk _ l h
  rw [List.length_reverse] at hlen
  refine ⟨by rw [List.length_reverse]; exact hlen, ?_⟩
  intro i hi
  -- `l.reverse[i] = l[l.length - 1 - i]`, the sum over the reversed run without its newest `l.length - 1 - i` samples;
  -- as `l.length = run.length - 1`, what is left is the reverse of the first `i + 2` samples
  have hi' : i < l.length := by simpa using hi
  rw [List.getElem_reverse]
  have hk : l.length - 1 - i < l.length := by omega
  have := hidx (l.length - 1 - i) hk
  rw [trapSpec, List.reverse_take]
  have e : run.length - (i + 2) = l.length - 1 - i := by omega
  rw [e]; exact this

/-! ### existence: whenever the converters' own sums exist, so do the integral stream's -/

theorem accum_units {F : Type} [Add F] [Mul F] [Div F] [FloatLike F] {chk : Bool} {dt a b q : Quantity F} {old : Option (Quantity F)}
    (h : accum chk dt old a b = .ok q) (hc : chk = true) : a.unit = b.unit := by
  obtain ⟨x, hx, -⟩ := Except.bind_eq_ok.1 h
  subst hc
  -- `qHalfTimes` adds `a` and `b` first, and with the check on that addition fails unless the units agree
  simp only [qHalfTimes, Quantity.add_true] at hx
  by_cases hu : a.unit = b.unit
  · exact hu
  · simp [hu] at hx

/-- a running sum that exists has passed every unit check there is -/
theorem trapRunRev_units (chk : Bool) : ∀ (o : Datum (Quantity F)) (rest : List (Datum (Quantity F)))
    (v : Option (Quantity F)), trapRunRev chk (o :: rest) = .ok v → chk = true →
    ∀ d ∈ o :: rest, d.value.unit = o.value.unit
  | o, [], v, _, _ => by intro d hd; simp at hd; rw [hd]
  | o, p :: rest, v, h, hc => by
    rw [trapRunRev_cons₂] at h
    obtain ⟨prev, g1, h⟩ := Except.bind_eq_ok.1 h
    obtain ⟨x, hx, -⟩ := Except.map_eq_ok.1 h
    intro d hd
    rcases List.mem_cons.1 hd with rfl | hd
    · rfl
    · rw [trapRunRev_units chk p rest prev g1 hc d hd, accum_units hx hc]

theorem trapRunsRev_ok (chk : Bool) (u : DUnit) : ∀ (rr : List (Datum (Quantity F))),
    (chk = true → ∀ d ∈ rr, d.value.unit = u) →
    ∃ l, trapRunsRev chk rr = .ok l ∧ (chk = true → ∀ d ∈ l, d.value.unit = ⟨u.mm, u.s + 1⟩)
  | [], _ => ⟨[], rfl, by simp⟩
  | [_], _ => ⟨[], rfl, by simp⟩
  | o :: p :: rest, hall => by
    obtain ⟨r, hr, hru⟩ := trapRev_ok chk u (o :: p :: rest) hall
    obtain ⟨l', hl', hlu⟩ := trapRunsRev_ok chk u (p :: rest) (fun hc d hd => hall hc d (List.mem_cons_of_mem _ hd))
    obtain ⟨v, rfl⟩ := trapRev_cons₂_ok chk o p rest r hr
    refine ⟨⟨o.time, v⟩ :: l', by rw [trapRunsRev, hr]; simp only [hl'], ?_⟩
    intro hc d hd
    rcases List.mem_cons.1 hd with rfl | hd
    · exact hru hc _ rfl
    · exact hlu hc d hd

/-- whenever the converter's running sum of a run exists, the integral stream's specification has a value on the run,
on each of its prefixes (`trapRunsRev`), and on the run of those values: the running sum passed the unit checks
(`trapRunRev_units`), and that is all `trapRev` needs, twice (`trapRev_ok`) -/
theorem trap_exists (chk : Bool) (rr : List (Datum (Quantity F))) (v : Quantity F)
    (h : trapRunRev chk rr = .ok (some v)) :
    ∃ x l r, trapRev chk rr = .ok (some x) ∧ trapRunsRev chk rr = .ok l ∧ trapRev chk l = .ok r := by
  match rr, h with
  | o :: rest, h =>
    have hall := trapRunRev_units chk o rest _ h
    obtain ⟨r0, hr0, -⟩ := trapRev_ok chk o.value.unit (o :: rest) hall
    obtain ⟨l, hl, hlu⟩ := trapRunsRev_ok chk o.value.unit (o :: rest) hall
    obtain ⟨r, hr, -⟩ := trapRev_ok chk _ l hlu
    cases r0 with
    | some x => exact ⟨x, l, r, hr0, hl, hr⟩
    | none =>
      rw [(trapRunRev_none_iff chk _).2 ((trapRev_none_iff chk _).1 hr0)] at h
      cases h

/-- feeding the run of an all-present history to the integral stream shows the run's `trapSpec` -/
theorem integral_get_on_run (chk : Bool) (run : List (Datum (Quantity F))) (dn : Datum (Quantity F))
    (hn : run.getLast? = some dn) (si : DiS F)
    (hi : runE (Integral.step chk) Integral.init (run.map (fun d => (.ok (some d) : Output (Quantity F)))) = .ok si) :
    ∃ r, trapSpec chk run = .ok r ∧ Integral.get si = .ok r := by
  obtain ⟨r, hr, hget⟩ := integral_eq_trapsum chk _ si hi
  rw [lastRun_map_present] at hr
  refine ⟨r, hr, ?_⟩
  rw [hget]
  simp only [expectedGet, List.getLast?_map, hn, Option.map]

end S

/-! ## tier R -/

/-- same times, same numbers (units may differ) -/
def SameSignal {F : Type} (a b : Datum (Quantity F)) : Prop := a.time = b.time ∧ a.value.value = b.value.value

/-- the area only sees times and numbers -/
theorem trapArea_congr {F : Type} [Field F] : ∀ (l l' : List (Datum (Quantity F))),
    List.Forall₂ SameSignal l l' → trapArea l = trapArea l'
  | [], _, h => by cases h; rfl
  | [_], _, h => by cases h with | cons _ h' => cases h'; rfl
  | a :: b :: l, _, h => by
    cases h with
    | cons hab h' =>
      cases h' with
      | cons hbc h'' =>
        rw [trapArea, trapArea, trapArea_congr (b :: l) _ (.cons hbc h''), hab.1, hab.2, hbc.1, hbc.2]

section R
variable {F : Type} [Field F] [LinearOrder F] [IsStrictOrderedRing F] [FloatLike F] [ExactScalar F]

/-- the values the integral stream shows along a run are the run of areas -/
theorem trapRunsRev_velRun (chk : Bool) : ∀ (rr l : List (Datum (Quantity F))), trapRunsRev chk rr = .ok l →
    List.Forall₂ SameSignal l (velRun rr)
  | [], l, h => by cases h; exact .nil
  | [_], l, h => by cases h; exact .nil
  | o :: p :: rest, l, h => by
    obtain ⟨v, l', hr, hl', rfl⟩ := trapRunsRev_cons chk o p rest l h
    exact .cons ⟨rfl, trapRev_area chk _ (some _) hr⟩ (trapRunsRev_velRun chk (p :: rest) l' hl')

/-- **AccelerationToState = the trapezoidal sum applied twice (exact arithmetic).**  Whenever the converter reports a
state, with `run` the present samples since the last error (absent events ignored):
* its velocity is the value of `trapSpec run` — the integral stream's specification (`integral_eq_trapsum`);
* `vr` is the run of those velocities along the run (`IsTrapRun`: `vr[i] = trapSpec` of the first `i + 2` samples, each
  stamped with its sample's time), and its position is the value of `trapSpec vr`: the same sum applied to the velocities;
* its acceleration is the newest sample; all three carry the newest sample's time.
All the specification values exist (no hypothesis about them is needed). -/
theorem a2s_eq_trapsum_twice (chk : Bool) (evs : List (Output (Quantity F))) (s : Option (A2sU0 F))
    (h : runE (A2s.step chk) A2s.init evs = .ok s) (d : Datum (State F))
    (hg : A2s.get chk s = .ok (.ok (some d))) :
    ∃ v x vr dn, (lastRunIgnoringAbsent evs).getLast? = some dn ∧
      trapSpec chk (lastRunIgnoringAbsent evs) = .ok (some v) ∧
      IsTrapRun chk (lastRunIgnoringAbsent evs) vr ∧
      trapSpec chk vr = .ok (some x) ∧
      d.value.velocity = v.value.value ∧ d.value.position = x.value.value ∧
      d.value.acceleration = dn.value.value ∧ d.time = dn.time ∧ v.time = dn.time ∧ x.time = dn.time := by
  obtain ⟨o, p, q, rest, v, x, hrr, hv, hx, rfl⟩ := a2s_get_some chk evs s h d hg
  obtain ⟨xv, l, rz, hxv, hl, hrz⟩ := trap_exists chk _ v hv
  have hlast : (lastRunIgnoringAbsent evs).getLast? = some o := by
    rw [← List.head?_reverse, hrr]; rfl
  have hrun := isTrapRun_of_rev chk (lastRunIgnoringAbsent evs) l (hrr ▸ hl)
  -- three samples give two sums along the run, so the sum of the sums has a value; all are stamped with `o.time`
  obtain ⟨v1, l', hr1, hl', rfl⟩ := trapRunsRev_cons chk o p (q :: rest) l hl
  obtain ⟨v0, l'', _, _, rfl⟩ := trapRunsRev_cons chk p q rest l' hl'
  obtain ⟨z, rfl⟩ := trapRev_cons₂_ok chk _ _ l'' rz hrz
  rw [hr1] at hxv; cases hxv
  refine ⟨⟨o.time, v1⟩, ⟨o.time, z⟩, _, o, hlast, by rw [trapSpec, hrr]; exact hr1, hrun, ?_, ?_, ?_, rfl, rfl, rfl, rfl⟩
  · rw [trapSpec, List.reverse_reverse]; exact hrz
  · exact (trapRunRev_area chk _ (some v) hv).trans (trapRev_area chk _ (some _) hr1).symm
  · exact (a2sPosRev_area chk _ (some x) hx).trans
      ((trapRev_area chk _ (some _) hrz).trans (trapArea_congr _ _ (trapRunsRev_velRun chk _ _ hl))).symm

/-- **VelocityToState, position = trapezoidal sum (exact arithmetic).**  Whenever the converter reports a state, its
position is the value of `trapSpec` — the integral stream's specification — on the run of present samples since the last
error, with the same time (and the value exists). -/
theorem v2s_pos_eq_trapsum (chk : Bool) (evs : List (Output (Quantity F))) (s : Option (V2sU0 F))
    (h : runE (V2s.step chk) V2s.init evs = .ok s) (d : Datum (State F))
    (hg : V2s.get chk s = .ok (.ok (some d))) :
    ∃ x, trapSpec chk (lastRunIgnoringAbsent evs) = .ok (some x) ∧
      d.value.position = x.value.value ∧ d.time = x.time := by
  obtain ⟨o, p, rest, pos, acc, hrr, hpos, -, rfl⟩ := v2s_get_some chk evs s h d hg
  rw [← hrr] at hpos
  obtain ⟨x, _, _, hx, _, _⟩ := trap_exists chk _ pos hpos
  refine ⟨x, hx, (trapRunRev_area chk _ (some pos) hpos).trans (trapRev_area chk _ (some x) hx).symm, ?_⟩
  rw [hrr] at hx
  obtain ⟨v, hv⟩ := trapRev_cons₂_ok chk o p rest _ hx
  cases hv; rfl

/-! ### the same, against the integral stream itself -/

/-- **AccelerationToState velocity = what `IntegralStream` shows on the same samples** (exact arithmetic): run the
integral stream (`Integral.step`) over the present samples since the last error; if it does not panic, it shows the velocity
the converter reports, at the same time. -/
theorem a2s_vel_eq_integral_stream (chk : Bool) (evs : List (Output (Quantity F))) (s : Option (A2sU0 F))
    (h : runE (A2s.step chk) A2s.init evs = .ok s) (d : Datum (State F))
    (hg : A2s.get chk s = .ok (.ok (some d))) (si : DiS F)
    (hi : runE (Integral.step chk) Integral.init
      ((lastRunIgnoringAbsent evs).map (fun d => (.ok (some d) : Output (Quantity F)))) = .ok si) :
    ∃ r, Integral.get si = .ok (some r) ∧ d.value.velocity = r.value.value ∧ d.time = r.time := by
  obtain ⟨v, x, vr, dn, hn, hv, _, _, e1, _, _, e2, e3, _⟩ := a2s_eq_trapsum_twice chk evs s h d hg
  obtain ⟨r, hr, hget⟩ := integral_get_on_run chk _ dn hn si hi
  rw [hv] at hr; cases hr
  exact ⟨v, hget, e1, by rw [e2, e3]⟩

/-- **VelocityToState position = what `IntegralStream` shows on the same samples** (exact arithmetic) -/
theorem v2s_pos_eq_integral_stream (chk : Bool) (evs : List (Output (Quantity F))) (s : Option (V2sU0 F))
    (h : runE (V2s.step chk) V2s.init evs = .ok s) (d : Datum (State F))
    (hg : V2s.get chk s = .ok (.ok (some d))) (si : DiS F)
    (hi : runE (Integral.step chk) Integral.init
      ((lastRunIgnoringAbsent evs).map (fun d => (.ok (some d) : Output (Quantity F)))) = .ok si) :
    ∃ r, Integral.get si = .ok (some r) ∧ d.value.position = r.value.value ∧ d.time = r.time := by
  obtain ⟨x, hx, e1, e2⟩ := v2s_pos_eq_trapsum chk evs s h d hg
  obtain ⟨dn, hn, _, _⟩ := v2s_vel_newest chk evs s h d hg
  obtain ⟨r, hr, hget⟩ := integral_get_on_run chk _ dn hn si hi
  rw [hx] at hr; cases hr
  exact ⟨x, hget, e1, e2⟩

/-! ### sanity corollaries -/

/-- the difference quotient of a quadratic is its derivative at the midpoint (of a linear function: its slope) -/
theorem first_diff_alg {F : Type} [Field F] (a v x0 Tp To : F) (hne : To - Tp ≠ 0) :
    (a * To ^ 2 / 2 + v * To + x0 - (a * Tp ^ 2 / 2 + v * Tp + x0)) / (To - Tp) = a * ((Tp + To) / 2) + v := by
  rw [show a * To ^ 2 / 2 + v * To + x0 - (a * Tp ^ 2 / 2 + v * Tp + x0) = (To - Tp) * (a * ((Tp + To) / 2) + v) by ring,
    mul_div_cancel_left₀ _ hne]

/-- over two equal steps the second difference quotient of a quadratic is its leading coefficient: the two first
quotients are the derivatives at the two midpoints (`first_diff_alg`), one step apart -/
theorem second_diff_alg {F : Type} [Field F] [LinearOrder F] [IsStrictOrderedRing F] (a v x0 Tq Tp To : F)
    (hstep : Tp - Tq = To - Tp) (hne : To - Tp ≠ 0) :
    ((a * To ^ 2 / 2 + v * To + x0 - (a * Tp ^ 2 / 2 + v * Tp + x0)) / (To - Tp) -
      (a * Tp ^ 2 / 2 + v * Tp + x0 - (a * Tq ^ 2 / 2 + v * Tq + x0)) / (Tp - Tq)) / (To - Tp) = a := by
  rw [first_diff_alg a v x0 Tp To hne, first_diff_alg a v x0 Tq Tp (hstep ▸ hne),
    show a * ((Tp + To) / 2) + v - (a * ((Tq + Tp) / 2) + v) = a * ((To - Tp + (Tp - Tq)) / 2) by ring, hstep,
    show a * ((To - Tp + (To - Tp)) / 2) = a * (To - Tp) by ring, mul_div_cancel_right₀ _ hne]

/-- **Second difference of a quadratic is its second derivative.**  If the last three present samples (since the last
error) are equally spaced in time and lie on `x(t) = a·t²/2 + v·t + x₀` (`t` in seconds = ns/10⁹), `PositionToState`
reports acceleration exactly `a` (and velocity `x'` at the midpoint of the last step, position the newest sample) —
whatever came before.  A first-difference-of-first-differences with unequal bookkeeping of the two steps, or a division
by the wrong step, would not. -/
theorem second_diff_quadratic (chk : Bool) (a v x0 : F) (evs : List (Output (Quantity F))) (s : Option (P2sU0 F))
    (h : runE (P2s.step chk) P2s.init evs = .ok s) (d : Datum (State F))
    (hg : P2s.get chk s = .ok (.ok (some d)))
    (pre : List (Datum (Quantity F))) (q p o : Datum (Quantity F))
    (hrun : lastRunIgnoringAbsent evs = pre ++ [q, p, o])
    (hstep : p.time - q.time = o.time - p.time) (hne : o.time ≠ p.time)
    (hq : q.value.value = a * ((q.time : F) / 1000000000) ^ 2 / 2 + v * ((q.time : F) / 1000000000) + x0)
    (hp : p.value.value = a * ((p.time : F) / 1000000000) ^ 2 / 2 + v * ((p.time : F) / 1000000000) + x0)
    (ho : o.value.value = a * ((o.time : F) / 1000000000) ^ 2 / 2 + v * ((o.time : F) / 1000000000) + x0) :
    d.value.acceleration = a ∧
    d.value.velocity = a * ((((p.time : F) / 1000000000) + ((o.time : F) / 1000000000)) / 2) + v ∧
    d.value.position = o.value.value ∧ d.time = o.time := by
  obtain ⟨o', p', q', rest, w0, w1, acc, hrr, hw0, hw1, hacc, rfl⟩ := p2s_get_some chk evs s h d hg
  rw [hrun] at hrr
  simp only [List.reverse_append, List.reverse_cons, List.reverse_nil, List.nil_append, List.cons_append,
    List.cons.injEq] at hrr
  obtain ⟨rfl, rfl, rfl, _⟩ := hrr
  -- everything in seconds, `T = t / 10⁹`: the three quotients the converter formed
  have e0 := diffQ_value chk _ _ _ w0 hw0
  have e1 := diffQ_value chk _ _ _ w1 hw1
  have eacc := diffQ_value chk _ _ _ acc hacc
  rw [ofTime_value] at e0 e1 eacc
  have hne' : (sec o.time : F) - sec p.time ≠ 0 := fun h0 => hne (sec_inj (sub_eq_zero.1 h0))
  have hstep' : (sec p.time : F) - sec q.time = sec o.time - sec p.time := by
    rw [← cast_sub_div_e9, ← cast_sub_div_e9, hstep]
  refine ⟨?_, ?_, rfl, rfl⟩
  · show acc.value = a
    rw [eacc, e1, e0, ho, hp, hq]
    exact second_diff_alg a v x0 _ _ _ hstep' hne'
  · show w1.value = _
    rw [e1, ho, hp]
    exact first_diff_alg a v x0 _ _ hne'

theorem trapArea_const (a : F) (tl : List (Datum (Quantity F))) (o l : Datum (Quantity F))
    (hc : ∀ d ∈ o :: tl, d.value.value = a) (hl : (o :: tl).getLast? = some l) :
    trapArea (o :: tl) = a * (sec o.time - sec l.time) := by
  rw [trapArea_linear 0 a tl o l (fun d hd => by rw [hc d hd]; ring) hl, hc o (by simp),
    hc l (List.mem_of_getLast? hl)]
  ring

theorem getLast?_cons_snoc₂ {α : Type} (x : α) (f : List α) (d1 d0 : α) : (x :: (f ++ [d1, d0])).getLast? = some d0 :=
  List.getLast?_eq_some_iff.2 ⟨x :: (f ++ [d1]), by simp⟩

/-- area under the run of areas of a constant signal `a` (newest first `o, …, d1, d0`): the run of areas is the linear
signal `a·(T − T₀)`, from `T₁` to the newest time -/
theorem trapArea_velRun_const (a : F) (d1 d0 : Datum (Quantity F)) :
    ∀ (f : List (Datum (Quantity F))) (o : Datum (Quantity F)),
    (∀ d ∈ o :: (f ++ [d1, d0]), d.value.value = a) →
    trapArea (velRun (o :: (f ++ [d1, d0]))) =
      a / 2 * ((sec o.time - sec d0.time) ^ 2 - (sec d1.time - sec d0.time) ^ 2)
  | [], o, hc => by
    simp only [List.nil_append, velRun, trapArea, hc o (by simp), hc d1 (by simp), hc d0 (by simp)]
    ring
  | p :: f, o, hc => by
    rw [List.cons_append] at hc ⊢
    have hc' : ∀ d ∈ p :: (f ++ [d1, d0]), d.value.value = a := fun d hd => hc d (List.mem_cons_of_mem _ hd)
    rw [velRun_cons₂, trapArea_cons_of_head? _ _ _ (velRun_head? p _ (by simp)),
      trapArea_velRun_const a d1 d0 f p hc']
    rw [trapArea_const a _ o d0 hc (getLast?_cons_snoc₂ o (p :: f) d1 d0),
      trapArea_const a _ p d0 hc' (getLast?_cons_snoc₂ p f d1 d0)]
    ring

/-- **Constant acceleration: exact velocity and position.**  If every present sample since the last error carries the
same acceleration `a` (at arbitrary times `t₀, t₁, …, tₙ`, `T = t/10⁹` seconds), `AccelerationToState` reports
acceleration `a`, velocity `a·(Tₙ − T₀)` and position `a/2·((Tₙ − T₀)² − (T₁ − T₀)²)` — the exact integrals of the
motion that starts from rest at `t₀`, the position being counted from the second sample `t₁` (the first moment a
velocity exists). -/
theorem a2s_const_acc_exact (chk : Bool) (a : F) (evs : List (Output (Quantity F))) (s : Option (A2sU0 F))
    (h : runE (A2s.step chk) A2s.init evs = .ok s) (d : Datum (State F))
    (hg : A2s.get chk s = .ok (.ok (some d)))
    (hconst : ∀ e ∈ lastRunIgnoringAbsent evs, e.value.value = a)
    (d0 d1 dn : Datum (Quantity F)) (rest : List (Datum (Quantity F)))
    (hrun : lastRunIgnoringAbsent evs = d0 :: d1 :: rest) (hn : (lastRunIgnoringAbsent evs).getLast? = some dn) :
    d.value.acceleration = a ∧
    d.value.velocity = a * (((dn.time - d0.time : Int) : F) / 1000000000) ∧
    d.value.position = a / 2 * ((((dn.time - d0.time : Int) : F) / 1000000000) ^ 2 -
      (((d1.time - d0.time : Int) : F) / 1000000000) ^ 2) ∧
    d.time = dn.time := by
  obtain ⟨o, p, q, tl, v, x, hrr, hv, hx, rfl⟩ := a2s_get_some chk evs s h d hg
  rw [← hrr] at hv hx
  have hc : ∀ e ∈ (lastRunIgnoringAbsent evs).reverse, e.value.value = a := fun e he => hconst e (List.mem_reverse.1 he)
  -- newest first the run is `rest.reverse ++ [d1, d0]`, and it has three samples, so `rest.reverse = dn :: f`
  have hrev : (lastRunIgnoringAbsent evs).reverse = rest.reverse ++ [d1, d0] := by
    rw [hrun, List.reverse_cons, List.reverse_cons, List.append_assoc]; rfl
  rw [← List.head?_reverse] at hn
  rw [hrev] at hrr hv hx hc hn
  cases hf : rest.reverse with
  | nil => rw [hf] at hrr; cases hrr
  | cons o' f =>
    rw [hf, List.cons_append] at hrr hv hx hc hn
    cases hn
    cases List.head_eq_of_cons_eq hrr
    simp only [cast_sub_div_e9]
    exact ⟨hc _ (by simp), (trapRunRev_area chk _ (some v) hv).trans (trapArea_const a _ _ d0 hc (getLast?_cons_snoc₂ _ f d1 d0)),
      (a2sPosRev_area chk _ (some x) hx).trans (trapArea_velRun_const a d1 d0 f _ hc), trivial⟩

end R

/-! ## non-vacuity (`ℚ` payloads), and the tier-S counterexample for the trapezoid clauses -/
section Examples
private def MMq : DUnit := ⟨1, 0⟩
private def MMSq : DUnit := ⟨1, -1⟩
private def MMS2q : DUnit := ⟨1, -2⟩

/-- constant acceleration 2 mm/s² at 1, 2, 4, 5 s after an error event (an absent event in between is ignored) -/
private def histAq : List (Output (Quantity ℚ)) :=
  [.ok (some ⟨0, ⟨7, MMS2q⟩⟩), .error (.other 1), .ok (some ⟨1000000000, ⟨2, MMS2q⟩⟩), .ok none,
   .ok (some ⟨2000000000, ⟨2, MMS2q⟩⟩), .ok (some ⟨4000000000, ⟨2, MMS2q⟩⟩), .ok (some ⟨5000000000, ⟨2, MMS2q⟩⟩)]
private theorem histAq_run : lastRunIgnoringAbsent histAq =
    [⟨1000000000, ⟨2, MMS2q⟩⟩, ⟨2000000000, ⟨2, MMS2q⟩⟩, ⟨4000000000, ⟨2, MMS2q⟩⟩, ⟨5000000000, ⟨2, MMS2q⟩⟩] := rfl

/-- the hypotheses of `a2s_eq_trapsum_twice`, `a2s_acc_newest`, `a2s_const_acc_exact` hold for it (dimension checking
on), the integral stream runs on the same samples (`a2s_vel_eq_integral_stream`), and the theorem gives
velocity 2·(5 − 1) = 8 mm/s, position 2/2·(4² − 1²) = 15 mm -/
example : ∃ s d, runE (A2s.step true) A2s.init histAq = .ok s ∧ A2s.get true s = .ok (.ok (some d)) ∧
    (∃ si, runE (Integral.step true) Integral.init
      ((lastRunIgnoringAbsent histAq).map (fun d => (.ok (some d) : Output (Quantity ℚ)))) = .ok si) ∧
    d.value.acceleration = 2 ∧ d.value.velocity = 8 ∧ d.value.position = 15 := by
  -- the theorem first, for whatever the run ends in and reports; the concrete run is evaluated once, at the end
  have key : ∀ s d, runE (A2s.step true) A2s.init histAq = .ok s → A2s.get true s = .ok (.ok (some d)) →
      d.value.acceleration = 2 ∧ d.value.velocity = 8 ∧ d.value.position = 15 := by
    intro s d hs hg
    have hconst : ∀ e ∈ lastRunIgnoringAbsent histAq, e.value.value = 2 := by
      intro e he
      rw [histAq_run] at he
      simp only [List.mem_cons, List.not_mem_nil, or_false] at he
      rcases he with rfl | rfl | rfl | rfl <;> rfl
    obtain ⟨h1, h2, h3, _⟩ := a2s_const_acc_exact true (2 : ℚ) histAq s hs d hg hconst _ _
      ⟨5000000000, ⟨2, MMS2q⟩⟩ _ histAq_run rfl
    exact ⟨h1, by rw [h2]; norm_num, by rw [h3]; norm_num⟩
  exact ⟨_, _, rfl, rfl, ⟨_, rfl⟩, key _ _ rfl rfl⟩

/-- velocity converter: v = 0, 2, 6 mm/s at 0, 1, 3 s: hypotheses of `v2s_acc_eq_backdiff`, `v2s_vel_newest`,
`v2s_pos_eq_trapsum`, `v2s_pos_eq_integral_stream` -/
private def histVq : List (Output (Quantity ℚ)) :=
  [.ok (some ⟨0, ⟨0, MMSq⟩⟩), .ok (some ⟨1000000000, ⟨2, MMSq⟩⟩), .ok none, .ok (some ⟨3000000000, ⟨6, MMSq⟩⟩)]
example : ∃ s d, runE (V2s.step true) V2s.init histVq = .ok s ∧ V2s.get true s = .ok (.ok (some d)) ∧
    ∃ si, runE (Integral.step true) Integral.init
      ((lastRunIgnoringAbsent histVq).map (fun d => (.ok (some d) : Output (Quantity ℚ)))) = .ok si :=
  ⟨_, _, rfl, rfl, _, rfl⟩

/-- position converter on `x(t) = 3t²/2 + 2t + 1` at 1, 2, 3 s (after an error event; an absent event in between):
hypotheses of `p2s_eq_backdiff_twice`, `p2s_pos_newest`, `second_diff_quadratic`; the theorem gives acceleration 3 and
velocity 3·(2 + 3)/2 + 2 = 19/2 -/
private def histPq : List (Output (Quantity ℚ)) :=
  [.ok (some ⟨0, ⟨7, MMq⟩⟩), .error (.other 2), .ok (some ⟨1000000000, ⟨9 / 2, MMq⟩⟩),
   .ok (some ⟨2000000000, ⟨11, MMq⟩⟩), .ok none, .ok (some ⟨3000000000, ⟨41 / 2, MMq⟩⟩)]
example : ∃ s d, runE (P2s.step true) P2s.init histPq = .ok s ∧ P2s.get true s = .ok (.ok (some d)) ∧
    d.value.acceleration = 3 ∧ d.value.velocity = 19 / 2 := by
  have key : ∀ s d, runE (P2s.step true) P2s.init histPq = .ok s → P2s.get true s = .ok (.ok (some d)) →
      d.value.acceleration = 3 ∧ d.value.velocity = 19 / 2 := by
    intro s d hs hg
    obtain ⟨h1, h2, _, _⟩ := second_diff_quadratic true (3 : ℚ) 2 1 histPq s hs d hg []
      ⟨1000000000, ⟨9 / 2, MMq⟩⟩ ⟨2000000000, ⟨11, MMq⟩⟩ ⟨3000000000, ⟨41 / 2, MMq⟩⟩ rfl (by decide) (by decide)
      (by norm_num) (by norm_num) (by norm_num)
    exact ⟨h1, by rw [h2]; norm_num⟩
  exact ⟨_, _, rfl, rfl, key _ _ rfl rfl⟩
end Examples

section TierS
/-- an integer "scalar" (truncating division; no field laws), only to evaluate the examples below -/
local instance : FloatLike Int := ⟨id, id, fun _ _ => 1, fun x => (x.natAbs : Int)⟩

/-- `IsTrapRun` on a concrete run: accelerations 2, 2, 4 mm/s² at 0, 1, 3 s; the integral stream shows 2 mm/s at 1 s
and 2 + 6 = 8 mm/s at 3 s -/
example : IsTrapRun true
    [(⟨0, ⟨2, ⟨1, -2⟩⟩⟩ : Datum (Quantity Int)), ⟨1000000000, ⟨2, ⟨1, -2⟩⟩⟩, ⟨3000000000, ⟨4, ⟨1, -2⟩⟩⟩]
    [⟨1000000000, ⟨2, ⟨1, -1⟩⟩⟩, ⟨3000000000, ⟨8, ⟨1, -1⟩⟩⟩] := by
  refine ⟨rfl, ?_⟩
  intro i hi
  match i, hi with
  | 0, _ => rfl
  | 1, _ => rfl

/-- **The trapezoid clauses are false at tier S** (a scalar without laws): the integral stream computes a trapezoid as
`dt * (p + o) / 2`, the converters as `(p + o) / 2 * dt`.  With truncating integer division and accelerations 0, 1, 1 at
0, 2, 4 s the converter reports velocity `(0+1)/2*2 + (1+1)/2*2 = 0 + 2 = 2` while the integral stream's specification
gives `2*(1+1)/2 + 2*(0+1)/2 = 2 + 1 = 3`.  (In binary32 the two orders agree as long as every intermediate result stays
in the normal range; below it they can differ in the last bit: `p + o = 0x01000001`, `dt = 0.625` gives `0x00500000` and
`0x00500001`.)  The difference clauses, in contrast, hold at tier S (`v2s_acc_eq_backdiff`,
`p2s_eq_backdiff_twice`). -/
example : ∃ s d x, runE (A2s.step false) A2s.init
      [(.ok (some ⟨0, ⟨0, ⟨0, 0⟩⟩⟩) : Output (Quantity Int)), .ok (some ⟨2000000000, ⟨1, ⟨0, 0⟩⟩⟩),
        .ok (some ⟨4000000000, ⟨1, ⟨0, 0⟩⟩⟩)] = .ok s ∧
    A2s.get false s = .ok (.ok (some d)) ∧
    trapSpec false [(⟨0, ⟨0, ⟨0, 0⟩⟩⟩ : Datum (Quantity Int)), ⟨2000000000, ⟨1, ⟨0, 0⟩⟩⟩, ⟨4000000000, ⟨1, ⟨0, 0⟩⟩⟩]
      = .ok (some x) ∧
    d.value.velocity = 2 ∧ x.value.value = 3 := ⟨_, _, _, rfl, rfl, rfl, rfl, rfl⟩
end TierS

end Rrtk.Thm.C10
