/-
Where the model's unbounded `Int` clock arithmetic IS the crate's `i64` arithmetic (DESIGN §12: "timestamps are unbounded `Int` where the
code computes in `i64`": expirer age, PID / derivative / integral `dt`, moving-average cut all compute `now - earlier` on `Time`).
`I64.add/sub/neg/mul` (`Rrtk/Dim.lean`) are the debug-build `i64` operators (overflow panics).  The theorems give the exact boundary:
an operation panics iff the exact result leaves `i64`, otherwise it is the `Int` operation; and the ranges the stream models rely on
(differences of clocks of one sign, clocks of magnitude below 2^62 — the C18 quantifier) never reach that boundary.  Core-only: the
one-directional forms `add_exact`, `add_sound`, … of `Thm/C18.lean` (same namespace) are not imported.
-/
import Rrtk.Thm.Lemmas.Dim
namespace Rrtk.Thm.C18
open Rrtk

theorem i64_add_exact_iff (a b : Int) : I64.add a b = .ok (a + b) ↔ inI64 (a + b) :=
  (chkI64_ok_iff _ _).trans (and_iff_right rfl)
theorem i64_sub_exact_iff (a b : Int) : I64.sub a b = .ok (a - b) ↔ inI64 (a - b) :=
  (chkI64_ok_iff _ _).trans (and_iff_right rfl)
theorem i64_mul_exact_iff (a b : Int) : I64.mul a b = .ok (a * b) ↔ inI64 (a * b) :=
  (chkI64_ok_iff _ _).trans (and_iff_right rfl)
theorem i64_neg_exact_iff (a : Int) : I64.neg a = .ok (-a) ↔ inI64 (-a) :=
  (chkI64_ok_iff _ _).trans (and_iff_right rfl)

/-- the only other outcome is the overflow panic: an `i64` operator never returns a wrong number in a debug build -/
theorem i64_add_panics_iff (a b : Int) : I64.add a b = .error .overflow ↔ ¬ inI64 (a + b) := chkI64_overflow_iff _
theorem i64_sub_panics_iff (a b : Int) : I64.sub a b = .error .overflow ↔ ¬ inI64 (a - b) := chkI64_overflow_iff _
theorem i64_mul_panics_iff (a b : Int) : I64.mul a b = .error .overflow ↔ ¬ inI64 (a * b) := chkI64_overflow_iff _

/-- `dt = now - earlier` of two representable clocks of the SAME sign is representable: a monotone clock that starts at a non-negative
instant (every clock of the stream properties) can never overflow the `dt`, age or window-cut subtraction, whatever its magnitude. -/
theorem i64_sub_same_sign (a b : Int) (ha : inI64 a) (hb : inI64 b) (hs : (0 ≤ a ∧ 0 ≤ b) ∨ (a < 0 ∧ b < 0)) :
    I64.sub a b = .ok (a - b) := by
  rw [i64_sub_exact_iff]; unfold inI64 at *; omega

/-- clocks of either sign with magnitude below 2^62 (the C18 quantifier): sums and differences are representable -/
theorem i64_sub_within62 (a b : Int) (ha : -4611686018427387904 ≤ a ∧ a < 4611686018427387904)
    (hb : -4611686018427387904 ≤ b ∧ b < 4611686018427387904) : I64.sub a b = .ok (a - b) := by
  rw [i64_sub_exact_iff]; unfold inI64; omega
theorem i64_add_within62 (a b : Int) (ha : -4611686018427387904 ≤ a ∧ a < 4611686018427387904)
    (hb : -4611686018427387904 ≤ b ∧ b < 4611686018427387904) : I64.add a b = .ok (a + b) := by
  rw [i64_add_exact_iff]; unfold inI64; omega

/-- the bound is sharp at the top: `2^62 - (-2^62) = 2^63` is the first difference that panics -/
theorem i64_sub_sharp : I64.sub 4611686018427387904 (-4611686018427387904) = .error .overflow := by
  rw [i64_sub_panics_iff]; unfold inI64; omega

/-- mixed signs CAN overflow with representable operands (so `i64_sub_same_sign`'s hypothesis is needed): `MAX - (-1)` -/
theorem i64_sub_mixed_sign_overflows : I64.sub 9223372036854775807 (-1) = .error .overflow := by
  rw [i64_sub_panics_iff]; unfold inI64; omega

/-- negation fails only at `i64::MIN` -/
theorem i64_neg_panics_iff (a : Int) (ha : inI64 a) : I64.neg a = .error .overflow ↔ a = -9223372036854775808 := by
  rw [show I64.neg a = chkI64 (-a) from rfl, chkI64_overflow_iff]; unfold inI64 at *; omega

/-- non-vacuity: a realistic clock pair (1.5 s after 1 s) meets `i64_sub_same_sign`'s hypotheses -/
example : inI64 1500000000 ∧ inI64 1000000000 ∧ I64.sub 1500000000 1000000000 = .ok 500000000 := by
  refine ⟨by unfold inI64; omega, by unfold inI64; omega, ?_⟩
  exact i64_sub_same_sign 1500000000 1000000000 (by unfold inI64; omega) (by unfold inI64; omega) (Or.inl ⟨by omega, by omega⟩)

end Rrtk.Thm.C18
