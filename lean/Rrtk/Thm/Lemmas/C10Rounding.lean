/-
C10 "up to rounding": forward error of the integral stream at real binary32 rounding (`SF`, `u = 2^-24`, `η = 2^-150`).
The first section is the tier-S value layer of the integral (`trapVals`, `sumR`, `trapRev_value`, `integral_get_trapsum`; one
addend is `trapVal` of `Thm/C10.lean`): for any scalar type and either checking mode the number the stream holds is the
right-nested sum `a_m + (a_{m-1} + (… + a_1))` of the addends `a_i = fl(fl(fl(Δt_i as f32 / 1e9) · fl(v_{i-1} + v_i)) / 2.0)`.
At binary32 that sum is compared first with the exact sum of the rounded addends (additions have no underflow term:
`add_err`), then, each addend being five roundings away from the exact trapezoid area, with the exact trapezoidal sum of the
samples (`Rrtk/Thm/Lemmas/RoundingBounds.lean`).  The exponent of `SF` is unbounded upward: the bounds speak of hardware `f32` as long as no
intermediate result reaches `2^128`.  The derivative stream and the converters of C10 have no rounding theorem.
-/
import Rrtk.Thm.C10
import Rrtk.Thm.Lemmas.RoundingBounds
namespace Rrtk.Thm.C10
open Rrtk Rrtk.Soft Rrtk.Thm.SoftScalar Rrtk.Thm.RoundingBounds

section S
variable {F : Type} [Add F] [Mul F] [Div F] [FloatLike F]

/-- the addends of a run given newest-first, newest addend first -/
def trapVals : List (Datum (Quantity F)) → List F
  | o :: p :: rest => trapVal p o :: trapVals (p :: rest)
  | [_] => []
  | [] => []

/-- `a₁ + (a₂ + (… + a_m))`: the new addend is the LEFT operand of every addition, as in the code -/
def sumR : List F → F
  | [] => c0
  | [a] => a
  | a :: b :: rest => a + sumR (b :: rest)

theorem trapVals_length : ∀ rr : List (Datum (Quantity F)), (trapVals rr).length = rr.length - 1
  | [] => rfl
  | [_] => rfl
  | _ :: p :: rest => congrArg Nat.succ (trapVals_length (p :: rest))

variable [Sub F] [Neg F] [LT F] [LE F] [BEq F] [DecidableLT F] [DecidableLE F]

/-- which number the integral holds (any scalar, either checking mode) -/
theorem trapRev_value (chk : Bool) : ∀ (rr : List (Datum (Quantity F))) (r : Datum (Quantity F)),
    trapRev chk rr = .ok (some r) → r.value.value = sumR (trapVals rr)
  | [], r, h => by cases h
  | [_], r, h => by cases h
  | o :: p :: rest, r, h => by
    rw [trapRev_cons₂] at h
    obtain ⟨prev, hp, h⟩ := Except.bind_eq_ok.1 h
    obtain ⟨v, hv, hr⟩ := Except.map_eq_ok.1 h
    cases hr
    obtain ⟨a, ha, hv⟩ := Except.bind_eq_ok.1 hv
    have ha := trapAddend_value chk p o a ha
    cases rest with
    | nil => cases hp; cases hv; exact ha  -- two samples: no sum so far, the value is the addend
    | cons q qs =>
      obtain ⟨w, rfl⟩ := trapRev_cons₂_ok chk p q qs prev hp
      show v.value = trapVal p o + sumR (trapVals (p :: q :: qs))
      rw [(Quantity.add_ok hv).1, ha, trapRev_value chk (p :: q :: qs) _ hp]

theorem integral_get_trapsum (chk : Bool) (evs : List (Output (Quantity F))) (s : DiS F)
    (h : runE (Integral.step chk) Integral.init evs = .ok s) (o d : Datum (Quantity F))
    (hlast : evs.getLast? = some (.ok (some o))) (hget : Integral.get s = .ok (some d)) :
    trapSpec chk (lastRun evs) = .ok (some d) := by
  obtain ⟨r, hr, hg⟩ := integral_eq_trapsum chk evs s h
  simp only [expectedGet, hlast] at hg
  rw [hr, Except.ok.inj (hg.symm.trans hget)]
end S

/-- `m + 1` addends, `m` rounded additions; the outermost addition is the last rounding -/
theorem sumR_cons_err (l : List SF) : ∀ a : SF,
    |(sumR (a :: l)).val - sumVal (a :: l)| ≤ ((1 + u) ^ l.length - 1) * sumAbs (a :: l) := by
  induction l with
  | nil => intro a; simp [sumR]
  | cons b l ih =>
    intro a
    have h : |a.val + (sumR (b :: l)).val - (a.val + sumVal (b :: l))|
        ≤ ((1 + u) ^ l.length - 1) * (|a.val| + sumAbs (b :: l)) + 0 := by
      rw [add_sub_add_left_eq_sub]
      linarith only [ih b, mul_nonneg (pow_sub_one_nonneg l.length) (abs_nonneg a.val)]
    have := near_round_add ((abs_add_le _ _).trans (add_le_add_right (abs_sumVal_le (b :: l)) _)) h
    rw [sumVal_cons, sumAbs_cons, List.length_cons, pow_succ, show sumR (a :: b :: l) = a + sumR (b :: l) from rfl]
    simpa only [mul_zero, add_zero] using this

theorem sumR_err : ∀ l : List SF, |(sumR l).val - sumVal l| ≤ ((1 + u) ^ (l.length - 1) - 1) * sumAbs l
  | [] => by simp [sumR]
  | a :: l => sumR_cons_err l a

/-- a statement about `List.foldl` over any list of binary32 numbers, `acc := acc + tᵢ` from `0.0`; what the integral stream holds
is the right-nested `sumR` (`trapRev_value`), bounded by `sumR_err` -/
theorem integral_accumulation_err_binary32 (ts : List SF) :
    |(ts.foldl (fun acc t => acc + t) (c0 : SF)).val - sumVal ts| ≤ ((1 + u) ^ ts.length - 1) * sumAbs ts := by
  have h := foldl_add_err ts c0
  rwa [c0_val, zero_add, abs_zero, zero_add] at h

/-- the same fold from an arbitrary starting value, operands in the order `acc := tᵢ + acc` -/
theorem integral_accumulation_err_binary32' (ts : List SF) (a : SF) :
    |(ts.foldl (fun acc t => t + acc) a).val - (a.val + sumVal ts)|
      ≤ ((1 + u) ^ ts.length - 1) * (|a.val| + sumAbs ts) := by
  have e : (fun (acc t : SF) => t + acc) = (fun acc t => acc + t) := by
    funext acc t; exact add_comm' t acc
  rw [e]; exact foldl_add_err ts a

/-- a run of `m + 1` samples has `m` addends and `m − 1` additions -/
theorem trapsum_err_binary32 (chk : Bool) (run : List (Datum (Quantity SF))) (r : Datum (Quantity SF))
    (h : trapSpec chk run = .ok (some r)) :
    |r.value.value.val - sumVal (trapVals run.reverse)|
      ≤ ((1 + u) ^ (run.length - 2) - 1) * sumAbs (trapVals run.reverse) := by
  have he := sumR_err (trapVals run.reverse)
  rw [trapVals_length, List.length_reverse, Nat.sub_sub] at he
  rw [trapRev_value chk run.reverse r h]
  exact he

/-- C10 "the integral stream's value is the trapezoidal sum of the input", every history that did not panic and ends with a
present sample: which number `get` returns, and its distance from the exact sum of the (rounded) addends; a last run of
`k` samples has `k − 1` addends and `k − 2` additions -/
theorem integral_err_binary32 (chk : Bool) (evs : List (Output (Quantity SF))) (s : DiS SF)
    (h : runE (Integral.step chk) Integral.init evs = .ok s) (o d : Datum (Quantity SF))
    (hlast : evs.getLast? = some (.ok (some o))) (hget : Integral.get s = .ok (some d)) :
    d.value.value = sumR (trapVals (lastRun evs).reverse) ∧
    |d.value.value.val - sumVal (trapVals (lastRun evs).reverse)|
      ≤ ((1 + u) ^ ((lastRun evs).length - 2) - 1) * sumAbs (trapVals (lastRun evs).reverse) := by
  have hr := integral_get_trapsum chk evs s h o d hlast hget
  exact ⟨trapRev_value chk _ d hr, trapsum_err_binary32 chk _ d hr⟩

def trapExact (p o : Datum (Quantity SF)) : ℚ :=
  ((o.time - p.time : Int) : ℚ) / 1000000000 * (p.value.value.val + o.value.value.val) / 2

/-- exact areas of a run given newest-first (parallel to `trapVals`) -/
def trapExacts : List (Datum (Quantity SF)) → List ℚ
  | o :: p :: rest => trapExact p o :: trapExacts (p :: rest)
  | [_] => []
  | [] => []

theorem trapVal_val (p o : Datum (Quantity SF)) :
    (trapVal p o).val = rne32 (rne32 (rne32 (rne32 ((o.time - p.time : Int) : ℚ) / 1000000000)
      * rne32 (p.value.value.val + o.value.value.val)) / 2) := by
  simp only [trapVal, div_val, mul_val, add_val]
  rw [c1e9_val, c2_val, ofInt_val]

/-- five roundings: the conversion of `Δt` costs two, the sum one, the product one, the halving one; product and halving
may underflow (the halving is exact unless it does) -/
theorem trapVal_err (p o : Datum (Quantity SF)) :
    |(trapVal p o).val - trapExact p o| ≤ ((1 + u) ^ 5 - 1) * |trapExact p o| + 2 * η := by
  rw [trapVal_val]
  unfold trapExact
  have h1 := ofInt_div_e9_err (o.time - p.time)
  have h2 : |rne32 (p.value.value.val + o.value.value.val) - (p.value.value.val + o.value.value.val)|
      ≤ (1 + u - 1) * |p.value.value.val + o.value.value.val| := by
    rw [add_sub_cancel_left, ← add_val]; exact add_err _ _
  have h3 := relerr_mul (one_le_pow 2) h1 h2
  have h4 := near_round le_rfl (h3.trans_eq (add_zero _).symm) (rne32_err _)
  have e : ∀ x : ℚ, |x / 2| = |x| / 2 := fun x => by rw [abs_div, abs_two]
  have h5 := near_round (e _).le (near_div two_pos h4) (rne32_err _)
  rw [e]
  have : (1 + u) * (((1 + u) * 0 + η) / 2) + η ≤ 2 * η := by
    linarith only [mul_le_mul_of_nonneg_right u_lt_one.le η_nonneg]
  have e5 : (1 + u) ^ 2 * (1 + u) * (1 + u) * (1 + u) = (1 + u) ^ 5 := by ring
  exact h5.trans (add_le_add (by rw [e5]) this)

theorem trapExacts_length (rr : List (Datum (Quantity SF))) : (trapExacts rr).length = rr.length - 1 :=
  match rr with
  | [] => rfl
  | [_] => rfl
  | _ :: p :: rest => congrArg Nat.succ (trapExacts_length (p :: rest))

theorem trap_near : ∀ rr : List (Datum (Quantity SF)),
    List.Forall₂ (fun (y : SF) (x : ℚ) => |y.val - x| ≤ ((1 + u) ^ 5 - 1) * |x| + 2 * η) (trapVals rr) (trapExacts rr)
  | [] => .nil
  | [_] => .nil
  | o :: p :: rest => .cons (trapVal_err p o) (trap_near (p :: rest))

/-- against the EXACT trapezoidal sum `Σ Δtᵢ·(vᵢ₋₁ + vᵢ)/2` of the binary32 samples: a run of `k` samples has
`(k − 2) + 5` roundings on the longest path -/
theorem trapsum_forward_err_binary32 (chk : Bool) (run : List (Datum (Quantity SF))) (r : Datum (Quantity SF))
    (h : trapSpec chk run = .ok (some r)) :
    |r.value.value.val - (trapExacts run.reverse).sum|
      ≤ ((1 + u) ^ (run.length - 2 + 5) - 1) * ((trapExacts run.reverse).map (fun x => |x|)).sum
        + 2 * (run.length - 1 : ℕ) * (1 + u) ^ (run.length - 2) * η := by
  have := acc_near (one_le_pow _) (trapsum_err_binary32 chk run r h) (trap_near run.reverse)
  rw [trapExacts_length, List.length_reverse, ← pow_add] at this
  linarith only [this]

/-- C10 "the integral stream's value is the trapezoidal sum of the input", every history, against the exact trapezoidal sum
of the last run -/
theorem integral_forward_err_binary32 (chk : Bool) (evs : List (Output (Quantity SF))) (s : DiS SF)
    (h : runE (Integral.step chk) Integral.init evs = .ok s) (o d : Datum (Quantity SF))
    (hlast : evs.getLast? = some (.ok (some o))) (hget : Integral.get s = .ok (some d)) :
    |d.value.value.val - (trapExacts (lastRun evs).reverse).sum|
      ≤ ((1 + u) ^ ((lastRun evs).length - 2 + 5) - 1) * ((trapExacts (lastRun evs).reverse).map (fun x => |x|)).sum
        + 2 * ((lastRun evs).length - 1 : ℕ) * (1 + u) ^ ((lastRun evs).length - 2) * η :=
  trapsum_forward_err_binary32 chk _ d (integral_get_trapsum chk evs s h o d hlast hget)

namespace RoundingExamples
def x2p25 : SF := SF.mk' 8388608 2 (by norm_num) (by norm_num)
/-- a run in millimetres: `2^25` at 0 s, `2^25` at 1 s, `2` at 2 s, `0` at 3 s (times in ns) — trapezoids `2^25`, `2^24 + 1 → 2^24`
(the addend itself rounds) and `1` -/
def run : List (Datum (Quantity SF)) :=
  [⟨0, ⟨x2p25, ⟨1, 0⟩⟩⟩, ⟨1000000000, ⟨x2p25, ⟨1, 0⟩⟩⟩, ⟨2000000000, ⟨c2, ⟨1, 0⟩⟩⟩, ⟨3000000000, ⟨c0, ⟨1, 0⟩⟩⟩]
/-- the hypothesis of `trapsum_err_binary32` holds for it (checking on: all units agree) -/
theorem run_ok : ∃ r, trapSpec true run = .ok (some r) := by
  obtain ⟨r, hr, -⟩ := trapRev_unit ⟨1, 0⟩ run.reverse (by
    intro d hd
    simp [run] at hd
    rcases hd with rfl | rfl | rfl | rfl <;> rfl)
  cases r with
  | some r => exact ⟨r, hr⟩
  | none => exact absurd ((trapRev_none_iff true run.reverse).1 hr) (by decide)  -- four samples
theorem run_vals : (trapVals run.reverse).map (fun t => t.val) = [1, 16777216, 33554432] ∧
    (sumR (trapVals run.reverse)).val = 50331648 := by decide +kernel
/-- the accumulation really rounds: exact sum of the addends `50331649`, accumulated `50331648`; the bound of
`sumR_err`, `((1+u)^2 − 1)·50331649 ≈ 6.0000001`, holds -/
example : sumVal (trapVals run.reverse) = 50331649 := by
  have h := run_vals.1
  unfold sumVal; rw [h]; norm_num
example : ∃ r, trapSpec true run = .ok (some r) ∧ r.value.value.val = 50331648 := by
  obtain ⟨r, hr⟩ := run_ok
  exact ⟨r, hr, by rw [trapRev_value true _ r hr]; exact run_vals.2⟩
/-- non-vacuity of `integral_accumulation_err_binary32`: `(0.0 + 2^24) + 1.0 + 1.0` is `2^24`, exact sum `2^24 + 2` -/
example : ([x2p24, c1, c1].foldl (fun acc t => acc + t) (c0 : SF)).val = 16777216 ∧
    sumVal [x2p24, c1, c1] = 16777218 := by
  constructor
  · simp only [List.foldl_cons, List.foldl_nil, zero_add', add_rounds, x2p24_val]
  · simp only [sumVal_cons, sumVal_nil, c1_val, x2p24_val]; norm_num
/-- the EXACT trapezoidal sum of the same run is `50331650` (areas `1`, `2^24 + 1`, `2^25`): total error `2`, inside the
budget `((1+u)^7 − 1)·50331650 + … ≈ 21` of `trapsum_forward_err_binary32` (4 samples: exponent `4 − 2 + 5`) -/
example : trapExacts run.reverse = [1, 16777217, 33554432] ∧ (trapExacts run.reverse).sum = 50331650 := by
  decide +kernel
end RoundingExamples

end Rrtk.Thm.C10
