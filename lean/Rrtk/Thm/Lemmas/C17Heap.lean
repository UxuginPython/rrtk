/-
C17, refined: a heap of cells with `(variant, address)` handles (`Rrtk/RefHeap.lean`).

In `Rrtk/Reference.lean` (the model the driver runs) aliasing and liveness are true by construction — one shared `value`,
`dropped` computed from the handle table.  Here they are PROVED of a model in which they could fail: `Clone` and `to_dyn!`
hand out the same address; on every reachable heap a write is read through every handle to the address, a counted cell is
freed exactly when its last handle is dropped, and programs that only name live slots never fault — all read off the
invariant `HInv` (`Thm/Lemmas/C17HeapInv.lean`).  Mutants (a deep-copying `clone`, an `Arc` `clone` that forgets the count)
are expressible here and are refuted by the specifications the real functions meet.  The machine with ONE allocation, seen
through `absCase`, IS the `RefCase` model, event by event with the same outputs (`simulation_step`, `simulation_run`).
Tier S (no scalar).
-/
import Rrtk.Thm.C17
import Rrtk.Thm.Lemmas.C17HeapInv
namespace Rrtk.Thm.C17
open Rrtk

/-! ### `Clone` and `to_dyn!` on the heap -/

/-- **`clone` preserves the address.** The clone is a handle of the same variant to the SAME address; no cell is
allocated; no payload and no `freed` flag changes anywhere; cells at other addresses are untouched; the raw-pointer
variants leave the heap alone; the counted variants require the cell to be alive and add exactly one to its strong
count. -/
theorem clone_preserves_address (hp hp' : Heap) (h h' : RHandle) (hc : hp.clone h = .ok (hp', h')) :
    h'.addr = h.addr ∧ h'.variant = h.variant ∧ h'.isDyn = h.isDyn ∧
    hp'.length = hp.length ∧
    (∀ b : Nat, (hp'[b]?).map (fun c : HCell => (c.kind, c.value, c.freed)) = (hp[b]?).map (fun c : HCell => (c.kind, c.value, c.freed))) ∧
    (∀ b, b ≠ h.addr → hp'[b]? = hp[b]?) ∧
    (h.variant.counted = false → hp' = hp) ∧
    (h.variant.counted = true →
      ∃ c, hp.cell h.addr = .ok c ∧ hp'[h.addr]? = some { c with strong := c.strong + 1 }) := by
  obtain ⟨rfl, ⟨hk, rfl⟩ | ⟨hk, c, hcell, rfl⟩⟩ := heap_clone_cases hc
  · exact ⟨rfl, rfl, rfl, rfl, fun _ => rfl, fun _ _ => rfl, fun _ => rfl, fun h => absurd (hk.symm.trans h) (by decide)⟩
  · have hget := get_set hp h'.addr { c with strong := c.strong + 1 } (cell_lt hp _ c hcell)
    have hc0 := (cell_ok.1 hcell).1
    refine ⟨rfl, rfl, rfl, List.length_set, fun b => ?_, fun b hb => ?_, fun h => absurd (hk.symm.trans h) (by decide),
      fun _ => ⟨c, hcell, ?_⟩⟩
    · rw [hget]
      by_cases hb : b = h'.addr
      · subst hb; simp [hc0]
      · simp [hb]
    · rw [hget]; simp [hb]
    · exact get_set_self hcell _

/-- **`to_dyn!` preserves the address.** A successful conversion yields a handle of the same variant to the SAME
address, marked as a trait object, and does not touch the heap at all (the argument is moved: no count changes); it
succeeds exactly when the calling crate gets an arm for the variant, and panics with `unimplemented!()` otherwise. -/
theorem to_dyn_preserves_address (feats : List String) (hp : Heap) (h : RHandle) :
    (∀ hp' h', Heap.toDyn feats hp h = .ok (hp', h') →
      h'.addr = h.addr ∧ h'.variant = h.variant ∧ h'.isDyn = true ∧ hp' = hp ∧ toDynHasArm feats h.variant = true) ∧
    (toDynHasArm feats h.variant = true → Heap.toDyn feats hp h = .ok (hp, ⟨h.variant, h.addr, true⟩)) ∧
    (toDynHasArm feats h.variant = false → Heap.toDyn feats hp h = .error (.panic .unimpl)) := by
  rw [heap_toDyn_eq]
  cases ha : toDynHasArm feats h.variant
  · refine ⟨fun _ _ hc => by simp at hc, fun e => absurd e (by decide), fun _ => by simp⟩
  · refine ⟨fun hp' h' hc => ?_, fun _ => by simp, fun e => absurd e (by decide)⟩
    simp only [if_true, Except.ok.injEq, Prod.mk.injEq] at hc
    obtain ⟨rfl, rfl⟩ := hc
    exact ⟨rfl, rfl, rfl, rfl, rfl⟩

/-- non-vacuity: an `Rc` clone (count 1 → 2, same address 0) and its conversion in a featureless caller -/
example : Heap.clone [⟨.rcRefCell, 5, false, 1⟩] ⟨.rcRefCell, 0, false⟩ =
    .ok ([⟨.rcRefCell, 5, false, 2⟩], ⟨.rcRefCell, 0, false⟩) := by rfl
example : Heap.toDyn [] [⟨.rcRefCell, 5, false, 2⟩] ⟨.rcRefCell, 0, false⟩ =
    .ok ([⟨.rcRefCell, 5, false, 2⟩], ⟨.rcRefCell, 0, true⟩) := by rfl
-- (an example through a variant WITHOUT an arm today is in Thm/Lemmas/C17Snapshot.lean)

/-! ### liveness -/

/-- **A counted cell lives exactly while a handle to it exists.** On every heap reachable by any program:
(1) the strong count of a live `Rc` / `Arc` cell IS the number of live handles to it (and that number is ≥ 1);
(2) a freed cell has no live handle — equivalently (3) every live handle points at an allocated, un-freed cell of its own
kind, so dereferencing it does not fault; (4) static cells are never freed; (5) dropping a counted handle succeeds,
removes exactly that handle, and frees the cell if and only if it was the LAST handle to it. -/
theorem counted_cell_live_while_any_handle (s : RState) (hr : Reachable s) :
    (∀ (a : Nat) (c : HCell), s.heap[a]? = some c → c.kind.counted = true → c.freed = false →
      c.strong = cnt a s.table ∧ 1 ≤ cnt a s.table) ∧
    (∀ (a : Nat) (c : HCell), s.heap[a]? = some c → c.freed = true → cnt a s.table = 0) ∧
    (∀ i h, s.table.getD i none = some h →
      ∃ c, s.heap[h.addr]? = some c ∧ c.kind = h.variant ∧ c.freed = false ∧ s.read i = .ok c.value) ∧
    (∀ (a : Nat) (c : HCell), s.heap[a]? = some c → c.kind.counted = false → c.freed = false) ∧
    (∀ i h, s.table.getD i none = some h → h.variant.counted = true →
      ∃ s' c', s.drop i = .ok s' ∧ s'.table = s.table.set i none ∧ s'.heap[h.addr]? = some c' ∧
        cnt h.addr s'.table + 1 = cnt h.addr s.table ∧
        (c'.freed = true ↔ cnt h.addr s.table = 1) ∧ (c'.freed = false → c'.strong = cnt h.addr s'.table)) := by
  have hI := hinv_reachable s hr
  refine ⟨?_, ?_, ?_, ?_, ?_⟩
  · intro a c hc hk hf
    have := (hI.2 a c hc).1 hk hf
    omega
  · intro a c hc hf; exact (hI.2 a c hc).2.1 hf
  · intro i h hi
    obtain ⟨c, hcell, hk⟩ := live_cell s hI h (mem_of_getD hi)
    obtain ⟨hc, hf⟩ := cell_ok.1 hcell
    exact ⟨c, hc, hk, hf, read_live hi hcell⟩
  · intro a c hc hk; exact (hI.2 a c hc).2.2 hk
  · intro i h hi hk
    obtain ⟨c, hcell, hkc⟩ := live_cell s hI h (mem_of_getD hi)
    obtain ⟨hc, hf⟩ := cell_ok.1 hcell
    have hkc' : c.kind.counted = true := hkc ▸ hk
    have hdec := cnt_set_none h.addr s.table i h hi
    simp only [if_true] at hdec
    -- the cell after the drop glue is `CellOK` for one owner less
    have hok : CellOK { c with strong := c.strong - 1, freed := c.strong - 1 == 0 } (cnt h.addr (s.table.set i none)) :=
      CellOK.dec (hdec ▸ hI.cell hc) hkc' hf
    refine ⟨⟨s.heap.set h.addr { c with strong := c.strong - 1, freed := c.strong - 1 == 0 }, s.table.set i none⟩,
      { c with strong := c.strong - 1, freed := c.strong - 1 == 0 }, ?_, rfl, ?_, hdec, ?_, fun hfr => (hok.1 hkc' hfr).1⟩
    · rw [drop_live hi hcell, hk]; rfl
    · exact get_set_self hcell _
    · rw [hok.freed_iff hkc', ← hdec]
      exact ⟨fun h0 => by rw [h0], fun h1 => Nat.succ.inj h1⟩

/-- non-vacuity: an `Arc` cell with two handles survives the first drop and is freed by the second -/
example : hrun [] RState.empty [.alloc .arcMutex 3, .clone 0, .drop 0] =
    .ok ⟨[⟨.arcMutex, 3, false, 1⟩], [none, some ⟨.arcMutex, 0, false⟩]⟩ := by rfl
example : hrun [] RState.empty [.alloc .arcMutex 3, .clone 0, .drop 0, .drop 1] =
    .ok ⟨[⟨.arcMutex, 3, true, 0⟩], [none, none]⟩ := by rfl
example : Reachable ⟨[⟨.arcMutex, 3, false, 1⟩], [none, some ⟨.arcMutex, 0, false⟩]⟩ :=
  ⟨[], [.alloc .arcMutex 3, .clone 0, .drop 0], rfl⟩

/-! ### no fault -/

/-- the slot a statement names -/
def opArg : HOp → Option Nat
  | .alloc _ _ => none
  | .clone i => some i
  | .toDynClone i => some i
  | .toDynMove i => some i
  | .read i => some i
  | .write i _ => some i
  | .drop i => some i

def opIsToDyn : HOp → Bool
  | .toDynClone _ => true
  | .toDynMove _ => true
  | _ => false

/-- the statement names a slot that currently holds a handle -/
def usesLive (s : RState) (op : HOp) : Prop := ∀ i, opArg op = some i → ∃ h, s.table.getD i none = some h

/-- if the statement is a `to_dyn!`, the calling crate gets an arm for the variant of the handle it names -/
def converts (feats : List String) (s : RState) (op : HOp) : Prop :=
  opIsToDyn op = true → ∀ i h, opArg op = some i → s.table.getD i none = some h → toDynHasArm feats h.variant = true

/-- one statement on a live slot, under the invariant: it succeeds, or it is a `to_dyn!` of a variant without a usable
arm and panics with `unimplemented!()` — never a memory fault, never a dead handle -/
theorem exec_no_fault (feats : List String) (s : RState) (op : HOp) (hI : HInv s) (hl : usesLive s op) :
    (∃ s', hexec feats s op = .ok s') ∨
    (hexec feats s op = .error (.panic .unimpl) ∧ ¬ converts feats s op) := by
  -- the slot the statement names holds a handle, and by the invariant that handle's cell is live
  have live : ∀ i, opArg op = some i → ∃ h c, s.table.getD i none = some h ∧ s.heap.cell h.addr = .ok c := fun i hop =>
    let ⟨h, hi⟩ := hl i hop
    let ⟨c, hcell, _⟩ := live_cell s hI h (mem_of_getD hi)
    ⟨h, c, hi, hcell⟩
  cases op with
  | alloc k v => exact .inl ⟨_, rfl⟩
  | clone i =>
    obtain ⟨h, c, hi, hcell⟩ := live i rfl
    exact .inl ⟨_, clone_live hi hcell⟩
  | toDynClone i =>
    obtain ⟨h, c, hi, hcell⟩ := live i rfl
    simp only [hexec, toDynClone_live feats hi hcell]
    cases harm : toDynHasArm feats h.variant with
    | true => exact .inl ⟨_, rfl⟩
    | false => exact .inr ⟨rfl, fun hcv => Bool.noConfusion (harm.symm.trans (hcv rfl i h rfl hi))⟩
  | toDynMove i =>
    obtain ⟨h, _, hi, _⟩ := live i rfl
    simp only [hexec, toDynMove_live feats hi]
    cases harm : toDynHasArm feats h.variant with
    | true => exact .inl ⟨_, rfl⟩
    | false => exact .inr ⟨rfl, fun hcv => Bool.noConfusion (harm.symm.trans (hcv rfl i h rfl hi))⟩
  | read i =>
    obtain ⟨h, c, hi, hcell⟩ := live i rfl
    exact .inl ⟨s, by simp only [hexec, read_live hi hcell]⟩
  | write i v =>
    obtain ⟨h, c, hi, hcell⟩ := live i rfl
    exact .inl ⟨_, write_live v hi hcell⟩
  | drop i =>
    obtain ⟨h, c, hi, hcell⟩ := live i rfl
    exact .inl ⟨_, drop_live hi hcell⟩

/-- a program every statement of which names a slot that is live WHEN THE STATEMENT RUNS -/
def UsesLiveHandles (feats : List String) : RState → List HOp → Prop
  | _, [] => True
  | s, op :: rest => usesLive s op ∧ ∀ s', hexec feats s op = .ok s' → UsesLiveHandles feats s' rest

/-- … and every `to_dyn!` of which is of a variant the calling crate gets an arm for -/
def ConvertsListed (feats : List String) : RState → List HOp → Prop
  | _, [] => True
  | s, op :: rest => converts feats s op ∧ ∀ s', hexec feats s op = .ok s' → ConvertsListed feats s' rest

theorem ulh_cons (feats : List String) (s : RState) (op : HOp) (rest : List HOp) :
    UsesLiveHandles feats s (op :: rest) ↔
      usesLive s op ∧ ∀ s', hexec feats s op = .ok s' → UsesLiveHandles feats s' rest := Iff.rfl

theorem no_fault_of_inv (feats : List String) (s : RState) (ops : List HOp) (hI : HInv s)
    (hwf : UsesLiveHandles feats s ops) :
    ((∃ s', hrun feats s ops = .ok s') ∨ hrun feats s ops = .error (.panic .unimpl)) ∧
    (ConvertsListed feats s ops → ∃ s', hrun feats s ops = .ok s') := by
  induction ops generalizing s with
  | nil => exact ⟨Or.inl ⟨s, rfl⟩, fun _ => ⟨s, rfl⟩⟩
  | cons op rest ih =>
    obtain ⟨hl, hrest⟩ := hwf
    rcases exec_no_fault feats s op hI hl with ⟨s1, he⟩ | ⟨he, hnc⟩
    · rw [hrun_cons_ok rest he]
      have := ih s1 (hinv_exec feats s s1 op hI he) (hrest s1 he)
      exact ⟨this.1, fun hcv => this.2 (hcv.2 s1 he)⟩
    · rw [hrun_cons_err rest he]
      exact ⟨Or.inr rfl, fun hcv => absurd hcv.1 hnc⟩

/-- **Well-formed programs never fault.** From any reachable heap, a program that only names slots holding a handle at
the time (no use of a dropped / moved / never-created `Reference`) never hits a dangling address, a freed cell or a
dead handle: it runs to completion, or stops at the `unimplemented!()` of a `to_dyn!` whose variant has no arm in the
calling crate; if every conversion is of a variant with an arm, it runs to completion. -/
theorem no_fault_on_live_handles (feats : List String) (s : RState) (ops : List HOp) (hr : Reachable s)
    (hwf : UsesLiveHandles feats s ops) :
    ((∃ s', hrun feats s ops = .ok s') ∨ hrun feats s ops = .error (.panic .unimpl)) ∧
    (ConvertsListed feats s ops → ∃ s', hrun feats s ops = .ok s') :=
  no_fault_of_inv feats s ops (hinv_reachable s hr) hwf

/-- non-vacuity: a well-formed program (clone, convert by move, write through the trait object, drop the clone) -/
example : UsesLiveHandles ["std"] RState.empty
    [.alloc .rcRefCell 1, .clone 0, .toDynMove 0, .write 2 9, .drop 1, .read 2] := by
  refine (ulh_cons _ _ _ _).2 ⟨fun i hi => (by cases hi), fun s1 h1 => ?_⟩
  obtain rfl : _ = s1 := Except.ok.inj h1
  refine (ulh_cons _ _ _ _).2 ⟨fun i hi => (by cases hi; exact ⟨_, rfl⟩), fun s2 h2 => ?_⟩
  obtain rfl : _ = s2 := Except.ok.inj h2
  refine (ulh_cons _ _ _ _).2 ⟨fun i hi => (by cases hi; exact ⟨_, rfl⟩), fun s3 h3 => ?_⟩
  obtain rfl : _ = s3 := Except.ok.inj h3
  refine (ulh_cons _ _ _ _).2 ⟨fun i hi => (by cases hi; exact ⟨_, rfl⟩), fun s4 h4 => ?_⟩
  obtain rfl : _ = s4 := Except.ok.inj h4
  refine (ulh_cons _ _ _ _).2 ⟨fun i hi => (by cases hi; exact ⟨_, rfl⟩), fun s5 h5 => ?_⟩
  obtain rfl : _ = s5 := Except.ok.inj h5
  exact (ulh_cons _ _ _ _).2 ⟨fun i hi => (by cases hi; exact ⟨_, rfl⟩), fun _ _ => trivial⟩
example : hrun ["std"] RState.empty [.alloc .rcRefCell 1, .clone 0, .toDynMove 0, .write 2 9, .drop 1, .read 2] =
    .ok ⟨[⟨.rcRefCell, 9, false, 1⟩], [none, none, some ⟨.rcRefCell, 0, true⟩]⟩ := by rfl
/-- … whereas a program that uses a dropped handle is stopped -/
example : hrun [] RState.empty [.alloc .rcRefCell 1, .drop 0, .read 0] = .error .deadHandle := by rfl

/-! ### aliasing: a write is seen through every handle to the address -/

/-- no statement of the program, at the time it runs, is a write through a handle to address `a` -/
def QuietAt (feats : List String) (a : Nat) : RState → List HOp → Prop
  | _, [] => True
  | s, op :: rest => writeAddr s op ≠ some a ∧ ∀ s', hexec feats s op = .ok s' → QuietAt feats a s' rest

theorem run_value_quiet (feats : List String) (s s' : RState) (ops : List HOp) (a : Nat) (c : HCell)
    (hr : hrun feats s ops = .ok s') (hq : QuietAt feats a s ops) (hc : s.heap[a]? = some c) :
    ∃ c', s'.heap[a]? = some c' ∧ c'.value = c.value := by
  induction ops generalizing s c with
  | nil => obtain rfl : s = s' := Except.ok.inj hr; exact ⟨c, hc, rfl⟩
  | cons op rest ih =>
    cases he : hexec feats s op with
    | error e => rw [hrun_cons_err rest he] at hr; cases hr
    | ok s1 =>
      rw [hrun_cons_ok rest he] at hr
      obtain ⟨c1, hc1, _, hv1⟩ := exec_frame feats s s1 op he hc
      obtain ⟨c', hc', hv'⟩ := ih s1 c1 hr (hq.2 s1 he) hc1
      exact ⟨c', hc', by rw [hv', hv1 hq.1]⟩

theorem write_seen_of_inv (feats : List String) (s : RState) (hI : HInv s) (i : Nat) (h : RHandle) (v : Int)
    (hi : s.table.getD i none = some h) :
    ∃ s1, s.write i v = .ok s1 ∧ s1.table = s.table ∧
      ∀ (ops : List HOp) (s2 : RState) (j : Nat) (h' : RHandle),
        hrun feats s1 ops = .ok s2 → QuietAt feats h.addr s1 ops →
        s2.table.getD j none = some h' → h'.addr = h.addr → s2.read j = .ok v := by
  obtain ⟨c, hcell, _⟩ := live_cell s hI h (mem_of_getD hi)
  have hw := write_live v hi hcell
  refine ⟨_, hw, rfl, fun ops s2 j h' hrun hq hj ha => ?_⟩
  have hI2 := hinv_run feats _ s2 ops (hinv_exec feats s _ (.write i v) hI hw) hrun
  obtain ⟨c2, hc2, hv2⟩ := run_value_quiet feats _ s2 ops h.addr _ hrun hq (get_set_self hcell _)
  obtain ⟨c2', hcell2, _⟩ := live_cell s2 hI2 h' (mem_of_getD hj)
  have := (cell_ok.1 hcell2).1
  rw [ha, hc2] at this; simp only [Option.some.injEq] at this; subst this
  rw [read_live hj hcell2, hv2]

/-- **A write through any handle is read through every handle with the same address.** On every heap reachable by any
program, a write of `v` through the handle in any live slot `i` succeeds, and afterwards — whatever further statements
run (constructors, clones, `to_dyn!` conversions of either form, drops, reads, writes to OTHER addresses) — a read
through ANY live slot `j` whose handle has the same address returns `v`: whether that handle is the original, a clone,
a trait-object conversion, whatever its variant tag, and whether it existed at the time of the write or was made
later. -/
theorem write_seen_through_every_alias (feats : List String) (s : RState) (hr : Reachable s) (i : Nat) (h : RHandle)
    (v : Int) (hi : s.table.getD i none = some h) :
    ∃ s1, s.write i v = .ok s1 ∧
      ∀ (ops : List HOp) (s2 : RState) (j : Nat) (h' : RHandle),
        hrun feats s1 ops = .ok s2 → QuietAt feats h.addr s1 ops →
        s2.table.getD j none = some h' → h'.addr = h.addr → s2.read j = .ok v :=
  let ⟨s1, hw, _, hseen⟩ := write_seen_of_inv feats s (hinv_reachable s hr) i h v hi
  ⟨s1, hw, hseen⟩

/-- non-vacuity: two objects; write 7 through the clone of the first, then clone / convert / drop / write to the OTHER
object; the original and the later-made trait object of the first read 7 -/
example : hrun ["std"] RState.empty [.alloc .rcRefCell 1, .alloc .ptr 2, .clone 0, .write 2 7, .toDynClone 2, .drop 2,
    .write 1 5] =
    .ok ⟨[⟨.rcRefCell, 7, false, 2⟩, ⟨.ptr, 5, false, 0⟩],
      [some ⟨.rcRefCell, 0, false⟩, some ⟨.ptr, 1, false⟩, none, some ⟨.rcRefCell, 0, true⟩]⟩ := by rfl
example : (⟨[⟨.rcRefCell, 7, false, 2⟩, ⟨.ptr, 5, false, 0⟩],
    [some ⟨.rcRefCell, 0, false⟩, some ⟨.ptr, 1, false⟩, none, some ⟨.rcRefCell, 0, true⟩]⟩ : RState).read 3 = .ok 7 := by
  rfl

theorem qa_cons (feats : List String) (a : Nat) (s : RState) (op : HOp) (rest : List HOp) :
    QuietAt feats a s (op :: rest) ↔
      writeAddr s op ≠ some a ∧ ∀ s', hexec feats s op = .ok s' → QuietAt feats a s' rest := Iff.rfl

namespace HeapExamples
/-- the state of that program just before the write of 7 (two objects, a clone of the first) -/
def pre : RState :=
  ⟨[⟨.rcRefCell, 1, false, 2⟩, ⟨.ptr, 2, false, 0⟩],
    [some ⟨.rcRefCell, 0, false⟩, some ⟨.ptr, 1, false⟩, some ⟨.rcRefCell, 0, false⟩]⟩
def post : RState :=
  ⟨[⟨.rcRefCell, 7, false, 2⟩, ⟨.ptr, 2, false, 0⟩],
    [some ⟨.rcRefCell, 0, false⟩, some ⟨.ptr, 1, false⟩, some ⟨.rcRefCell, 0, false⟩]⟩
theorem pre_reachable : Reachable pre := ⟨["std"], [.alloc .rcRefCell 1, .alloc .ptr 2, .clone 0], rfl⟩
/-- the statements after the write of 7 in that program are quiet at address 0 (the last one writes to address 1) -/
theorem quiet : QuietAt ["std"] 0 post [.toDynClone 2, .drop 2, .write 1 5] := by
  refine (qa_cons _ _ _ _ _).2 ⟨fun h => (by cases h), fun s1 h1 => ?_⟩
  obtain rfl : _ = s1 := Except.ok.inj h1
  refine (qa_cons _ _ _ _ _).2 ⟨fun h => (by cases h), fun s2 h2 => ?_⟩
  obtain rfl : _ = s2 := Except.ok.inj h2
  exact (qa_cons _ _ _ _ _).2 ⟨fun h => (by cases h), fun _ _ => trivial⟩
end HeapExamples

/-- the theorem applied to that program: every hypothesis is met, and the trait object made AFTER the write (slot 3)
reads 7 -/
example : ∃ s2, hrun ["std"] HeapExamples.post [.toDynClone 2, .drop 2, .write 1 5] = .ok s2 ∧ s2.read 3 = .ok 7 := by
  obtain ⟨s1, hw, hseen⟩ :=
    write_seen_through_every_alias ["std"] HeapExamples.pre HeapExamples.pre_reachable 2 ⟨.rcRefCell, 0, false⟩ 7 rfl
  have h1 : HeapExamples.post = s1 := Except.ok.inj hw
  subst h1
  exact ⟨_, rfl, hseen _ _ 3 ⟨.rcRefCell, 0, true⟩ rfl HeapExamples.quiet rfl rfl⟩

/-! ### end-to-end specifications of a statement interpreter, met by the model and violated by mutants -/

/-- **clone aliasing, end to end**: in any state the interpreter reaches from nothing, after `let r_new = r_i.clone()`
a write through `r_i` succeeds and is read through `r_new`, and a write through `r_new` is read through `r_i` -/
def CloneAliasSpec (ex : RState → HOp → Except HFault RState) : Prop :=
  ∀ (ops : List HOp) (s s1 : RState) (i : Nat) (v : Int),
    hrunWith ex RState.empty ops = .ok s → ex s (.clone i) = .ok s1 →
    (∃ s2, ex s1 (.write i v) = .ok s2) ∧
    (∀ s2, ex s1 (.write i v) = .ok s2 → s2.read s.table.length = .ok v) ∧
    (∀ s2, ex s1 (.write s.table.length v) = .ok s2 → s2.read i = .ok v)

/-- **liveness, end to end**: in any state the interpreter reaches from nothing, every slot that holds a handle can be
read (its target has not been freed under it) -/
def LivenessSpec (ex : RState → HOp → Except HFault RState) : Prop :=
  ∀ (ops : List HOp) (s : RState) (i : Nat) (h : RHandle),
    hrunWith ex RState.empty ops = .ok s → s.table.getD i none = some h → ∃ x, s.read i = .ok x

/-- **counting**: every state the interpreter reaches from nothing satisfies the invariant (count = number of handles) -/
def CountSpec (ex : RState → HOp → Except HFault RState) : Prop :=
  ∀ (ops : List HOp) (s : RState), hrunWith ex RState.empty ops = .ok s → HInv s

theorem clone_alias_spec (feats : List String) : CloneAliasSpec (hexec feats) := by
  intro ops s s1 i v hrun hcl
  have hI : HInv s := hinv_run feats _ s ops hinv_empty hrun
  have hI1 : HInv s1 := hinv_exec feats s s1 (.clone i) hI hcl
  obtain ⟨h, hp, hi, _, rfl⟩ := clone_ok hcl
  -- the clone sits in the new slot `s.table.length`; both slots hold `h`
  have hi1 : (s.table ++ [some h]).getD i none = some h := by
    rw [getD_append_left (getD_lt hi)]; exact hi
  have hn1 : (s.table ++ [some h]).getD s.table.length none = some h := getD_append_self
  obtain ⟨sa, hwa, hta, hseen_a⟩ := write_seen_of_inv feats _ hI1 i h v hi1
  obtain ⟨sb, hwb, htb, hseen_b⟩ := write_seen_of_inv feats _ hI1 s.table.length h v hn1
  refine ⟨⟨sa, hwa⟩, ?_, ?_⟩
  · intro s2 hw
    have : sa = s2 := Except.ok.inj (hwa.symm.trans hw)
    subst this
    exact hseen_a [] sa s.table.length h rfl trivial (hta ▸ hn1) rfl
  · intro s2 hw
    have : sb = s2 := Except.ok.inj (hwb.symm.trans hw)
    subst this
    exact hseen_b [] sb i h rfl trivial (htb ▸ hi1) rfl

theorem liveness_spec (feats : List String) : LivenessSpec (hexec feats) := by
  intro ops s i h hrun hi
  have hI : HInv s := hinv_run feats _ s ops hinv_empty hrun
  obtain ⟨c, hcell, _⟩ := live_cell s hI h (mem_of_getD hi)
  exact ⟨c.value, read_live hi hcell⟩

theorem count_spec (feats : List String) : CountSpec (hexec feats) :=
  fun ops s hrun => hinv_run feats _ s ops hinv_empty hrun

/-- MUTANT 1: a `clone` that deep-copies — a new cell with a copy of the payload, and a handle to THAT -/
def cloneDeep (hp : Heap) (h : RHandle) : Except HFault (Heap × RHandle) :=
  match hp.cell h.addr with
  | .error e => .error e
  | .ok c => .ok (hp ++ [⟨c.kind, c.value, false, if c.kind.counted then 1 else 0⟩], ⟨h.variant, hp.length, h.isDyn⟩)

/-- MUTANT 2: a `clone` that copies the pointer for EVERY variant — the `Rc` / `Arc` arms forget `Rc::clone` /
`Arc::clone`, so the clone takes no share of the strong count -/
def cloneNoBump (hp : Heap) (h : RHandle) : Except HFault (Heap × RHandle) := .ok (hp, h)

/-- the machine with `clone` replaced -/
def execMut (cl : Heap → RHandle → Except HFault (Heap × RHandle)) (feats : List String) (s : RState) :
    HOp → Except HFault RState
  | .clone i =>
    match s.slot i with
    | .error e => .error e
    | .ok h =>
      match cl s.heap h with
      | .error e => .error e
      | .ok (hp, h') => .ok ⟨hp, s.table ++ [some h']⟩
  | op => hexec feats s op

/-- with the real `clone` plugged in, this is the model's interpreter -/
theorem execMut_real (feats : List String) (s : RState) (op : HOp) : execMut Heap.clone feats s op = hexec feats s op := by
  cases op <;> rfl

/-- the deep-copying clone violates `clone_preserves_address`: different address, and a cell was allocated -/
example : cloneDeep [⟨.rcRefCell, 5, false, 1⟩] ⟨.rcRefCell, 0, false⟩ =
    .ok ([⟨.rcRefCell, 5, false, 1⟩, ⟨.rcRefCell, 5, false, 1⟩], ⟨.rcRefCell, 1, false⟩) := by rfl

/-- **the deep-copying clone violates aliasing** (`write_seen_through_every_alias` via `clone_preserves_address`, i.e.
`CloneAliasSpec`): make an `Rc` object holding 0, clone it, write 7 through the original — the clone still reads 0 -/
example : hrunWith (execMut cloneDeep []) RState.empty [.alloc .rcRefCell 0, .clone 0, .write 0 7] =
    .ok ⟨[⟨.rcRefCell, 7, false, 1⟩, ⟨.rcRefCell, 0, false, 1⟩],
      [some ⟨.rcRefCell, 0, false⟩, some ⟨.rcRefCell, 1, false⟩]⟩ := by rfl
example : ¬ CloneAliasSpec (execMut cloneDeep []) := by
  intro hspec
  have h := (hspec [.alloc .rcRefCell 0] _ _ 0 7 rfl rfl).2.1 _ rfl
  have h' : (0 : Int) = 7 := Except.ok.inj h
  exact absurd h' (by decide)
/-- the same program on the model: the clone reads 7 -/
example : (hrun [] RState.empty [.alloc .rcRefCell 0, .clone 0, .write 0 7]).bind (fun s => s.read 1) = .ok 7 := by rfl

/-- the forgetful clone violates the count clause of `clone_preserves_address`: the strong count stays 1 -/
example : cloneNoBump [⟨.arcMutex, 5, false, 1⟩] ⟨.arcMutex, 0, false⟩ =
    .ok ([⟨.arcMutex, 5, false, 1⟩], ⟨.arcMutex, 0, false⟩) := by rfl

/-- **the `Arc` clone that does not bump the count violates liveness** (`counted_cell_live_while_any_handle`,
`no_fault_on_live_handles`, i.e. `LivenessSpec` and `CountSpec`): make an `Arc<Mutex>` object, clone it, drop the
original — the cell is freed although the clone (slot 1) is still live, and reading through it is a use after free -/
example : hrunWith (execMut cloneNoBump []) RState.empty [.alloc .arcMutex 0, .clone 0, .drop 0] =
    .ok ⟨[⟨.arcMutex, 0, true, 0⟩], [none, some ⟨.arcMutex, 0, false⟩]⟩ := by rfl
example : (⟨[⟨.arcMutex, 0, true, 0⟩], [none, some ⟨.arcMutex, 0, false⟩]⟩ : RState).read 1 = .error .useAfterFree := by
  rfl
example : ¬ LivenessSpec (execMut cloneNoBump []) := by
  intro hspec
  obtain ⟨x, hx⟩ := hspec [.alloc .arcMutex 0, .clone 0, .drop 0] _ 1 ⟨.arcMutex, 0, false⟩ rfl rfl
  have hx' : (Except.error HFault.useAfterFree : Except HFault Int) = .ok x := hx
  cases hx'
example : ¬ CountSpec (execMut cloneNoBump []) := by
  intro hspec
  have hI := hspec [.alloc .arcMutex 0, .clone 0] _ rfl
  have := ((hI.2 0 ⟨.arcMutex, 0, false, 1⟩ rfl).1 rfl rfl).1
  exact absurd this (by decide)
/-- the same program on the model: the cell survives (count 2 → 1) and the clone reads 0 -/
example : hrun [] RState.empty [.alloc .arcMutex 0, .clone 0, .drop 0] =
    .ok ⟨[⟨.arcMutex, 0, false, 1⟩], [none, some ⟨.arcMutex, 0, false⟩]⟩ := by rfl

/-! ## simulation: the heap machine with ONE allocation is the `RefCase` model the driver runs -/

/-- the handle table as `RefCase` sees it: `some isDyn` for a live handle, `none` for a dead one -/
def dyns (t : List (Option RHandle)) : List (Option Bool) := t.map (Option.map (·.isDyn))

/-- **abstraction function**: the heap's cell 0 and the handle table, as a `RefCase` — variant = what the cell is,
value = its payload, `dropped` = its `freed` flag (the strong count and the addresses are abstracted away) -/
def absCase (s : RState) : RefCase :=
  match s.heap[0]? with
  | some c => ⟨c.kind, c.value, dyns s.table, c.freed⟩
  | none => ⟨.ptr, 0, dyns s.table, false⟩

/-- exactly one allocation: one cell, and every live handle points at it -/
def OneAlloc (s : RState) : Prop := s.heap.length = 1 ∧ ∀ h, some h ∈ s.table → h.addr = 0

/-- the simulation relation is `c = absCase s` on states satisfying the heap invariant with one allocation
(nothing to do with `Rrtk.Sim` of `Lemmas/Sim.lean`, a relation between two `Except` computations) -/
def Sim (s : RState) : Prop := HInv s ∧ OneAlloc s

theorem dyns_getD (t : List (Option RHandle)) (i : Nat) : (dyns t).getD i none = (t.getD i none).map (·.isDyn) := by
  simp only [dyns, List.getD_eq_getElem?_getD, List.getElem?_map]
  cases t[i]? <;> rfl

theorem dyns_append (t : List (Option RHandle)) (h : RHandle) : dyns (t ++ [some h]) = dyns t ++ [some h.isDyn] := by
  simp [dyns]

theorem dyns_set (t : List (Option RHandle)) (i : Nat) : dyns (t.set i none) = (dyns t).set i none := by
  simp [dyns, List.map_set]

theorem dyns_any (t : List (Option RHandle)) (h0 : ∀ h, some h ∈ t → h.addr = 0) :
    (dyns t).any (·.isSome) = !(cnt 0 t == 0) := by
  induction t with
  | nil => rfl
  | cons x r ih =>
    have ihr := ih (fun h hm => h0 h (List.mem_cons_of_mem _ hm))
    cases x with
    | none => simpa [dyns, cnt] using ihr
    | some g =>
      have hg := h0 g (List.mem_cons_self ..)
      simp [dyns, cnt, hg]

theorem absCase_mk (hp : Heap) (t : List (Option RHandle)) (c : HCell) (hc : hp[0]? = some c) :
    absCase ⟨hp, t⟩ = ⟨c.kind, c.value, dyns t, c.freed⟩ := by
  simp only [absCase, hc]

theorem absCase_set (hp : Heap) (t : List (Option RHandle)) (c c' : HCell) (hc : hp[0]? = some c) :
    absCase ⟨hp.set 0 c', t⟩ = ⟨c'.kind, c'.value, dyns t, c'.freed⟩ :=
  absCase_mk _ _ c' (List.getElem?_set_self (List.getElem?_eq_some_iff.1 hc).1)

theorem absCase_getD (s : RState) (i : Nat) :
    (absCase s).handles.getD i none = (s.table.getD i none).map (·.isDyn) := by
  rw [← dyns_getD]; unfold absCase; split <;> rfl

theorem sim_live (s : RState) (hS : Sim s) (i : Nat) (h : RHandle) (hi : s.table.getD i none = some h) :
    h.addr = 0 ∧ ∃ c, s.heap[0]? = some c ∧ s.heap.cell h.addr = .ok c ∧ c.kind = h.variant ∧ c.freed = false ∧
      (c.kind.counted = true → c.strong = cnt 0 s.table) := by
  have hm := mem_of_getD hi
  have h0 := hS.2.2 h hm
  obtain ⟨c, hcell, hk⟩ := live_cell s hS.1 h hm
  obtain ⟨hc, hf⟩ := cell_ok.1 hcell
  rw [h0] at hc
  exact ⟨h0, c, hc, hcell, hk, hf, fun hcn => ((hS.1.2 0 c hc).1 hcn hf).1⟩

/-- the relation is preserved by every statement that names a slot, i.e. other than a constructor -/
theorem sim_exec (feats : List String) (s s' : RState) (op : HOp) {i : Nat} (hop : opArg op = some i) (hS : Sim s)
    (he : hexec feats s op = .ok s') : Sim s' := by
  obtain ⟨hu, hmem⟩ := exec_upd feats s s' op (fun k v e => by subst e; cases hop) he
  refine ⟨hinv_exec feats s s' op hS.1 he, by rw [hu.length]; exact hS.2.1, fun g hg => ?_⟩
  obtain ⟨g0, hg0, ha, _⟩ := hmem.mem hg
  rw [ha]; exact hS.2.2 g0 hg0

theorem sim_init (v : RefVariant) : Sim (RState.init v) ∧ absCase (RState.init v) = RefCase.init v := by
  refine ⟨⟨hinv_exec [] _ _ (.alloc v 0) hinv_empty rfl, rfl, fun h hm => ?_⟩, rfl⟩
  simp only [RState.init, RState.alloc, RState.empty, Heap.alloc, List.nil_append, List.mem_singleton,
    Option.some.injEq] at hm
  subst hm; rfl

/-- non-vacuity of the relation: every fresh case is in it; so is every state a case reaches (`sim_heapEvent`) -/
example : Sim (RState.init .arcMutex) := (sim_init _).1

/-! ### each refined operation maps to the abstract one

On a dead slot both models refuse; on a live slot both succeed, and the heap machine's result abstracts to the abstract
model's. -/

theorem sim_clone (s : RState) (hS : Sim s) (i : Nat) :
    (s.clone i = .error .deadHandle ∧ (absCase s).clone i = none) ∨
    (∃ s', s.clone i = .ok s' ∧ (absCase s).clone i = some (absCase s')) := by
  cases hi : s.table.getD i none with
  | none =>
    exact .inl ⟨by rw [RState.clone, slot_dead hi], by simp only [RefCase.clone, absCase_getD, hi, Option.map_none]⟩
  | some h =>
    obtain ⟨h0, c, hc, hcell, hk, hf, _⟩ := sim_live s hS i h hi
    refine .inr ⟨_, clone_live hi hcell, ?_⟩
    simp only [RefCase.clone, absCase_getD, hi, Option.map_some]
    rw [h0, absCase_mk _ _ c hc]
    cases h.variant.counted
    · rw [if_neg Bool.false_ne_true, absCase_mk _ _ c hc, dyns_append]
    · rw [if_pos rfl, absCase_set _ _ c _ hc, dyns_append]

/-- `to_dyn!(Trait, clone)`: a live slot without an arm makes both panic with `unimplemented!()` -/
theorem sim_toDyn (feats : List String) (s : RState) (hS : Sim s) (i : Nat) :
    (s.toDynClone feats i = .error .deadHandle ∧ (absCase s).toDyn feats i = none) ∨
    (∃ s', s.toDynClone feats i = .ok s' ∧ (absCase s).toDyn feats i = some (.ok (absCase s'))) ∨
    (s.toDynClone feats i = .error (.panic .unimpl) ∧ (absCase s).toDyn feats i = some (.error .unimpl)) := by
  cases hi : s.table.getD i none with
  | none =>
    exact .inl ⟨by rw [RState.toDynClone, slot_dead hi],
      by simp only [RefCase.toDyn, absCase_getD, hi, Option.map_none]⟩
  | some h =>
    obtain ⟨h0, c, hc, hcell, hk, hf, _⟩ := sim_live s hS i h hi
    right
    rw [toDynClone_live feats hi hcell]
    simp only [RefCase.toDyn, absCase_getD, hi, Option.map_some]
    rw [h0, absCase_mk _ _ c hc, ← hk]
    cases toDynHasArm feats c.kind with
    | false => exact .inr ⟨rfl, rfl⟩
    | true =>
      refine .inl ⟨_, rfl, ?_⟩
      cases c.kind.counted
      · rw [if_pos rfl, if_neg Bool.false_ne_true, absCase_mk _ _ c hc, dyns_append]
      · rw [if_pos rfl, if_pos rfl, absCase_set _ _ c _ hc, dyns_append]

theorem sim_read (s : RState) (hS : Sim s) (i : Nat) :
    (s.read i = .error .deadHandle ∧ (absCase s).read i = none) ∨
    (∃ x, s.read i = .ok x ∧ (absCase s).read i = some x) := by
  cases hi : s.table.getD i none with
  | none =>
    refine .inl ⟨by rw [RState.read, slot_dead hi], ?_⟩
    simp only [RefCase.read, RefCase.handleLive, absCase_getD, hi, Option.map_none]
    rfl
  | some h =>
    obtain ⟨h0, c, hc, hcell, hk, hf, _⟩ := sim_live s hS i h hi
    refine .inr ⟨c.value, read_live hi hcell, ?_⟩
    simp only [RefCase.read, RefCase.handleLive, absCase_getD, hi, Option.map_some]
    rw [absCase_mk _ _ c hc]
    rfl

theorem sim_write (s : RState) (hS : Sim s) (i : Nat) (v : Int) :
    (s.write i v = .error .deadHandle ∧ (absCase s).write i v = none) ∨
    (∃ s', s.write i v = .ok s' ∧ (absCase s).write i v = some (absCase s')) := by
  cases hi : s.table.getD i none with
  | none =>
    refine .inl ⟨by rw [RState.write, slot_dead hi], ?_⟩
    simp only [RefCase.write, RefCase.handleLive, absCase_getD, hi, Option.map_none]
    rfl
  | some h =>
    obtain ⟨h0, c, hc, hcell, hk, hf, _⟩ := sim_live s hS i h hi
    refine .inr ⟨_, write_live v hi hcell, ?_⟩
    simp only [RefCase.write, RefCase.handleLive, absCase_getD, hi, Option.map_some]
    rw [h0, absCase_mk _ _ c hc, absCase_set _ _ c _ hc]
    rfl

/-- `drop`: the abstract model COMPUTES `dropped` from its handle table; the heap machine decrements a count — they agree -/
theorem sim_drop (s : RState) (hS : Sim s) (i : Nat) :
    (s.drop i = .error .deadHandle ∧ (absCase s).drop i = none) ∨
    (∃ s', s.drop i = .ok s' ∧ (absCase s).drop i = some (absCase s')) := by
  cases hi : s.table.getD i none with
  | none =>
    refine .inl ⟨by rw [RState.drop, slot_dead hi], ?_⟩
    simp only [RefCase.drop, RefCase.handleLive, absCase_getD, hi, Option.map_none]
    rfl
  | some h =>
    obtain ⟨h0, c, hc, hcell, hk, hf, hstrong⟩ := sim_live s hS i h hi
    refine .inr ⟨_, drop_live hi hcell, ?_⟩
    -- no handle is left iff the count of the remaining table is 0
    have hany := dyns_any (s.table.set i none) fun g hg => hS.2.2 g (mem_unset _ _ _ hg)
    rw [dyns_set] at hany
    have hdec := cnt_set_none 0 s.table i h hi
    simp only [h0, if_true] at hdec
    have habs : (absCase s).drop i = some ⟨c.kind, c.value, (dyns s.table).set i none,
        c.freed || (c.kind.counted && !(((dyns s.table).set i none).any (·.isSome)))⟩ := by
      simp only [RefCase.drop, RefCase.handleLive, absCase_getD, hi, Option.map_some]
      rw [absCase_mk _ _ c hc]
      rfl
    rw [habs, h0, hany, hf, ← hk]
    cases hcn : c.kind.counted with
    | false =>
      rw [if_neg Bool.false_ne_true, absCase_mk _ _ c hc, dyns_set, hf]
      rfl
    | true =>
      have hfre : (c.strong - 1 == 0) = (cnt 0 (s.table.set i none) == 0) := by
        rw [hstrong hcn, ← hdec]; rfl
      rw [if_pos rfl, absCase_set _ _ c _ hc, dyns_set, hfre]
      simp

/-- `to_dyn!` in its moving form is the abstract "convert a clone, then drop the original": same table shape, same
cell, no count change -/
theorem sim_toDynMove (feats : List String) (s : RState) (hS : Sim s) (i : Nat) (h : RHandle)
    (hi : s.table.getD i none = some h) (harm : toDynHasArm feats h.variant = true) :
    ∃ s' c1, s.toDynMove feats i = .ok s' ∧ Sim s' ∧ (absCase s).toDyn feats i = some (.ok c1) ∧
      c1.drop i = some (absCase s') := by
  obtain ⟨h0, c, hc, hcell, hk, hf, _⟩ := sim_live s hS i h hi
  have he : s.toDynMove feats i = .ok ⟨s.heap, s.table.set i none ++ [some { h with isDyn := true }]⟩ := by
    rw [toDynMove_live feats hi, harm]; rfl
  have hlt : i < (dyns s.table).length := by simpa [dyns] using getD_lt hi
  refine ⟨_, ⟨c.kind, c.value, dyns s.table ++ [some true], c.freed⟩, he,
    sim_exec feats s _ (.toDynMove i) rfl hS he, ?_, ?_⟩
  · rw [absCase_mk _ _ c hc]
    simp only [RefCase.toDyn, dyns_getD, hi, Option.map_some, hk, harm, if_true]
  · have hlive : ((dyns s.table ++ [some true]).getD i none).isSome = true := by
      rw [getD_append_left hlt, dyns_getD, hi]; rfl
    have hset : (dyns s.table ++ [some true]).set i none = (dyns s.table).set i none ++ [some true] :=
      List.set_append_left _ _ hlt
    rw [absCase_mk _ _ c hc, dyns_append, dyns_set]
    simp only [RefCase.drop, RefCase.handleLive, hlive, if_true, hset, hf]
    -- the trait object is a live handle of the table, so the abstract `drop` frees nothing
    simp

/-! ### the driver's event loop, on both models -/

/-- the events of the correspondence protocol (`Rrtk/Drv/Rf.lean`: `cl:h dy:h rd:h wr:h:x inc:h dr:h live`) -/
inductive Ev where
  | cl (h : Nat) | dy (h : Nat) | rd (h : Nat) | wr (h : Nat) (x : Int) | inc (h : Nat) | dr (h : Nat) | live
  deriving DecidableEq, Repr

/-- what an event emits: `-`, a value, a flag; or it stops the case — `bad` (a `need` failed: dead handle), a panic;
`fault`: a memory fault of the heap machine (the abstract model has no such thing) -/
inductive Out where
  | done | val (x : Int) | flag (b : Bool) | bad | panic (p : Panic) | fault (e : HFault)
  deriving DecidableEq, Repr

/-- one event on the abstract model, as `Drv.runRf` runs it (same `RefCase` functions, `need` ↦ `bad`, `liftP` ↦ `panic`):
a transcription of that loop for an rrtk built with `std` (the driver's `nostd` mode calls `toDynIn` instead), read against it,
not proved equal to it -/
def absEvent (feats : List String) (c : RefCase) : Ev → Except Out (RefCase × Out)
  | .cl h => match c.clone h with
    | some c' => .ok (c', .done)
    | none => .error .bad
  | .dy h => match c.toDyn feats h with
    | none => .error .bad
    | some (.ok c') => .ok (c', .done)
    | some (.error p) => .error (.panic p)
  | .rd h => match c.read h with
    | some x => .ok (c, .val x)
    | none => .error .bad
  | .wr h x => match c.write h x with
    | some c' => .ok (c', .done)
    | none => .error .bad
  | .inc h => match c.read h with
    | none => .error .bad
    | some x => match c.write h (x + 1) with
      | some c' => .ok (c', .done)
      | none => .error .bad
  | .dr h => match c.drop h with
    | some c' => .ok (c', .done)
    | none => .error .bad
  | .live => .ok (c, .flag c.live)

def faultOut : HFault → Out
  | .deadHandle => .bad
  | .panic p => .panic p
  | e => .fault e

/-- the same event on the heap machine -/
def heapEvent (feats : List String) (s : RState) : Ev → Except Out (RState × Out)
  | .cl h => match s.clone h with
    | .ok s' => .ok (s', .done)
    | .error e => .error (faultOut e)
  | .dy h => match s.toDynClone feats h with
    | .ok s' => .ok (s', .done)
    | .error e => .error (faultOut e)
  | .rd h => match s.read h with
    | .ok x => .ok (s, .val x)
    | .error e => .error (faultOut e)
  | .wr h x => match s.write h x with
    | .ok s' => .ok (s', .done)
    | .error e => .error (faultOut e)
  | .inc h => match s.read h with
    | .error e => .error (faultOut e)
    | .ok x => match s.write h (x + 1) with
      | .ok s' => .ok (s', .done)
      | .error e => .error (faultOut e)
  | .dr h => match s.drop h with
    | .ok s' => .ok (s', .done)
    | .error e => .error (faultOut e)
  | .live => .ok (s, .flag (match s.heap[0]? with
    | some c => !c.freed
    | none => true))

/-- the output of a case: one token per event, the first `bad` / panic / fault ends it -/
def absRun (feats : List String) : RefCase → List Ev → List Out
  | _, [] => []
  | c, e :: rest =>
    match absEvent feats c e with
    | .ok (c', o) => o :: absRun feats c' rest
    | .error o => [o]

def heapRun (feats : List String) : RState → List Ev → List Out
  | _, [] => []
  | s, e :: rest =>
    match heapEvent feats s e with
    | .ok (s', o) => o :: heapRun feats s' rest
    | .error o => [o]

/-- **Simulation, one event.** On related states every event of the protocol does the same thing on both models: the
abstract model stops iff the heap machine stops, with the same token (never a memory fault, since the abstract model
has none); otherwise they emit the same token, and the new heap state abstracts to the new abstract state. -/
theorem simulation_step (feats : List String) (s : RState) (e : Ev) (hS : Sim s) :
    absEvent feats (absCase s) e =
      (match heapEvent feats s e with
       | .ok (s', o) => .ok (absCase s', o)
       | .error o => .error o) := by
  -- each statement's lemma says what both sides return; the rest is reading the two event functions
  cases e with
  | cl i =>
    rcases sim_clone s hS i with ⟨h1, h2⟩ | ⟨s1, h1, h2⟩ <;>
      simp only [absEvent, heapEvent, h1, h2, faultOut]
  | dy i =>
    rcases sim_toDyn feats s hS i with ⟨h1, h2⟩ | ⟨s1, h1, h2⟩ | ⟨h1, h2⟩ <;>
      simp only [absEvent, heapEvent, h1, h2, faultOut]
  | rd i =>
    rcases sim_read s hS i with ⟨h1, h2⟩ | ⟨x, h1, h2⟩ <;>
      simp only [absEvent, heapEvent, h1, h2, faultOut]
  | wr i x =>
    rcases sim_write s hS i x with ⟨h1, h2⟩ | ⟨s1, h1, h2⟩ <;>
      simp only [absEvent, heapEvent, h1, h2, faultOut]
  | inc i =>
    rcases sim_read s hS i with ⟨h1, h2⟩ | ⟨x, h1, h2⟩
    · simp only [absEvent, heapEvent, h1, h2, faultOut]
    · rcases sim_write s hS i (x + 1) with ⟨h3, h4⟩ | ⟨s1, h3, h4⟩ <;>
        simp only [absEvent, heapEvent, h1, h2, h3, h4, faultOut]
  | dr i =>
    rcases sim_drop s hS i with ⟨h1, h2⟩ | ⟨s1, h1, h2⟩ <;>
      simp only [absEvent, heapEvent, h1, h2, faultOut]
  | live =>
    simp only [absEvent, heapEvent, absCase, RefCase.live]
    cases s.heap[0]? <;> rfl

/-- five of the events pass on the result of their statement -/
theorem ok_of_done {r : Except HFault RState} {s' : RState} {o : Out}
    (h : (match r with
      | .ok s1 => Except.ok (s1, Out.done)
      | .error e => .error (faultOut e)) = .ok (s', o)) : r = .ok s' := by
  cases r with
  | error e => cases h
  | ok s1 => cases h; rfl

/-- … and the new heap state is again in the relation: an event that does not stop the case is a statement other than
a constructor, or leaves the state alone -/
theorem sim_heapEvent (feats : List String) (s s' : RState) (e : Ev) (o : Out) (hS : Sim s)
    (he : heapEvent feats s e = .ok (s', o)) : Sim s' := by
  cases e with
  | cl i => exact sim_exec feats s s' (.clone i) rfl hS (ok_of_done he)
  | dy i => exact sim_exec feats s s' (.toDynClone i) rfl hS (ok_of_done he)
  | wr i x => exact sim_exec feats s s' (.write i x) rfl hS (ok_of_done he)
  | dr i => exact sim_exec feats s s' (.drop i) rfl hS (ok_of_done he)
  | rd i =>
    simp only [heapEvent] at he
    split at he
    · cases he; exact hS
    · cases he
  | inc i =>
    simp only [heapEvent] at he
    split at he
    · cases he
    · next y _ => exact sim_exec feats s s' (.write i (y + 1)) rfl hS (ok_of_done he)
  | live => cases he; exact hS

/-- **Simulation, whole cases.** From related states the two models emit the same output for every event sequence. -/
theorem simulation_run (feats : List String) (s : RState) (evs : List Ev) (hS : Sim s) :
    heapRun feats s evs = absRun feats (absCase s) evs := by
  induction evs generalizing s with
  | nil => rfl
  | cons e rest ih =>
    simp only [heapRun, absRun, simulation_step feats s e hS]
    cases he : heapEvent feats s e with
    | error o => rfl
    | ok p =>
      obtain ⟨s', o⟩ := p
      show o :: heapRun feats s' rest = o :: absRun feats (absCase s') rest
      rw [ih s' (sim_heapEvent feats s s' e o hS he)]

/-- **… from the initial state of a case**: for every variant, every calling crate and every event sequence, the heap
machine started on one fresh object emits exactly what the `RefCase` model the driver runs emits from `RefCase.init` —
so the outcome of the correspondence check of the abstract model against the real code is also the outcome for the heap
machine -/
theorem simulation_from_init (feats : List String) (v : RefVariant) (evs : List Ev) :
    heapRun feats (RState.init v) evs = absRun feats (RefCase.init v) evs := by
  rw [simulation_run feats _ evs (sim_init v).1, (sim_init v).2]

/-- the token an event leaves in the output, whether it stops the case or not -/
def token {σ : Type} : Except Out (σ × Out) → Out
  | .ok (_, o) => o
  | .error o => o

/-- the abstract model has no memory fault to report -/
theorem absEvent_token (feats : List String) (c : RefCase) (ev : Ev) (e : HFault) :
    token (absEvent feats c ev) ≠ .fault e := by
  -- every leaf of `absEvent` is `done`, `val`, `flag`, `bad` or `panic`: split each event down to its leaves
  cases ev <;> simp only [absEvent] <;> (repeat' split) <;> simp [token]

theorem absRun_no_fault (feats : List String) (c : RefCase) (evs : List Ev) (e : HFault) :
    Out.fault e ∉ absRun feats c evs := by
  induction evs generalizing c with
  | nil => simp [absRun]
  | cons ev rest ih =>
    have ht := absEvent_token feats c ev e
    simp only [absRun]
    cases hev : absEvent feats c ev with
    | error o => rw [hev] at ht; simpa using fun h => ht h.symm
    | ok p => rw [hev] at ht; simpa using ⟨fun h => ht h.symm, ih p.1⟩

/-- consequence: a one-object case never makes the heap machine fault (no dangling address, no use after free),
whatever the events — including events on dropped or never-created handles, which stop the case with `bad` -/
theorem heapRun_no_memory_fault (feats : List String) (v : RefVariant) (evs : List Ev) (e : HFault) :
    Out.fault e ∉ heapRun feats (RState.init v) evs := by
  rw [simulation_from_init]; exact absRun_no_fault feats _ evs e

/-- non-vacuity: a case on both models (`Rc`, harness features): clone, write through the clone, convert, drop the
original and the clone, increment through the trait object, read, drop it, ask for liveness, use a dead handle -/
example : heapRun ["alloc", "std"] (RState.init .rcRefCell)
    [.cl 0, .wr 1 7, .dy 1, .dr 0, .dr 1, .inc 2, .rd 2, .live, .dr 2, .live, .rd 0] =
    [.done, .done, .done, .done, .done, .done, .val 8, .flag true, .done, .flag false, .bad] := by rfl
example : absRun ["alloc", "std"] (RefCase.init .rcRefCell)
    [.cl 0, .wr 1 7, .dy 1, .dr 0, .dr 1, .inc 2, .rd 2, .live, .dr 2, .live, .rd 0] =
    [.done, .done, .done, .done, .done, .done, .val 8, .flag true, .done, .flag false, .bad] := by rfl

end Rrtk.Thm.C17
