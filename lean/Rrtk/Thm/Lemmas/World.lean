/-
Lemmas of the terminal graph `World` (`Rrtk/Devices.lean`): what each setter writes and what it leaves alone, slot by
slot, and on which slots each of the terminal reads depends.  Every index is an arbitrary `Nat`; nothing assumes `i < w.n`
(no read or update looks at `n`).
-/
import Rrtk.Devices
namespace Rrtk.World
variable {F : Type}

theorem term_ext {x y : Term F} (hs : x.state = y.state) (hc : x.command = y.command) (ho : x.other = y.other) :
    x = y := by
  cases x; cases y; cases hs; cases hc; cases ho; rfl

theorem world_ext {w w' : World F} (hn : w'.n = w.n) (ht : ∀ j, w'.t j = w.t j) : w' = w := by
  cases w; cases w'
  cases hn
  cases (funext ht : _ = _)
  rfl

theorem setT_t (w : World F) (i j : Nat) (x : Term F) : (w.setT i x).t j = if j = i then x else w.t j := rfl
theorem setT_t_self (w : World F) (i : Nat) (x : Term F) : (w.setT i x).t i = x := if_pos rfl
theorem setT_t_ne (w : World F) {i j : Nat} (x : Term F) (h : j ≠ i) : (w.setT i x).t j = w.t j := if_neg h

theorem setT_setT (w : World F) (i : Nat) (x y : Term F) : (w.setT i x).setT i y = w.setT i y :=
  world_ext rfl fun j => by
    rw [setT_t, setT_t, setT_t]
    split <;> rfl

theorem setT_self (w : World F) (i : Nat) : w.setT i (w.t i) = w :=
  world_ext rfl fun j => by
    rw [setT_t]
    split
    · next h => rw [h]
    · rfl

theorem setT_comm (w : World F) {i j : Nat} (h : i ≠ j) (x y : Term F) :
    (w.setT i x).setT j y = (w.setT j y).setT i x :=
  world_ext rfl fun k => by
    rw [setT_t, setT_t, setT_t, setT_t]
    by_cases hj : k = j
    · rw [if_pos hj, if_neg (fun e : k = i => h (e.symm.trans hj)), if_pos hj]
    · rw [if_neg hj, if_neg hj]

section slots
variable (w : World F) (i j : Nat) (o : Option Nat) (s : Datum (State F)) (c : Datum (Command F))

theorem setOther_other : ((w.setOther i o).t j).other = if j = i then o else (w.t j).other := by
  unfold setOther; rw [setT_t]; split <;> rfl
theorem setOther_state : ((w.setOther i o).t j).state = (w.t j).state := by
  unfold setOther; rw [setT_t]; split <;> simp_all
theorem setOther_command : ((w.setOther i o).t j).command = (w.t j).command := by
  unfold setOther; rw [setT_t]; split <;> simp_all
theorem setOther_n : (w.setOther i o).n = w.n := rfl

theorem setState_state : ((w.setState i s).t j).state = if j = i then some s else (w.t j).state := by
  unfold setState; rw [setT_t]; split <;> rfl
theorem setState_state_self : ((w.setState i s).t i).state = some s := by rw [setState_state, if_pos rfl]
theorem setState_command : ((w.setState i s).t j).command = (w.t j).command := by
  unfold setState; rw [setT_t]; split <;> simp_all
theorem setState_other : ((w.setState i s).t j).other = (w.t j).other := by
  unfold setState; rw [setT_t]; split <;> simp_all
theorem setState_n : (w.setState i s).n = w.n := rfl

theorem setCommand_command : ((w.setCommand i c).t j).command = if j = i then some c else (w.t j).command := by
  unfold setCommand; rw [setT_t]; split <;> rfl
theorem setCommand_state : ((w.setCommand i c).t j).state = (w.t j).state := by
  unfold setCommand; rw [setT_t]; split <;> simp_all
theorem setCommand_other : ((w.setCommand i c).t j).other = (w.t j).other := by
  unfold setCommand; rw [setT_t]; split <;> simp_all
theorem setCommand_n : (w.setCommand i c).n = w.n := rfl
end slots

theorem setState_state_ne (w : World F) {i j : Nat} (s : Datum (State F)) (h : j ≠ i) :
    ((w.setState i s).t j).state = (w.t j).state := by rw [setState_state, if_neg h]

theorem setOther_t_ne (w : World F) {i j : Nat} (o : Option Nat) (h : j ≠ i) : (w.setOther i o).t j = w.t j :=
  if_neg h
theorem setState_t_ne (w : World F) {i j : Nat} (s : Datum (State F)) (h : j ≠ i) : (w.setState i s).t j = w.t j :=
  if_neg h
theorem setCommand_t_ne (w : World F) {i j : Nat} (c : Datum (Command F)) (h : j ≠ i) :
    (w.setCommand i c).t j = w.t j := if_neg h

theorem foldl_setState_state (s : Datum (State F)) (l : List Nat) (w : World F) (j : Nat) :
    ((l.foldl (fun w' i => w'.setState i s) w).t j).state = if j ∈ l then some s else (w.t j).state := by
  induction l generalizing w with
  | nil => simp
  | cons a l ih =>
    rw [List.foldl_cons, ih, setState_state]
    by_cases hjl : j ∈ l <;> by_cases hja : j = a <;> simp [hjl, hja]

theorem partnerState_linked {w : World F} {i p : Nat} (h : (w.t i).other = some p) :
    w.partnerState i = (w.t p).state := by simp only [partnerState, h]
theorem partnerCommand_linked {w : World F} {i p : Nat} (h : (w.t i).other = some p) :
    w.partnerCommand i = (w.t p).command := by simp only [partnerCommand, h]
theorem partnerState_unlinked {w : World F} {i : Nat} (h : (w.t i).other = none) : w.partnerState i = none := by
  simp only [partnerState, h]
theorem partnerCommand_unlinked {w : World F} {i : Nat} (h : (w.t i).other = none) :
    w.partnerCommand i = none := by simp only [partnerCommand, h]

/-! ### each read looks at one kind of slot, at the terminal itself and at its partner

The congruences are stated for the command read; the state read has the one instance `getState_setCommand`, what it
returns is `C09.state_read_eq` (by cases `C09.state_read_none/_own/_partner/_mean`), and that it is the own slot when the
partner holds nothing is `C08.slotIsRead_of_partnerState_none` (`Thm/Ext/C08.lean`). -/

theorem partnerCommand_congr {w w' : World F} {i : Nat} (ho : (w'.t i).other = (w.t i).other)
    (hp : ∀ p, (w.t i).other = some p → (w'.t p).command = (w.t p).command) :
    w'.partnerCommand i = w.partnerCommand i := by
  cases h : (w.t i).other with
  | none => rw [partnerCommand_unlinked h, partnerCommand_unlinked (ho.trans h)]
  | some p => rw [partnerCommand_linked h, partnerCommand_linked (ho.trans h), hp p h]

theorem getCommand_congr {w w' : World F} {i : Nat} (ho : (w'.t i).other = (w.t i).other)
    (hown : (w'.t i).command = (w.t i).command)
    (hp : ∀ p, (w.t i).other = some p → (w'.t p).command = (w.t p).command) : w'.getCommand i = w.getCommand i := by
  simp only [getCommand, partnerCommand_congr ho hp, hown]

theorem getCommand_setState (w : World F) (i j : Nat) (s : Datum (State F)) :
    (w.setState i s).getCommand j = w.getCommand j :=
  getCommand_congr (setState_other ..) (setState_command ..) fun _ _ => setState_command ..

theorem getState_setCommand [Add F] [Div F] [FloatLike F] (w : World F) (i j : Nat) (c : Datum (Command F)) :
    (w.setCommand i c).getState j = w.getState j := by
  simp only [getState, partnerState, setCommand_other, setCommand_state]

/-! ### the command read: the newer of own and partner, own on ties -/

theorem getCommand_none_iff (w : World F) (i : Nat) :
    w.getCommand i = none ↔ (w.t i).command = none ∧ w.partnerCommand i = none := by
  simp only [getCommand]
  cases (w.t i).command with
  | none => simp
  | some c =>
    cases w.partnerCommand i with
    | none => simp
    | some g => simp only []; split <;> simp

theorem getCommand_eq_own (w : World F) (i : Nat) (c : Datum (Command F)) (hown : (w.t i).command = some c)
    (hp : ∀ g, w.partnerCommand i = some g → g.time ≤ c.time) : w.getCommand i = some c := by
  simp only [getCommand, hown]
  cases hg : w.partnerCommand i with
  | none => rfl
  | some g =>
    simp only []
    rw [if_neg (Int.not_lt.2 (hp g hg))]

theorem getCommand_eq_partner (w : World F) (i : Nat) (hown : (w.t i).command = none) :
    w.getCommand i = w.partnerCommand i := by
  simp only [getCommand, hown]

theorem getCommand_eq_partner_of_newer (w : World F) (i : Nat) (g : Datum (Command F))
    (hg : w.partnerCommand i = some g) (hown : ∀ o, (w.t i).command = some o → o.time < g.time) :
    w.getCommand i = some g := by
  simp only [getCommand, hg]
  cases ho : (w.t i).command with
  | none => rfl
  | some o =>
    simp only []
    rw [if_pos (hown o ho)]

theorem partner_le_read (w : World F) (i : Nat) (g : Datum (Command F)) (hg : w.partnerCommand i = some g) :
    ∃ r, w.getCommand i = some r ∧ g.time ≤ r.time := by
  simp only [getCommand, hg]
  cases (w.t i).command with
  | none => exact ⟨g, rfl, Int.le_refl _⟩
  | some c =>
    simp only []
    split
    · exact ⟨g, rfl, Int.le_refl _⟩
    · next notNewer => exact ⟨c, rfl, Int.not_lt.1 notNewer⟩

theorem own_le_read (w : World F) (i : Nat) (c : Datum (Command F)) (hc : (w.t i).command = some c) :
    ∃ r, w.getCommand i = some r ∧ c.time ≤ r.time := by
  simp only [getCommand, hc]
  cases w.partnerCommand i with
  | none => exact ⟨c, rfl, Int.le_refl _⟩
  | some g =>
    simp only []
    split
    · next newer => exact ⟨g, rfl, Int.le_of_lt newer⟩
    · exact ⟨c, rfl, Int.le_refl _⟩

end Rrtk.World
