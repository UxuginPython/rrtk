/-
Timestamps of the `Datum` operators: `datum ∘ datum` carries the later of the two times (so a fold of it carries the
running maximum `maxTime`), `datum ∘ scalar` and the unary operators keep the time.
-/
import Rrtk.Core
namespace Rrtk
variable {α β γ : Type}

/-- `if a ≥ b then a else b`, the timestamp rule of every `Datum` operator, is `max` -/
theorem ite_ge_eq_max (a b : Int) {inst : Decidable (a ≥ b)} : (@ite Int (a ≥ b) inst a b) = max a b := by
  split
  · next h => exact (Int.max_eq_left h).symm
  · next h => exact (Int.max_eq_right (Int.le_of_lt (Int.not_le.1 h))).symm

theorem Datum.combine_eq (op : α → β → γ) (a : Datum α) (b : Datum β) :
    Datum.combine op a b = ⟨max a.time b.time, op a.value b.value⟩ := by
  simp only [Datum.combine, ite_ge_eq_max]

theorem Datum.combine_time (op : α → β → γ) (a : Datum α) (b : Datum β) :
    (Datum.combine op a b).time = max a.time b.time := by rw [Datum.combine_eq]

theorem Datum.scalar_time (op : α → β → γ) (a : Datum α) (b : β) : (Datum.scalar op a b).time = a.time := rfl
theorem Datum.map_time (f : α → β) (a : Datum α) : (Datum.map f a).time = a.time := rfl

end Rrtk

namespace Rrtk.Thm.C08
open Rrtk
variable {α : Type}

/-- running maximum of the timestamps, from `t0` -/
def maxTime {α : Type} (t0 : Int) (ds : List (Datum α)) : Int := ds.foldl (fun t d => max t d.time) t0

theorem maxTime_spec {α : Type} (ds : List (Datum α)) : ∀ (t0 : Int),
    t0 ≤ maxTime t0 ds ∧ (∀ d ∈ ds, d.time ≤ maxTime t0 ds) ∧
    (maxTime t0 ds = t0 ∨ ∃ d ∈ ds, maxTime t0 ds = d.time) := by
  induction ds with
  | nil => exact fun t0 => ⟨Int.le_refl _, fun _ h => (nomatch h), .inl rfl⟩
  | cons a ds ih =>
    intro t0
    obtain ⟨h1, h2, h3⟩ := ih (max t0 a.time)
    refine ⟨Int.le_trans (Int.le_max_left ..) h1, fun d hd => ?_, ?_⟩
    · rcases List.mem_cons.1 hd with rfl | hd
      · exact Int.le_trans (Int.le_max_right ..) h1
      · exact h2 d hd
    · rcases h3 with h3 | ⟨d, hd, h3⟩
      · rcases Int.le_total a.time t0 with e | e
        · exact .inl (h3.trans (Int.max_eq_left e))
        · exact .inr ⟨a, .head _, h3.trans (Int.max_eq_right e)⟩
      · exact .inr ⟨d, .tail _ hd, h3⟩

theorem foldl_combine_time (op : α → α → α) (ds : List (Datum α)) (d : Datum α) :
    (ds.foldl (Datum.combine op) d).time = maxTime d.time ds :=
  (List.foldl_hom (·.time) fun x y => (Datum.combine_time op x y).symm).symm

end Rrtk.Thm.C08
