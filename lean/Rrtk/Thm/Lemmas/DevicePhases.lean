/-
Each of `Invert::update`, `GearTrain::update` and `Axle::update` is a state half followed by a command half.  The state
half only calls the state setter and the command half only the command setter, on the device's own terminals: each has
a footprint (`StatesOnly`, `CmdsOnly`) saying which slots it leaves alone.  A state half changes no command read
(`StatesOnly.getCommand`); the two footprints of an update together give the frame of the whole update (`C08.Frame`,
`C08.frame_of_phases`, in `Thm/C08.lean`).
`Differential::update` is a state half only (`Differential.update_statesOnly`).  Line numbers are those of `src/devices.rs`.
-/
import Rrtk.Thm.Lemmas.World
namespace Rrtk
open World
variable {F : Type}

/-- `w'` is `w` except, possibly, for the state slots of the terminals in `dev` -/
structure StatesOnly (dev : List Nat) (w w' : World F) : Prop where
  n : w'.n = w.n
  other : ∀ j, (w'.t j).other = (w.t j).other
  command : ∀ j, (w'.t j).command = (w.t j).command
  state : ∀ j, j ∉ dev → (w'.t j).state = (w.t j).state

/-- `w'` is `w` except, possibly, for the command slots of the terminals in `dev` -/
structure CmdsOnly (dev : List Nat) (w w' : World F) : Prop where
  n : w'.n = w.n
  other : ∀ j, (w'.t j).other = (w.t j).other
  state : ∀ j, (w'.t j).state = (w.t j).state
  command : ∀ j, j ∉ dev → (w'.t j).command = (w.t j).command

theorem StatesOnly.refl (dev : List Nat) (w : World F) : StatesOnly dev w w :=
  ⟨rfl, fun _ => rfl, fun _ => rfl, fun _ _ => rfl⟩
theorem CmdsOnly.refl (dev : List Nat) (w : World F) : CmdsOnly dev w w :=
  ⟨rfl, fun _ => rfl, fun _ => rfl, fun _ _ => rfl⟩

theorem StatesOnly.setState {dev : List Nat} {w w' : World F} (h : StatesOnly dev w w') {i : Nat} (hi : i ∈ dev)
    (d : Datum (State F)) : StatesOnly dev w (w'.setState i d) where
  n := h.n
  other j := by rw [setState_other, h.other]
  command j := by rw [setState_command, h.command]
  state j hj := by rw [setState_state, if_neg (fun e : j = i => hj (e ▸ hi)), h.state j hj]

theorem CmdsOnly.setCommand {dev : List Nat} {w w' : World F} (h : CmdsOnly dev w w') {i : Nat} (hi : i ∈ dev)
    (d : Datum (Command F)) : CmdsOnly dev w (w'.setCommand i d) where
  n := h.n
  other j := by rw [setCommand_other, h.other]
  state j := by rw [setCommand_state, h.state]
  command j hj := by rw [setCommand_command, if_neg (fun e : j = i => hj (e ▸ hi)), h.command j hj]

theorem StatesOnly.getCommand {dev : List Nat} {w w' : World F} (h : StatesOnly dev w w') (i : Nat) :
    w'.getCommand i = w.getCommand i := getCommand_congr (h.other i) (h.command i) fun p _ => h.command p

theorem Differential.update_statesOnly [Add F] [Sub F] [Mul F] [Div F] [Neg F] [FloatLike F] (mode : Distrust)
    (w : World F) (i1 i2 isum : Nat) : StatesOnly [i1, i2, isum] w (Differential.update mode w i1 i2 isum) := by
  have refl := StatesOnly.refl [i1, i2, isum] w
  cases mode <;> simp only [Differential.update]
  case side1 | side2 | sum =>
    -- two reads; if both are present, one write
    split
    · exact refl
    · split
      · exact refl
      · exact refl.setState (by simp) _
  case equal =>
    -- three reads; if all are present, three writes
    split
    · exact refl
    · split
      · exact refl
      · split
        · exact refl
        · exact ((refl.setState (by simp) _).setState (by simp) _).setState (by simp) _

end Rrtk

namespace Rrtk.Thm.C13
open Rrtk
section
set_option linter.unusedSectionVars false
variable {F : Type} [Add F] [Sub F] [Mul F] [Div F] [Neg F] [LT F] [LE F] [BEq F]
  [DecidableLT F] [DecidableLE F] [FloatLike F]

/-! The six halves repeat the bodies of the three `update`s of `Rrtk/Devices.lean` (one function per `update`, as in the source)
and are tied to them by `rfl` (`*_update_phases`).  A `match` repeated here is a second compiled constant: hence the `erw` in
`C08.axleStatePhase_eq`. -/

/-- the first half of `Invert::update` (lines 40-77) -/
def invertStatePhase (w : World F) (i1 i2 : Nat) : World F :=
  match w.getState i1, w.getState i2 with
  | none, none => w
  | none, some d2 => w.setState i1 ⟨d2.time, State.neg d2.value⟩
  | some d1, none => w.setState i2 ⟨d1.time, State.neg d1.value⟩
  | some d1, some d2 =>
    let time := if d1.time ≥ d2.time then d1.time else d2.time
    let ns := State.divF (State.sub d1.value d2.value) c2
    (w.setState i1 ⟨time, ns⟩).setState i2 ⟨time, State.neg ns⟩

/-- the first half of `GearTrain::update` (lines 155-195) -/
def gearStatePhase (ratio : F) (w : World F) (i1 i2 : Nat) : World F :=
  match w.getState i1, w.getState i2 with
  | some d1, some d2 =>
    let time := if d1.time ≥ d2.time then d1.time else d2.time
    let r2p1 := ratio * ratio + c1
    let xpry := State.add d1.value (State.mulF d2.value ratio)
    let n1 := State.divF xpry r2p1
    let n2 := State.divF (State.mulF xpry ratio) r2p1
    (w.setState i1 ⟨time, n1⟩).setState i2 ⟨time, n2⟩
  | some d1, none => w.setState i2 (Datum.scalar State.mulF d1 ratio)
  | none, some d2 => w.setState i1 (Datum.scalar State.divF d2 ratio)
  | none, none => w

/-- the first half of `Axle::update` (lines 283-299) -/
def axleStatePhase (w : World F) (is : List Nat) : World F :=
  let start : Datum (State F) × Nat := (⟨-9223372036854775808, ⟨c0, c0, c0⟩⟩, 0)
  let acc := is.foldl (fun (a : Datum (State F) × Nat) i =>
    match w.getState i with
    | some g => (Datum.combine State.add a.1 g, a.2 + 1)
    | none => a) start
  if acc.2 ≥ 1 then
    let d := Datum.scalar State.divF acc.1 (FloatLike.ofInt (acc.2 : Int) : F)
    is.foldl (fun w' i => w'.setState i d) w
  else w

/-- the command half of `Invert::update` (lines 78-102), as a function of the world after the state half -/
def invertCmdPhase (w1 : World F) (i1 i2 : Nat) : World F :=
  let m0 := (Datum.replaceIfNoneOrOlderThanOption none (w1.getCommand i1)).1
  let m1 := match w1.getCommand i2 with
    | some x => (Datum.replaceIfNoneOrOlderThan m0 (Datum.map Command.neg x)).1
    | none => m0
  match m1 with
  | some dc => (w1.setCommand i1 dc).setCommand i2 (Datum.map Command.neg dc)
  | none => w1

/-- the command half of `GearTrain::update` (lines 196-229) -/
def gearCmdPhase (ratio : F) (w1 : World F) (i1 i2 : Nat) : World F :=
  match w1.getCommand i1, w1.getCommand i2 with
  | some d1, some d2 =>
    if d1.time ≥ d2.time then w1.setCommand i2 (Datum.scalar Command.mulF d1 ratio)
    else w1.setCommand i1 (Datum.scalar Command.divF d2 ratio)
  | some d1, none => w1.setCommand i2 (Datum.scalar Command.mulF d1 ratio)
  | none, some d2 => w1.setCommand i1 (Datum.scalar Command.divF d2 ratio)
  | none, none => w1

/-- the command half of `Axle::update` (lines 300-308) -/
def axleCmdPhase (w1 : World F) (is : List Nat) : World F :=
  match is.foldl (fun (m : Option (Datum (Command F))) i =>
    (Datum.replaceIfNoneOrOlderThanOption m (w1.getCommand i)).1) none with
  | some dc => is.foldl (fun w' i => w'.setCommand i dc) w1
  | none => w1

theorem invert_update_phases (w : World F) (i1 i2 : Nat) :
    Invert.update w i1 i2 = invertCmdPhase (invertStatePhase w i1 i2) i1 i2 := rfl
theorem gear_update_phases (ratio : F) (w : World F) (i1 i2 : Nat) :
    GearTrain.update ratio w i1 i2 = gearCmdPhase ratio (gearStatePhase ratio w i1 i2) i1 i2 := rfl
theorem axle_update_phases (w : World F) (is : List Nat) :
    Axle.update w is = axleCmdPhase (axleStatePhase w is) is := rfl
end

variable {F : Type}

theorem invertStatePhase_statesOnly [Add F] [Sub F] [Div F] [Neg F] [FloatLike F] (w : World F) (i1 i2 : Nat) :
    StatesOnly [i1, i2] w (invertStatePhase w i1 i2) := by
  unfold invertStatePhase
  split
  · exact .refl _ _
  · exact (StatesOnly.refl _ _).setState (by simp) _
  · exact (StatesOnly.refl _ _).setState (by simp) _
  · exact ((StatesOnly.refl _ _).setState (by simp) _).setState (by simp) _

theorem invertCmdPhase_cmdsOnly [Neg F] (w1 : World F) (i1 i2 : Nat) :
    CmdsOnly [i1, i2] w1 (invertCmdPhase w1 i1 i2) := by
  -- whichever command `m` the two `replace_if_none_or_older_than` calls settle on, it goes to both terminals
  have relay : ∀ m : Option (Datum (Command F)), CmdsOnly [i1, i2] w1
      (match m with
        | some dc => (w1.setCommand i1 dc).setCommand i2 (Datum.map Command.neg dc)
        | none => w1) := fun m => by
    cases m
    · exact .refl _ _
    · exact ((CmdsOnly.refl _ _).setCommand (by simp) _).setCommand (by simp) _
  exact relay _

theorem gearStatePhase_statesOnly [Add F] [Mul F] [Div F] [FloatLike F] (ratio : F) (w : World F) (i1 i2 : Nat) :
    StatesOnly [i1, i2] w (gearStatePhase ratio w i1 i2) := by
  unfold gearStatePhase
  split
  · exact ((StatesOnly.refl _ _).setState (by simp) _).setState (by simp) _
  · exact (StatesOnly.refl _ _).setState (by simp) _
  · exact (StatesOnly.refl _ _).setState (by simp) _
  · exact .refl _ _

theorem gearCmdPhase_cmdsOnly [Mul F] [Div F] (ratio : F) (w1 : World F) (i1 i2 : Nat) :
    CmdsOnly [i1, i2] w1 (gearCmdPhase ratio w1 i1 i2) := by
  unfold gearCmdPhase
  split
  · split
    · exact (CmdsOnly.refl _ _).setCommand (by simp) _
    · exact (CmdsOnly.refl _ _).setCommand (by simp) _
  · exact (CmdsOnly.refl _ _).setCommand (by simp) _
  · exact (CmdsOnly.refl _ _).setCommand (by simp) _
  · exact .refl _ _

theorem axleStatePhase_statesOnly [Add F] [Div F] [FloatLike F] (w : World F) (is : List Nat) :
    StatesOnly is w (axleStatePhase w is) := by
  simp only [axleStatePhase]
  split
  · exact List.foldlRecOn is _ (.refl _ _) fun _ hv _ hi => hv.setState hi _
  · exact .refl _ _

theorem axleCmdPhase_cmdsOnly (w1 : World F) (is : List Nat) : CmdsOnly is w1 (axleCmdPhase w1 is) := by
  unfold axleCmdPhase
  split
  · exact List.foldlRecOn is _ (.refl _ _) fun _ hv _ hi => hv.setCommand hi _
  · exact .refl _ _

end Rrtk.Thm.C13
