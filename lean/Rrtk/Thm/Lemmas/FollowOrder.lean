/-
C15, order-irrelevance of the follower updates of `Rrtk/TermFollow.lean`.

The checking framework compares the real code with the model only up to the first erroring update, on the grounds that no
property fixes the ORDERS (command slot before state slot; owned terminals in declaration order).  Here: when no followed
getter errs, those orders do not matter — the result is the same world (full structural equality) and `.ok ()`.
Everything is read off one closed form: a terminal update rewrites its terminal by `followTerm` of the getters that take
effect and touches nothing else (`terminalUpdate_eq`, errors included; `update_terminals_closed` for a list of terminals).
It is put together from the two slots, each followed on its own (`followCommand_eq`, `followState_eq`): they are different
fields of the terminal, so either order of the two gives `followTerm` of both (`applyFollowed_slots`).

Tier S: the scalar type is arbitrary, nothing here computes with it.
-/
import Rrtk.TermFollow
import Rrtk.Thm.Lemmas.World
namespace Rrtk.Thm.C15
open Rrtk

variable {F : Type}

/-- the error a terminal update reports, if any (command getter asked first); `none` = neither followed getter errs.
(Same function as `followedErr` of `Rrtk/Thm/Ext/C15.lean`, which imports this file.) -/
def followedErr' (fo : Followed F) : Option Err :=
  match fo.command with
  | some (.error e) => some e
  | _ =>
    match fo.state with
    | some (.error e) => some e
    | _ => none

/-- the other order of `impl Updatable for Terminal`: state slot, `?`, command slot, `?` -/
def terminalUpdateStateFirst (w : World F) (i : Nat) (fo : Followed F) : World F × UpdRet :=
  match w.followState i fo.state with
  | (w1, .error e) => (w1, .error e)
  | (w1, .ok _) => w1.followCommand i fo.command

/-- what a successful terminal update does to the terminal itself: each slot whose getter has a present value takes it -/
def followTerm (fo : Followed F) (x : Term F) : Term F :=
  { state := match fo.state with
      | some (.ok (some d)) => some d.value
      | _ => x.state
    command := match fo.command with
      | some (.ok (some d)) => some d.value
      | _ => x.command
    other := x.other }

/-- closed form of a successful terminal update -/
def applyFollowed (w : World F) (i : Nat) (fo : Followed F) : World F := w.setT i (followTerm fo (w.t i))

/-- closed form of a successful `update_terminals`: exactly the listed terminals are rewritten, each by its own getters -/
def followAll (w : World F) (fo : Nat → Followed F) (is : List Nat) : World F :=
  ⟨w.n, fun j => if j ∈ is then followTerm (fo j) (w.t j) else w.t j⟩

/-- each field of the result depends on its own getter only, so the two slots are swept one after the other -/
theorem followTerm_idem (fo : Followed F) (x : Term F) : followTerm fo (followTerm fo x) = followTerm fo x := by
  obtain ⟨fc, fs⟩ := fo
  refine World.term_ext ?_ ?_ rfl
  · rcases fs with _ | (e | _ | ds) <;> rfl
  · rcases fc with _ | (e | _ | dc) <;> rfl

/-- the getters that take effect in a terminal update: after an error of the command getter the state getter is not asked
(an erring getter itself forwards nothing: `followTerm`) -/
def effective (fo : Followed F) : Followed F :=
  match fo.command with
  | some (.error _) => Followed.nothing
  | _ => fo

theorem effective_of_ok : ∀ {fo : Followed F}, followedErr' fo = none → effective fo = fo
  | ⟨some (.error _), _⟩, h => nomatch h
  | ⟨none, _⟩, _ | ⟨some (.ok _), _⟩, _ => rfl

/-- The two slots are different fields of the terminal and `followTerm` of one getter leaves the other field as it is:
following one getter and then the other, in either order, is `followTerm` of both (`rfl` on the terminal). -/
theorem applyFollowed_slots (w : World F) (i : Nat) (fc : Option (Output (Datum (Command F))))
    (fs : Option (Output (Datum (State F)))) :
    applyFollowed (applyFollowed w i ⟨fc, none⟩) i ⟨none, fs⟩ = applyFollowed w i ⟨fc, fs⟩ ∧
    applyFollowed (applyFollowed w i ⟨none, fs⟩) i ⟨fc, none⟩ = applyFollowed w i ⟨fc, fs⟩ := by
  simp only [applyFollowed, World.setT_t_self, World.setT_setT]
  exact ⟨rfl, rfl⟩

/-- Following the command getter is a terminal update that follows nothing else: only a present value writes the slot,
in the three other forms the terminal is put back as it is. -/
theorem followCommand_eq (w : World F) (i : Nat) (fc : Option (Output (Datum (Command F)))) :
    w.followCommand i fc =
      (applyFollowed w i ⟨fc, none⟩, match followedErr' ⟨fc, none⟩ with | some e => .error e | none => .ok ()) := by
  rcases fc with _ | (e | _ | dc)
  case some.ok.some => rfl
  all_goals exact congrArg (·, _) (World.setT_self w i).symm

theorem followState_eq (w : World F) (i : Nat) (fs : Option (Output (Datum (State F)))) :
    w.followState i fs =
      (applyFollowed w i ⟨none, fs⟩, match followedErr' ⟨none, fs⟩ with | some e => .error e | none => .ok ()) := by
  rcases fs with _ | (e | _ | ds)
  case some.ok.some => rfl
  all_goals exact congrArg (·, _) (World.setT_self w i).symm

/-- A terminal update — errors included — rewrites terminal `i` by `followTerm` of the getters that take effect, touches
nothing else, and returns the first error: the command slot (`followCommand_eq`), and unless its getter errs the state slot
on top of it (`followState_eq`, `applyFollowed_slots`). -/
theorem terminalUpdate_eq (w : World F) (i : Nat) (fo : Followed F) :
    w.terminalUpdate i fo =
      (applyFollowed w i (effective fo), match followedErr' fo with | some e => .error e | none => .ok ()) := by
  obtain ⟨fc, fs⟩ := fo
  rw [World.terminalUpdate, followCommand_eq]
  rcases fc with _ | (e | _ | dc)
  case some.error => rfl
  all_goals exact (followState_eq _ i fs).trans (congrArg (·, _) (applyFollowed_slots w i _ fs).1)

theorem terminal_update_closed (w : World F) (i : Nat) (fo : Followed F) (h : followedErr' fo = none) :
    w.terminalUpdate i fo = (applyFollowed w i fo, .ok ()) := by
  rw [terminalUpdate_eq, effective_of_ok h, h]

/-- the other order: the state slot, and unless the command getter errs (`h` excludes that, and says that the state getter
does not err either) the command slot on top of it -/
theorem terminal_update_state_first_closed (w : World F) (i : Nat) (fo : Followed F) (h : followedErr' fo = none) :
    terminalUpdateStateFirst w i fo = (applyFollowed w i fo, .ok ()) := by
  obtain ⟨fc, fs⟩ := fo
  rw [terminalUpdateStateFirst, followState_eq]
  rcases fc with _ | (e | oc)
  case some.error => cases h
  all_goals
    rw [show followedErr' ⟨none, fs⟩ = none from h]
    exact (followCommand_eq _ i _).trans (congrArg (·, _) (applyFollowed_slots w i _ fs).2)

theorem applyFollowed_t_self (w : World F) (i : Nat) (fo : Followed F) :
    (applyFollowed w i fo).t i = followTerm fo (w.t i) := World.setT_t_self w i _

theorem applyFollowed_t_ne (w : World F) {i j : Nat} (fo : Followed F) (h : j ≠ i) :
    (applyFollowed w i fo).t j = w.t j := World.setT_t_ne w _ h

theorem applyFollowed_idem (w : World F) (i : Nat) (fo : Followed F) :
    applyFollowed (applyFollowed w i fo) i fo = applyFollowed w i fo := by
  simp only [applyFollowed, World.setT_t_self, World.setT_setT, followTerm_idem]

theorem applyFollowed_comm (w : World F) {i j : Nat} (h : i ≠ j) (fi fj : Followed F) :
    applyFollowed (applyFollowed w i fi) j fj = applyFollowed (applyFollowed w j fj) i fi := by
  simp only [applyFollowed, World.setT_t_ne _ _ h, World.setT_t_ne _ _ (Ne.symm h)]
  exact World.setT_comm w h _ _

theorem followAll_cons (w : World F) (fo : Nat → Followed F) (i : Nat) (is : List Nat) :
    followAll (applyFollowed w i (fo i)) fo is = followAll w fo (i :: is) := by
  refine World.world_ext rfl fun k => ?_
  show (if k ∈ is then followTerm (fo k) ((applyFollowed w i (fo i)).t k) else (applyFollowed w i (fo i)).t k) =
    if k ∈ i :: is then followTerm (fo k) (w.t k) else w.t k
  by_cases hki : k = i
  · -- terminal `i` is rewritten already; whether `is` lists it again or not makes no difference (`followTerm_idem`)
    subst hki
    rw [applyFollowed_t_self, followTerm_idem, ite_self, if_pos List.mem_cons_self]
  · simp only [applyFollowed_t_ne w _ hki, List.mem_cons, hki, false_or]

/-- one step of `update_terminals`: the first terminal's update in closed form, then the rest unless it erred -/
theorem updateTerminals_cons (w : World F) (fo : Nat → Followed F) (i : Nat) (is : List Nat) :
    w.updateTerminals fo (i :: is) =
      match followedErr' (fo i) with
      | some e => (applyFollowed w i (effective (fo i)), .error e)
      | none => (applyFollowed w i (effective (fo i))).updateTerminals fo is := by
  rw [World.updateTerminals, terminalUpdate_eq]
  cases followedErr' (fo i) <;> rfl

theorem update_terminals_closed (w : World F) (fo : Nat → Followed F) (is : List Nat)
    (h : ∀ i ∈ is, followedErr' (fo i) = none) :
    w.updateTerminals fo is = (followAll w fo is, .ok ()) := by
  induction is generalizing w with
  | nil => exact congrArg (·, _) (World.world_ext rfl (fun _ => rfl)).symm
  | cons i is ih =>
    have hi := h i List.mem_cons_self
    rw [updateTerminals_cons, hi, effective_of_ok hi, ih _ (fun j hj => h j (List.mem_cons_of_mem _ hj)), followAll_cons]

/-- only which terminals are listed matters — neither their order nor how often each occurs -/
theorem update_terminals_of_same_members (w : World F) (fo : Nat → Followed F) (is is' : List Nat)
    (h : ∀ i ∈ is, followedErr' (fo i) = none) (hm : ∀ k, k ∈ is' ↔ k ∈ is) :
    w.updateTerminals fo is' = w.updateTerminals fo is := by
  rw [update_terminals_closed w fo is h, update_terminals_closed w fo is' (fun i hi => h i ((hm i).1 hi))]
  exact congrArg (·, _) (World.world_ext rfl (fun k => by simp only [followAll, hm]))

/-- Setting the state slot of terminal `i` and the command slot of terminal `j` commute — also for `i = j`
(full equality of worlds). -/
theorem set_state_command_comm (w : World F) (i j : Nat) (d : Datum (State F)) (c : Datum (Command F)) :
    (w.setState i d).setCommand j c = (w.setCommand j c).setState i d := by
  by_cases hij : i = j
  · subst hij; simp only [World.setState, World.setCommand, World.setT_t_self, World.setT_setT]
  · simp only [World.setState, World.setCommand, World.setT_t_ne _ _ hij, World.setT_t_ne _ _ (Ne.symm hij)]
    exact World.setT_comm w hij _ _

/-- When neither followed getter errs, the two slot orders of a terminal update give `.ok ()` and the same world. -/
theorem terminal_update_order_irrelevant (w : World F) (i : Nat) (fo : Followed F) (h : followedErr' fo = none) :
    (w.terminalUpdate i fo).2 = .ok () ∧ (terminalUpdateStateFirst w i fo).2 = .ok () ∧
    (w.terminalUpdate i fo).1 = (terminalUpdateStateFirst w i fo).1 := by
  rw [terminal_update_closed w i fo h, terminal_update_state_first_closed w i fo h]
  exact ⟨rfl, rfl, rfl⟩

example : followedErr' (⟨some (.ok (some ⟨3, ⟨5, .position 1⟩⟩)), some (.ok none)⟩ : Followed Int) = none := rfl
example : followedErr' (⟨some (.ok (some ⟨3, ⟨5, .velocity 2⟩⟩)), some (.ok (some ⟨4, ⟨6, ⟨1, 2, 3⟩⟩⟩))⟩ : Followed Int) = none := rfl
/-- the hypothesis is needed: with an erring state getter the two orders differ (the command is forwarded or not) -/
example :
    (((World.empty : World Int).terminalUpdate 0 ⟨some (.ok (some ⟨3, ⟨5, .position 1⟩⟩)), some (.error .fromNone)⟩).1.t 0).command.isSome = true
    ∧ ((terminalUpdateStateFirst (World.empty : World Int) 0 ⟨some (.ok (some ⟨3, ⟨5, .position 1⟩⟩)), some (.error .fromNone)⟩).1.t 0).command.isSome = false :=
  ⟨rfl, rfl⟩

/-- Updates of two terminals commute when no getter errs (each rewrites only its own terminal's slots); for `i = j` the
two `Followed` must be the same (then the update is idempotent) — which is the case in `updateTerminals`, where the
`Followed` is a function of the terminal index. -/
theorem terminal_update_comm (w : World F) (i j : Nat) (fi fj : Followed F)
    (hi : followedErr' fi = none) (hj : followedErr' fj = none) (hsame : i = j → fi = fj) :
    ((w.terminalUpdate i fi).1.terminalUpdate j fj).2 = .ok () ∧
    ((w.terminalUpdate j fj).1.terminalUpdate i fi).2 = .ok () ∧
    ((w.terminalUpdate i fi).1.terminalUpdate j fj).1 = ((w.terminalUpdate j fj).1.terminalUpdate i fi).1 := by
  simp only [terminal_update_closed _ _ _ hi, terminal_update_closed _ _ _ hj, true_and]
  by_cases hij : i = j
  · cases hsame hij; subst hij; rfl
  · exact applyFollowed_comm w hij fi fj

example : (0 : Nat) = 1 → (⟨some (.ok (some ⟨3, ⟨5, .position 1⟩⟩)), none⟩ : Followed Int) = ⟨none, none⟩ :=
  fun h => absurd h (by decide)

theorem terminal_update_idem (w : World F) (i : Nat) (fo : Followed F) (h : followedErr' fo = none) :
    (w.terminalUpdate i fo).1.terminalUpdate i fo = w.terminalUpdate i fo := by
  simp only [terminal_update_closed _ _ _ h, applyFollowed_idem]

/-- `update_terminals` over a permutation of the terminal list (which may list a terminal more than once): when no listed
terminal has an erring followed getter, both return `.ok ()` and the same world (full structural equality, hence same `n`
and same `t` pointwise). -/
theorem update_terminals_perm (w : World F) (fo : Nat → Followed F) (is is' : List Nat)
    (h : ∀ i ∈ is, followedErr' (fo i) = none) (hp : is'.Perm is) :
    (w.updateTerminals fo is').2 = .ok () ∧ (w.updateTerminals fo is).2 = .ok () ∧
    (w.updateTerminals fo is').1 = (w.updateTerminals fo is).1 := by
  rw [update_terminals_of_same_members w fo is is' h (fun _ => hp.mem_iff), update_terminals_closed w fo is h]
  exact ⟨rfl, rfl, rfl⟩

theorem update_terminals_perm_pointwise (w : World F) (fo : Nat → Followed F) (is is' : List Nat)
    (h : ∀ i ∈ is, followedErr' (fo i) = none) (hp : is'.Perm is) :
    (w.updateTerminals fo is').1.n = (w.updateTerminals fo is).1.n ∧
    ∀ k, (w.updateTerminals fo is').1.t k = (w.updateTerminals fo is).1.t k := by
  rw [(update_terminals_perm w fo is is' h hp).2.2]
  exact ⟨rfl, fun _ => rfl⟩

/-- which terminals a successful `update_terminals` touches, and how: exactly the listed ones, each by its own getters,
whatever the order and multiplicity in the list -/
theorem update_terminals_result (w : World F) (fo : Nat → Followed F) (is : List Nat)
    (h : ∀ i ∈ is, followedErr' (fo i) = none) (k : Nat) :
    (w.updateTerminals fo is).1.n = w.n ∧
    (w.updateTerminals fo is).1.t k = if k ∈ is then followTerm (fo k) (w.t k) else w.t k := by
  rw [update_terminals_closed w fo is h]
  exact ⟨rfl, rfl⟩

/-- a scripted assignment of getters used by the examples: terminal 0 follows a command getter with a present value,
terminal 1 a state getter with a present value, the others nothing -/
def exFo : Nat → Followed Int
  | 0 => ⟨some (.ok (some ⟨3, ⟨5, .position 1⟩⟩)), some (.ok none)⟩
  | 1 => ⟨none, some (.ok (some ⟨4, ⟨6, ⟨1, 2, 3⟩⟩⟩))⟩
  | _ => Followed.nothing

example : (∀ i ∈ [0, 1, 1], followedErr' (exFo i) = none) ∧ [1, 0, 1].Perm [0, 1, 1] :=
  ⟨by decide, List.Perm.swap 0 1 [1]⟩
/-- … and the updates do something in that instance -/
example : ((((World.empty : World Int).addTerms 2).updateTerminals exFo [1, 0, 1]).1.t 0).command.isSome = true := rfl

/-- the corollary for a device `update()` with followers: the order of the owned terminals is irrelevant when no
followed getter errs. -/
theorem update_with_followers_perm (upd : World F → World F) (w : World F) (fo : Nat → Followed F) (is is' : List Nat)
    (h : ∀ i ∈ is, followedErr' (fo i) = none) (hp : is'.Perm is) :
    (updateWithFollowers upd is' w fo).2 = .ok () ∧ (updateWithFollowers upd is w fo).2 = .ok () ∧
    (updateWithFollowers upd is' w fo).1 = (updateWithFollowers upd is w fo).1 := by
  unfold updateWithFollowers
  rw [update_terminals_of_same_members w fo is is' h (fun _ => hp.mem_iff), update_terminals_closed w fo is h]
  exact ⟨rfl, rfl, rfl⟩

example : (∀ i ∈ [0, 1], followedErr' (exFo i) = none) ∧ [1, 0].Perm [0, 1] :=
  ⟨by decide, List.Perm.swap 0 1 []⟩

end Rrtk.Thm.C15
