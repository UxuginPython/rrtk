/-
C19, programs.  `erase_program_partial` (`Thm/C19.lean`) covers expression trees over nine `Quantity` operations.  Here
(`erase_program_ext`) a program is a list of instructions of a register machine with quantity registers, `State` registers and a
log of the non-quantity observations (orderings, booleans, converted integers).  The instruction set contains the nine
operations of `QExp` and every remaining operation of `dimensions.rs` / `state.rs` / `command.rs` that consults a unit:
comparison, `==`, `Time::try_from`, `DimensionlessInteger::try_from`, `State::new`, the three setters, `State::get_value`,
`State::update` and `Quantity::from(Command)`.
-/
import Rrtk.Thm.C19
set_option linter.unusedSectionVars false
namespace Rrtk.Thm.C19
open Rrtk

variable {F : Type} [Add F] [Sub F] [Mul F] [Div F] [Neg F] [LT F] [LE F] [BEq F]
  [DecidableLT F] [DecidableLE F] [FloatLike F]

/-- what a program can observe besides quantities and states -/
inductive Obs where
  | ord (o : Option Ordering)
  | bool (b : Bool)
  | int (n : Option Int)
  deriving DecidableEq, Repr

/-- registers and the observation log (newest first) -/
structure Env (F : Type) where
  q : Nat → Quantity F
  s : Nat → State F
  log : List Obs

/-- the same with plain scalars in the quantity registers -/
structure SEnv (F : Type) where
  q : Nat → F
  s : Nat → State F
  log : List Obs

def Env.setQ (e : Env F) (d : Nat) (x : Quantity F) : Env F := { e with q := fun j => if j = d then x else e.q j }
def Env.setS (e : Env F) (d : Nat) (x : State F) : Env F := { e with s := fun j => if j = d then x else e.s j }
def Env.emit (e : Env F) (o : Obs) : Env F := { e with log := o :: e.log }
def SEnv.setQ (e : SEnv F) (d : Nat) (x : F) : SEnv F := { e with q := fun j => if j = d then x else e.q j }
def SEnv.setS (e : SEnv F) (d : Nat) (x : State F) : SEnv F := { e with s := fun j => if j = d then x else e.s j }
def SEnv.emit (e : SEnv F) (o : Obs) : SEnv F := { e with log := o :: e.log }

/-- erasure of an environment: every quantity register erased; states, log kept -/
def eraseEnv (e : Env F) : Env F := ⟨fun j => eraseQ (e.q j), e.s, e.log⟩
/-- the numbers in an environment -/
def scalarOf (e : Env F) : SEnv F := ⟨fun j => (e.q j).value, e.s, e.log⟩

theorem scalarOf_eraseEnv (e : Env F) : scalarOf (eraseEnv e) = scalarOf e := rfl
theorem eraseEnv_log (e : Env F) : (eraseEnv e).log = e.log := rfl
theorem eraseEnv_s (e : Env F) : (eraseEnv e).s = e.s := rfl
theorem eraseEnv_q (e : Env F) (j : Nat) : ((eraseEnv e).q j).value = (e.q j).value := rfl

theorem eraseEnv_setQ (e : Env F) (d : Nat) (x : Quantity F) :
    eraseEnv (e.setQ d x) = (eraseEnv e).setQ d (eraseQ x) := by
  simp only [eraseEnv, Env.setQ]
  congr 1
  funext j
  split <;> rfl
theorem eraseEnv_setS (e : Env F) (d : Nat) (x : State F) : eraseEnv (e.setS d x) = (eraseEnv e).setS d x := rfl
theorem eraseEnv_emit (e : Env F) (o : Obs) : eraseEnv (e.emit o) = (eraseEnv e).emit o := rfl
theorem scalarOf_setQ (e : Env F) (d : Nat) (x : Quantity F) :
    scalarOf (e.setQ d x) = (scalarOf e).setQ d x.value := by
  simp only [scalarOf, Env.setQ, SEnv.setQ]
  congr 1
  funext j
  split <;> rfl
theorem scalarOf_setS (e : Env F) (d : Nat) (x : State F) : scalarOf (e.setS d x) = (scalarOf e).setS d x := rfl
theorem scalarOf_emit (e : Env F) (o : Obs) : scalarOf (e.emit o) = (scalarOf e).emit o := rfl

/-- instructions; `d` is always the destination register -/
inductive Instr (F : Type) where
  /-- `Quantity::new(v, Unit::new(mm, s))` -/
  | lit (d : Nat) (v : F) (mm s : Int)
  | add (d a b : Nat)
  | sub (d a b : Nat)
  | mul (d a b : Nat)
  | div (d a b : Nat)
  | neg (d a : Nat)
  | abs (d a : Nat)
  /-- `Quantity::from(Time(t))` -/
  | ofTime (d : Nat) (t : Int)
  /-- `Quantity::from(DimensionlessInteger(n))` -/
  | ofDimInt (d : Nat) (n : Int)
  /-- `Quantity::from(command)` -/
  | ofCommand (d : Nat) (c : Command F)
  /-- log `a.partial_cmp(&b)` (panics on a unit mismatch when checked) -/
  | cmp (a b : Nat)
  /-- log `a == b` -/
  | eq (a b : Nat)
  /-- log `Time::try_from(a)` -/
  | toTime (a : Nat)
  /-- log `DimensionlessInteger::try_from(a)` -/
  | toDimInt (a : Nat)
  /-- state register `d := State::new(p, v, a)` (three unit assertions) -/
  | stateNew (d p v a : Nat)
  /-- state register `d := State::new_raw(..)` -/
  | stateLit (d : Nat) (st : State F)
  /-- `state[d].set_constant_acceleration(q[a])`, logging whether it returned `Ok` -/
  | setAcc (d a : Nat)
  | setVel (d a : Nat)
  | setPos (d a : Nat)
  /-- `q[d] := state[sr].get_value(pd)` -/
  | getValue (d sr : Nat) (pd : PosDer)
  /-- `state[d].update(Time(dt))` through the `Quantity` operators -/
  | stateUpdate (d : Nat) (dt : Int)

/-- one instruction, with the model operators -/
def exec (chk : Bool) : Instr F → Env F → Except Panic (Env F)
  | .lit d v mm s, e => .ok (e.setQ d ⟨v, DUnit.new chk mm s⟩)
  | .add d a b, e =>
    match Quantity.add chk (e.q a) (e.q b) with
    | .ok r => .ok (e.setQ d r)
    | .error p => .error p
  | .sub d a b, e =>
    match Quantity.sub chk (e.q a) (e.q b) with
    | .ok r => .ok (e.setQ d r)
    | .error p => .error p
  | .mul d a b, e => .ok (e.setQ d (Quantity.mul chk (e.q a) (e.q b)))
  | .div d a b, e => .ok (e.setQ d (Quantity.div chk (e.q a) (e.q b)))
  | .neg d a, e => .ok (e.setQ d (Quantity.neg (e.q a)))
  | .abs d a, e => .ok (e.setQ d (Quantity.abs (e.q a)))
  | .ofTime d t, e => .ok (e.setQ d (Quantity.ofTime chk t))
  | .ofDimInt d n, e => .ok (e.setQ d (Quantity.ofDimInt chk n))
  | .ofCommand d c, e => .ok (e.setQ d (Command.toQuantity chk c))
  | .cmp a b, e =>
    match Quantity.partialCmp chk (e.q a) (e.q b) with
    | .ok o => .ok (e.emit (.ord o))
    | .error p => .error p
  | .eq a b, e => .ok (e.emit (.bool (Quantity.eq chk (e.q a) (e.q b))))
  | .toTime a, e => .ok (e.emit (.int (Time.tryOfQuantity chk (e.q a))))
  | .toDimInt a, e => .ok (e.emit (.int (DimInt.tryOfQuantity chk (e.q a))))
  | .stateNew d p v a, e =>
    match State.new chk (e.q p) (e.q v) (e.q a) with
    | .ok st => .ok (e.setS d st)
    | .error p => .error p
  | .stateLit d st, e => .ok (e.setS d st)
  | .setAcc d a, e =>
    .ok ((e.setS d (State.setConstantAcceleration chk (e.s d) (e.q a)).1).emit
      (.bool (State.setConstantAcceleration chk (e.s d) (e.q a)).2))
  | .setVel d a, e =>
    .ok ((e.setS d (State.setConstantVelocity chk (e.s d) (e.q a)).1).emit
      (.bool (State.setConstantVelocity chk (e.s d) (e.q a)).2))
  | .setPos d a, e =>
    .ok ((e.setS d (State.setConstantPosition chk (e.s d) (e.q a)).1).emit
      (.bool (State.setConstantPosition chk (e.s d) (e.q a)).2))
  | .getValue d sr pd, e => .ok (e.setQ d ((e.s sr).getValue chk pd))
  | .stateUpdate d dt, e =>
    match State.updateQ chk (e.s d) dt with
    | .ok st => .ok (e.setS d st)
    | .error p => .error p

/-- the plain scalar meaning of an instruction: no units anywhere, nothing can fail, nothing is rejected -/
def execScalar : Instr F → SEnv F → SEnv F
  | .lit d v _ _, e => e.setQ d v
  | .add d a b, e => e.setQ d (e.q a + e.q b)
  | .sub d a b, e => e.setQ d (e.q a - e.q b)
  | .mul d a b, e => e.setQ d (e.q a * e.q b)
  | .div d a b, e => e.setQ d (e.q a / e.q b)
  | .neg d a, e => e.setQ d (- e.q a)
  | .abs d a, e => e.setQ d (FloatLike.absF (e.q a))
  | .ofTime d t, e => e.setQ d ((FloatLike.ofInt t : F) / c1e9)
  | .ofDimInt d n, e => e.setQ d (FloatLike.ofInt n)
  | .ofCommand d c, e => e.setQ d c.raw
  | .cmp a b, e => e.emit (.ord (Quantity.cmpF (e.q a) (e.q b)))
  | .eq a b, e => e.emit (.bool (e.q a == e.q b))
  | .toTime a, e => e.emit (.int (some (FloatLike.toInt (e.q a * c1e9))))
  | .toDimInt a, e => e.emit (.int (some (FloatLike.toInt (e.q a))))
  | .stateNew d p v a, e => e.setS d ⟨e.q p, e.q v, e.q a⟩
  | .stateLit d st, e => e.setS d st
  | .setAcc d a, e => (e.setS d (State.setConstantAccelerationRaw (e.s d) (e.q a))).emit (.bool true)
  | .setVel d a, e => (e.setS d (State.setConstantVelocityRaw (e.s d) (e.q a))).emit (.bool true)
  | .setPos d a, e => (e.setS d (State.setConstantPositionRaw (e.s d) (e.q a))).emit (.bool true)
  | .getValue d sr pd, e =>
    e.setQ d (match pd with
      | .position => (e.s sr).position | .velocity => (e.s sr).velocity | .acceleration => (e.s sr).acceleration)
  | .stateUpdate d dt, e => e.setS d (State.update (e.s d) dt)

/-- a program: instructions in order, stopping at the first panic -/
def run (chk : Bool) : List (Instr F) → Env F → Except Panic (Env F)
  | [], e => .ok e
  | i :: is, e =>
    match exec chk i e with
    | .error p => .error p
    | .ok e' => run chk is e'

def runScalar : List (Instr F) → SEnv F → SEnv F
  | [], e => e
  | i :: is, e => runScalar is (execScalar i e)

/-- the non-panicking ways in which the checked build consults a unit: `==` (derived `PartialEq` compares the units
too), the two `try_from` conversions and the three setters (which answer `Err` on a unit mismatch).  An instruction is
*accepted* in an environment when, with checking compiled in, `==` compares quantities of equal unit, the conversion
succeeds, the setter returns `Ok`.  Every other instruction either panics on a mismatch or does not consult a unit. -/
def accepted : Instr F → Env F → Bool
  | .eq a b, e => decide ((e.q a).unit = (e.q b).unit)
  | .toTime a, e => (Time.tryOfQuantity true (e.q a)).isSome
  | .toDimInt a, e => (DimInt.tryOfQuantity true (e.q a)).isSome
  | .setAcc d a, e => (State.setConstantAcceleration true (e.s d) (e.q a)).2
  | .setVel d a, e => (State.setConstantVelocity true (e.s d) (e.q a)).2
  | .setPos d a, e => (State.setConstantPosition true (e.s d) (e.q a)).2
  | _, _ => true

/-- a dimensionally correct program: along its checked run every instruction is accepted (that the run does not panic
is the other half, `run true p e = .ok e'`) -/
def wellDim : List (Instr F) → Env F → Bool
  | [], _ => true
  | i :: is, e =>
    accepted i e && (match exec true i e with
      | .ok e' => wellDim is e'
      | .error _ => true)

theorem exec_sim (i : Instr F) (e : Env F) (ha : accepted i e = true) :
    Sim eraseEnv (exec true i e) (exec false i (eraseEnv e)) := by
  cases i with
  | add d a b =>
    simp only [exec]
    exact (add_sim (e.q a) (e.q b)).elim (fun _ _ => .error _ _) fun r => .ok' (eraseEnv_setQ _ _ _)
  | sub d a b =>
    simp only [exec]
    exact (sub_sim (e.q a) (e.q b)).elim (fun _ _ => .error _ _) fun r => .ok' (eraseEnv_setQ _ _ _)
  | cmp a b =>
    simp only [exec]
    exact (partialCmp_sim (e.q a) (e.q b)).elim (fun _ _ => .error _ _) fun r => .ok _
  | stateNew d p v a =>
    simp only [exec]
    exact (state_new_sim (e.q p) (e.q v) (e.q a)).elim (fun _ _ => .error _ _) fun r => .ok _
  | ofCommand d c => cases c <;> exact .ok' (eraseEnv_setQ _ _ _)
  | getValue d sr pd => cases pd <;> exact .ok' (eraseEnv_setQ _ _ _)
  | eq a b => exact .ok' (congrArg (fun x => (eraseEnv e).emit (.bool x)) (erase_eq (of_decide_eq_true ha)).symm)
  | toTime a =>
    obtain ⟨n, hn⟩ := Option.isSome_iff_exists.1 ha
    exact .ok' (by rw [hn, ← erase_Time_tryOfQuantity hn]; rfl)
  | toDimInt a =>
    obtain ⟨n, hn⟩ := Option.isSome_iff_exists.1 ha
    exact .ok' (by rw [hn, ← erase_DimInt_tryOfQuantity hn]; rfl)
  | setAcc d a => exact .ok' (by rw [← erase_setConstantAcceleration ha]; rfl)
  | setVel d a => exact .ok' (by rw [← erase_setConstantVelocity ha]; rfl)
  | setPos d a => exact .ok' (by rw [← erase_setConstantPosition ha]; rfl)
  | stateLit d st => exact .ok _
  | stateUpdate d dt => exact .ok _
  -- `lit`, `mul`, `div`, `neg`, `abs`, `ofTime`, `ofDimInt`: total, the result erases by computation
  | _ => exact .ok' (eraseEnv_setQ _ _ _)

theorem exec_unchecked (i : Instr F) (e : Env F) :
    ∃ e', exec false i e = .ok e' ∧ scalarOf e' = execScalar i (scalarOf e) := by
  cases i with
  | ofCommand d c => refine ⟨_, rfl, ?_⟩; rw [scalarOf_setQ]; cases c <;> rfl
  | getValue d sr pd => refine ⟨_, rfl, ?_⟩; rw [scalarOf_setQ]; cases pd <;> rfl
  | cmp | eq | toTime | toDimInt | stateNew | stateLit | setAcc | setVel | setPos | stateUpdate => exact ⟨_, rfl, rfl⟩
  -- the instructions that write a quantity register and nothing else
  | _ => exact ⟨_, rfl, scalarOf_setQ _ _ _⟩

theorem run_sim (p : List (Instr F)) (e : Env F) (hw : wellDim p e = true) :
    Sim eraseEnv (run true p e) (run false p (eraseEnv e)) := by
  induction p generalizing e with
  | nil => exact .ok e
  | cons i is ih =>
    simp only [wellDim, Bool.and_eq_true] at hw
    obtain ⟨ha, hw⟩ := hw
    simp only [run]
    -- `wellDim`'s condition on the rest is a `match` on the same `exec true i e`: reverted, so that `elim` decides it too
    revert hw
    exact (exec_sim i e ha).elim (fun _ _ _ => .error _ _) fun e1 hw => ih e1 hw

theorem run_unchecked (p : List (Instr F)) : ∀ e : Env F,
    ∃ e', run false p e = .ok e' ∧ scalarOf e' = runScalar p (scalarOf e) := by
  induction p with
  | nil => intro e; exact ⟨e, rfl, rfl⟩
  | cons i is ih =>
    intro e
    obtain ⟨e1, h1, hs1⟩ := exec_unchecked i e
    obtain ⟨e2, h2, hs2⟩ := ih e1
    exact ⟨e2, by simp only [run, h1, h2], by simp only [runScalar, ← hs1, hs2]⟩

/-- For every straight-line program over quantities, comparisons, `==`, the two `try_from`
conversions, `State::new`, the three setters, `State::get_value`, `State::update` and `Quantity::from(Command)`:

1. if it runs with dimension checking compiled in and is dimensionally correct (`wellDim`: every `==` compares equal
   units, every conversion and setter is accepted), it runs with checking compiled out on the erased registers and ends
   in the erased environment — equal quantity values, equal states, and the identical log of orderings, booleans and
   converted integers;
2. compiled out it never fails and nothing is rejected, whatever units the registers and literals carry, and the
   numbers it computes are those of the plain scalar program;
3. hence a dimensionally correct checked run also computes the plain scalar program.

Extends `erase_program_partial` (whose nine operations are the first nine instructions). -/
theorem erase_program_ext (p : List (Instr F)) (e : Env F) :
    (∀ e', run true p e = .ok e' → wellDim p e = true → run false p (eraseEnv e) = .ok (eraseEnv e')) ∧
    (∃ e'', run false p e = .ok e'' ∧ scalarOf e'' = runScalar p (scalarOf e)) ∧
    (∀ e', run true p e = .ok e' → wellDim p e = true → scalarOf e' = runScalar p (scalarOf e)) := by
  refine ⟨fun e' h hw => run_sim p e hw e' h, run_unchecked p e, fun e' h hw => ?_⟩
  have h1 := run_sim p e hw e' h
  obtain ⟨e'', h2, h3⟩ := run_unchecked p (eraseEnv e)
  rw [h1] at h2
  cases h2
  exact h3

namespace ProgExamples
def env0 : Env Int := ⟨fun _ => ⟨0, ⟨0, 0⟩⟩, fun _ => ⟨0, 0, 0⟩, []⟩

/-- `(2 mm/s · 5 s + 3 mm)`, compared with `3 mm` by `<` and `==`; `5 s` and a dimensionless `7` converted to integers; a
state built from `13 mm`, `2 mm/s`, `4 mm/s²`; its velocity set to `2 mm/s`; the state advanced by 1 s; its position read
back and added to `3 mm`; a velocity command converted and compared with the `2 mm/s` register -/
def prog : List (Instr Int) :=
  [.lit 0 2 1 (-1), .lit 1 5 0 1, .mul 2 0 1, .lit 3 3 1 0, .add 4 2 3, .cmp 4 3, .eq 4 3, .toTime 1,
   .ofDimInt 5 7, .toDimInt 5, .lit 6 4 1 (-2), .stateNew 0 4 0 6, .setVel 0 0, .stateUpdate 0 1000000000,
   .getValue 7 0 .position, .add 8 7 3, .ofCommand 9 (.velocity 2), .eq 9 0, .neg 10 9, .abs 10 10, .sub 10 10 0,
   .setAcc 0 6, .setPos 0 3, .ofTime 11 5, .div 12 4 11]

example : wellDim prog env0 = true := by decide
example : ∃ e', run true prog env0 = .ok e' ∧
    e'.log = [.bool true, .bool true, .bool true, .bool true, .int (some 7), .int (some 5000000000), .bool false,
      .ord (some .gt)] ∧ (e'.q 4).value = 13 ∧ (e'.q 4).unit = ⟨1, 0⟩ ∧ (e'.q 12).unit = ⟨1, -1⟩ := ⟨_, rfl, by decide⟩

/-- sharpness of the three side conditions collected in `wellDim`: a checked program that does NOT panic but compares
quantities of different units with `==`, converts a non-time to `Time`, or sets a velocity from a position, behaves
differently in the two builds.  (These are the only unit consultations of the crate that reject instead of panicking;
the derived `PartialEq` answers `false` for `1 mm == 1 s`, the hand-written one answers `true`.) -/
example : (run true [.lit 0 1 1 0, .lit 1 1 0 1, .eq 0 1] env0).map (·.log) = .ok [.bool false] ∧
    (run false [.lit 0 1 1 0, .lit 1 1 0 1, .eq 0 1] env0).map (·.log) = .ok [.bool true] := by decide
example : (run true [.lit 0 1 1 0, .toTime 0] env0).map (·.log) = .ok [.int none] ∧
    (run false [.lit 0 1 1 0, .toTime 0] env0).map (·.log) = .ok [.int (some 1000000000)] := by decide
example : (run true [.lit 0 1 1 0, .setVel 0 0] env0).map (·.log) = .ok [.bool false] ∧
    (run false [.lit 0 1 1 0, .setVel 0 0] env0).map (·.log) = .ok [.bool true] := by decide
example : wellDim [.lit 0 1 1 0, .lit 1 1 0 1, .eq 0 1] env0 = false := by decide
example : (run true [.lit 0 1 1 0, .lit 1 2 0 1, .add 2 0 1] env0).map (·.log) = .error .dim := by decide
example : (run false [.lit 0 1 1 0, .lit 1 2 0 1, .add 2 0 1] env0).map (fun e => (e.q 2).value) = .ok 3 := by decide
end ProgExamples
end Rrtk.Thm.C19
