/-
Motion profile, tier S throughout (`F` arbitrary, no algebraic law); shared by `Thm/C06.lean`, `Thm/C07.lean`, `Thm/C19.lean`.

* The constructor is an `if`-chain over `sgn`, `vMax`, `aMax`, `T1`, `D3`, `D2`: without checking the three asserts of
  `newSpec` (`new_false`), with checking those and two unit conditions on the limits (`new_true`).  So with limits in units
  it accepts `new` IS `newSpec` (`new_eq_newSpec`), and a successful construction had such limits (`goodLimits_of_ok`).
* Every accessor is the if-chain of `get_piece` with other leaves (`chain_eq_pick`), so it is a selection by piece
  (`getMode_eq`, `getAcceleration_eq`, `getVelocity_eq`); for a well-dimensioned profile (`WF`) the `Quantity`-level code
  returns exactly the value-level formulas `velF`, `pos1F`, `pos2F`, `pos3F` and never panics.
-/
import Rrtk.MotionProfile
import Rrtk.Thm.Lemmas.Dim
set_option linter.unusedSectionVars false
namespace Rrtk.Thm.MpL
open Rrtk

section S
variable {F : Type} [Add F] [Sub F] [Mul F] [Div F] [Neg F] [LT F] [LE F] [BEq F]
  [DecidableLT F] [DecidableLE F] [FloatLike F]

/-- `sign`: `-1.0` exactly when the end position is below the start position, else `+1.0` -/
def sgn (s e : State F) : F := if e.position < s.position then cm1 else c1
/-- signed `max_vel` -/
def vMax (s e : State F) (mv : F) : F := FloatLike.absF mv * sgn s e
/-- signed `max_acc` -/
def aMax (s e : State F) (ma : F) : F := FloatLike.absF ma * sgn s e
/-- `t1` in seconds -/
def T1 (s e : State F) (mv ma : F) : F := (vMax s e mv - s.velocity) / aMax s e ma
/-- `d_t3` in seconds -/
def D3 (s e : State F) (mv ma : F) : F := (e.velocity - vMax s e mv) / (- aMax s e ma)
/-- `d_t2` in seconds -/
def D2 (s e : State F) (mv ma : F) : F :=
  ((e.position - s.position) -
    ((s.velocity + vMax s e mv) / c2 * T1 s e mv ma + (vMax s e mv + e.velocity) / c2 * D3 s e mv ma)) / vMax s e mv
def T2 (s e : State F) (mv ma : F) : F := T1 s e mv ma + D2 s e mv ma
def T3 (s e : State F) (mv ma : F) : F := T2 s e mv ma + D3 s e mv ma

/-- what `new` returns when nothing panics, as a function of the checking flag -/
def newResult (chk : Bool) (s e : State F) (mv ma : F) : MotionProfile F :=
  ⟨⟨s.position, MILLIMETER chk⟩, ⟨s.velocity, MILLIMETER_PER_SECOND chk⟩,
    FloatLike.toInt (T1 s e mv ma * c1e9), FloatLike.toInt (T2 s e mv ma * c1e9), FloatLike.toInt (T3 s e mv ma * c1e9),
    ⟨aMax s e ma, MILLIMETER_PER_SECOND_SQUARED chk⟩, Command.ofState e⟩

theorem newResult_startVel_value (chk : Bool) (s e : State F) (mv ma : F) :
    (newResult chk s e mv ma).startVel.value = s.velocity := rfl
theorem newResult_maxAcc_value (chk : Bool) (s e : State F) (mv ma : F) :
    (newResult chk s e mv ma).maxAcc.value = aMax s e ma := rfl

/-- the value-level outcome of `new`: three asserts in source order, then the result -/
def newSpec (chk : Bool) (s e : State F) (mv ma : F) : Except Panic (MotionProfile F) :=
  if ¬ ((c0 : F) ≤ T1 s e mv ma) then .error .mpT1
  else if ¬ ((c0 : F) ≤ D3 s e mv ma) then .error .mpT3
  else if ¬ ((c0 : F) ≤ D2 s e mv ma) then .error .mpT2
  else .ok (newResult chk s e mv ma)

theorem new_false (s e : State F) (mv ma : Quantity F) :
    MotionProfile.new false s e mv ma = newSpec false s e mv.value ma.value := by
  rfl

/-- The checked constructor, completely: the order in which its two unit conditions and three asserts decide.  `max_vel`'s unit
is tested by the very first subtraction.  `max_acc`'s unit enters `t1` and `d_t3` (velocity over acceleration), whose
values the first two asserts read unchecked; it is tested when `d_t1_pos + d_t3_pos` (then mm/s · (mm/s)/`max_acc`) is
subtracted from the distance in mm.  After that every unit is known, so no later check and no `.expect` of
`Time::try_from` (whose cast itself is total) can fail. -/
theorem new_true (s e : State F) (mv ma : Quantity F) :
    MotionProfile.new true s e mv ma =
      if mv.unit ≠ ⟨1, -1⟩ then .error .dim
      else if ¬ ((c0 : F) ≤ T1 s e mv.value ma.value) then .error .mpT1
      else if ¬ ((c0 : F) ≤ D3 s e mv.value ma.value) then .error .mpT3
      else if ma.unit ≠ ⟨1, -2⟩ then .error .dim
      else if ¬ ((c0 : F) ≤ D2 s e mv.value ma.value) then .error .mpT2
      else .ok (newResult true s e mv.value ma.value) := by
  obtain ⟨mvv, m1, k1⟩ := mv
  obtain ⟨mav, m2, k2⟩ := ma
  by_cases hmv : (⟨m1, k1⟩ : DUnit) = ⟨1, -1⟩
  · cases hmv
    by_cases hma : (⟨m2, k2⟩ : DUnit) = ⟨1, -2⟩
    · -- between concrete units every check evaluates
      cases hma
      rfl
    · rw [if_neg (not_not_intro rfl), if_pos hma]
      unfold MotionProfile.new
      -- the checks as `if`s on units in `m2`, `k2`; those before the critical one are between equal units
      simp only [Quantity.sub_true, Quantity.add_true, Quantity.mul, Quantity.div, Quantity.abs, Quantity.neg,
        State.getVelocity, State.getPosition, DUnit.mul, DUnit.div, DIMENSIONLESS, MILLIMETER_PER_SECOND, MILLIMETER,
        DUnit.new, if_true, Quantity.dimensionless, Int.add_zero, Int.sub_zero]
      have hd : (⟨1, 0⟩ : DUnit) ≠ ⟨1 + (1 - m2), -1 + (-1 - k2)⟩ := by
        simp only [ne_eq, DUnit.mk.injEq] at hma ⊢
        omega
      rw [if_neg hd]
      rfl
  · rw [if_pos hmv]
    unfold MotionProfile.new
    -- `extract_lets` names the three outer `let`s only; `simp only []` would copy all of them through the whole term
    extract_lets sign maxVel maxAcc
    rw [Quantity.sub_true, if_neg]
    simp only [maxVel, sign, Quantity.mul, Quantity.abs, State.getVelocity, DUnit.mul_true, DIMENSIONLESS,
      MILLIMETER_PER_SECOND, DUnit.new_true, DUnit.mk.injEq] at hmv ⊢
    omega

/-- the limits carry units `new` accepts: anything without checking, mm/s and mm/s² with it -/
def GoodLimits (chk : Bool) (mv ma : Quantity F) : Prop :=
  chk = true → mv.unit = ⟨1, -1⟩ ∧ ma.unit = ⟨1, -2⟩

/-- with such limits the constructor IS the value-level computation, for every pair of states -/
theorem new_eq_newSpec {chk : Bool} {mv ma : Quantity F} (hu : GoodLimits chk mv ma) (s e : State F) :
    MotionProfile.new chk s e mv ma = newSpec chk s e mv.value ma.value := by
  cases chk
  · exact new_false s e mv ma
  · rw [new_true, if_neg (not_not_intro (hu rfl).1), if_neg (not_not_intro (hu rfl).2)]
    rfl

theorem new_true_good (s e : State F) (mv ma : F) :
    MotionProfile.new true s e ⟨mv, ⟨1, -1⟩⟩ ⟨ma, ⟨1, -2⟩⟩ = newSpec true s e mv ma :=
  new_eq_newSpec (fun _ => ⟨rfl, rfl⟩) s e

theorem goodLimits_of_ok {chk : Bool} {s e : State F} {mv ma : Quantity F} {mp : MotionProfile F}
    (h : MotionProfile.new chk s e mv ma = .ok mp) : GoodLimits chk mv ma := by
  rintro rfl
  -- a return has passed the five conditions of `new_true`
  simp only [new_true, Except.ite_error_eq_ok_iff] at h
  exact ⟨Decidable.of_not_not h.1, Decidable.of_not_not h.2.2.2.1⟩

/-- the three asserts of `newSpec`, walked once: a success passed all three, a panic is one of the three -/
theorem newSpec_inv {chk : Bool} {s e : State F} {mv ma : F} :
    ∀ r, newSpec chk s e mv ma = r →
      match r with
      | .ok mp => (c0 : F) ≤ T1 s e mv ma ∧ (c0 : F) ≤ D3 s e mv ma ∧ (c0 : F) ≤ D2 s e mv ma ∧
          mp = newResult chk s e mv ma
      | .error p => p = .mpT1 ∨ p = .mpT3 ∨ p = .mpT2 := by
  rintro r rfl
  unfold newSpec
  by_cases h1 : (c0 : F) ≤ T1 s e mv ma
  · by_cases h3 : (c0 : F) ≤ D3 s e mv ma
    · by_cases h2 : (c0 : F) ≤ D2 s e mv ma
      · rw [if_neg (not_not_intro h1), if_neg (not_not_intro h3), if_neg (not_not_intro h2)]
        exact ⟨h1, h3, h2, rfl⟩
      · rw [if_neg (not_not_intro h1), if_neg (not_not_intro h3), if_pos h2]; exact .inr (.inr rfl)
    · rw [if_neg (not_not_intro h1), if_pos h3]; exact .inr (.inl rfl)
  · rw [if_pos h1]; exact .inl rfl

theorem newSpec_of_nonneg (chk : Bool) {s e : State F} {mv ma : F}
    (h1 : (c0 : F) ≤ T1 s e mv ma) (h3 : (c0 : F) ≤ D3 s e mv ma) (h2 : (c0 : F) ≤ D2 s e mv ma) :
    newSpec chk s e mv ma = .ok (newResult chk s e mv ma) := by
  simp only [newSpec, h1, h3, h2, not_true_eq_false, if_false]

theorem new_ok {chk : Bool} {s e : State F} {mv ma : Quantity F} {mp : MotionProfile F}
    (h : MotionProfile.new chk s e mv ma = .ok mp) :
    (c0 : F) ≤ T1 s e mv.value ma.value ∧ (c0 : F) ≤ D3 s e mv.value ma.value ∧
    (c0 : F) ≤ D2 s e mv.value ma.value ∧ mp = newResult chk s e mv.value ma.value :=
  newSpec_inv _ (new_eq_newSpec (goodLimits_of_ok h) s e ▸ h)

/-- evaluating the value-level constructor from its intermediate values -/
theorem newSpec_of_values (chk : Bool) (s e : State F) (mv ma : F) {v a t1 d3 d2 : F}
    (hv : vMax s e mv = v) (ha : aMax s e ma = a)
    (h1 : (v - s.velocity) / a = t1) (h3 : (e.velocity - v) / (-a) = d3)
    (h2 : ((e.position - s.position) - ((s.velocity + v) / c2 * t1 + (v + e.velocity) / c2 * d3)) / v = d2)
    (p1 : (c0 : F) ≤ t1) (p3 : (c0 : F) ≤ d3) (p2 : (c0 : F) ≤ d2) :
    newSpec chk s e mv ma = .ok ⟨⟨s.position, MILLIMETER chk⟩, ⟨s.velocity, MILLIMETER_PER_SECOND chk⟩,
      FloatLike.toInt (t1 * c1e9), FloatLike.toInt ((t1 + d2) * c1e9), FloatLike.toInt ((t1 + d2 + d3) * c1e9),
      ⟨a, MILLIMETER_PER_SECOND_SQUARED chk⟩, Command.ofState e⟩ := by
  have e1 : T1 s e mv ma = t1 := by simp only [T1, hv, ha, h1]
  have e3 : D3 s e mv ma = d3 := by simp only [D3, hv, ha, h3]
  have e2 : D2 s e mv ma = d2 := by simp only [D2, hv, e1, e3, h2]
  simp only [newSpec, newResult, T2, T3, e1, e2, e3, ha, p1, p2, p3, not_true_eq_false, if_false]

/-- the three stored quantities carry the units the accessors expect -/
def WF (chk : Bool) (mp : MotionProfile F) : Prop :=
  mp.startPos.unit = MILLIMETER chk ∧ mp.startVel.unit = MILLIMETER_PER_SECOND chk ∧
  mp.maxAcc.unit = MILLIMETER_PER_SECOND_SQUARED chk

/-- `Quantity::from(Time)` value: `t as f32 / 1e9` -/
def secF (t : Int) : F := (FloatLike.ofInt t : F) / c1e9
/-- `max_acc * τ + start_vel` (operand order of the source) -/
def velF (mp : MotionProfile F) (τ : Int) : F := mp.maxAcc.value * secF τ + mp.startVel.value
/-- `0.5 * max_acc * t * t + start_vel * t + start_pos` -/
def pos1F (mp : MotionProfile F) (t : Int) : F :=
  chalf * mp.maxAcc.value * secF t * secF t + mp.startVel.value * secF t + mp.startPos.value
/-- `max_acc * (t1 * (-t1 / 2 + t)) + start_vel * t + start_pos`, `-t1 / 2` the truncating `i64` division -/
def pos2F (mp : MotionProfile F) (t : Int) : F :=
  mp.maxAcc.value * (secF mp.t1 * secF (Int.tdiv (-mp.t1) 2 + t)) + mp.startVel.value * secF t + mp.startPos.value
/-- `max_acc * (t1 * (-t1 / 2 + t2)) - 0.5 * max_acc * ((t - t2) * (t - 2 * t1 - t2)) + start_vel * t + start_pos` -/
def pos3F (mp : MotionProfile F) (t : Int) : F :=
  mp.maxAcc.value * (secF mp.t1 * secF (Int.tdiv (-mp.t1) 2 + mp.t2))
      - chalf * mp.maxAcc.value * (secF (t - mp.t2) * secF (t - 2 * mp.t1 - mp.t2))
    + mp.startVel.value * secF t + mp.startPos.value

/-- the velocity accessor as a total, panic-free function -/
def velOpt (chk : Bool) (mp : MotionProfile F) (t : Int) : Option (Quantity F) :=
  match mp.getPiece t with
  | .beforeStart => none
  | .initialAcceleration => some ⟨velF mp t, MILLIMETER_PER_SECOND chk⟩
  | .constantVelocity => some ⟨velF mp mp.t1, MILLIMETER_PER_SECOND chk⟩
  | .endAcceleration => some ⟨velF mp (mp.t1 + mp.t2 - t), MILLIMETER_PER_SECOND chk⟩
  | .complete => mp.endCommand.getVelocity chk

/-- the position accessor as a total, panic-free function -/
def posOpt (chk : Bool) (mp : MotionProfile F) (t : Int) : Option (Quantity F) :=
  match mp.getPiece t with
  | .beforeStart => none
  | .initialAcceleration => some ⟨pos1F mp t, MILLIMETER chk⟩
  | .constantVelocity => some ⟨pos2F mp t, MILLIMETER chk⟩
  | .endAcceleration => some ⟨pos3F mp t, MILLIMETER chk⟩
  | .complete => mp.endCommand.getPosition chk

theorem add_err {chk : Bool} {a b : Quantity F} {p : Panic} (h : Quantity.add chk a b = .error p) : p = .dim :=
  Quantity.add_err h

theorem sub_err {chk : Bool} {a b : Quantity F} {p : Panic} (h : Quantity.sub chk a b = .error p) : p = .dim :=
  Quantity.sub_err h

end S

section
variable {F : Type} [Add F] [Sub F] [Mul F] [Div F] [Neg F] [FloatLike F]

def _root_.Rrtk.MpPiece.pick {α : Sort _} (p : MpPiece) (a b c d e : α) : α :=
  match p with
  | .beforeStart => a | .initialAcceleration => b | .constantVelocity => c | .endAcceleration => d | .complete => e

/-- a selection that is `x` before the start and differs from `x` on the three moving pieces is `x` only at the two ends -/
theorem _root_.Rrtk.MpPiece.pick_eq_iff {α : Sort _} {x b c d : α} (hb : b ≠ x) (hc : c ≠ x) (hd : d ≠ x)
    (p : MpPiece) (e : α) : p.pick x b c d e = x ↔ p = .beforeStart ∨ (p = .complete ∧ e = x) := by
  cases p <;> simp [MpPiece.pick, hb, hc, hd]

theorem _root_.Rrtk.MpPiece.pick_none_iff {β : Type _} (p : MpPiece) (b c d e : β) :
    p.pick none (some b) (some c) (some d) (some e) = none ↔ p = .beforeStart := by
  cases p <;> simp [MpPiece.pick]

/-- every accessor is the if-chain of `get_piece` over `0, t1, t2, t3` with other leaves -/
theorem chain_eq_pick {α : Type _} (mp : MotionProfile F) (t : Int) (a b c d e : α) :
    (if t < 0 then a else if t < mp.t1 then b else if t < mp.t2 then c else if t < mp.t3 then d else e) =
      (mp.getPiece t).pick a b c d e := by
  unfold MotionProfile.getPiece
  rw [apply_ite (MpPiece.pick · a b c d e), apply_ite (MpPiece.pick · a b c d e),
    apply_ite (MpPiece.pick · a b c d e), apply_ite (MpPiece.pick · a b c d e)]
  rfl

theorem getMode_eq (mp : MotionProfile F) (t : Int) :
    mp.getMode t = (mp.getPiece t).pick none (some .acceleration) (some .velocity) (some .acceleration)
      (some mp.endCommand.kind) :=
  chain_eq_pick ..

theorem getAcceleration_eq (chk : Bool) (mp : MotionProfile F) (t : Int) :
    mp.getAcceleration chk t = (mp.getPiece t).pick none (some mp.maxAcc)
      (some ⟨c0, MILLIMETER_PER_SECOND_SQUARED chk⟩) (some (Quantity.neg mp.maxAcc))
      (some (mp.endCommand.getAcceleration chk)) :=
  chain_eq_pick ..

/-- the initial-acceleration velocity formula `max_acc * t + start_vel`, as the `Quantity` code computes it (in the
namespace of `Thm/C07.lean`, whose statements about the velocity tent are written with it) -/
def _root_.Rrtk.Thm.C07.velFormula (chk : Bool) (mp : MotionProfile F) (τ : Int) : Except Panic (Option (Quantity F)) :=
  (Quantity.add chk (Quantity.mul chk mp.maxAcc (Quantity.ofTime chk τ)) mp.startVel).map some

/-- the three moving pieces evaluate ONE velocity formula, at `t`, `t1`, `t1 + t2 - t` -/
theorem getVelocity_eq (chk : Bool) (mp : MotionProfile F) (t : Int) :
    mp.getVelocity chk t = (mp.getPiece t).pick (.ok none) (C07.velFormula chk mp t) (C07.velFormula chk mp mp.t1)
      (C07.velFormula chk mp (mp.t1 + mp.t2 - t)) (.ok (mp.endCommand.getVelocity chk)) :=
  chain_eq_pick ..

theorem velFormula_wf {chk : Bool} {mp : MotionProfile F} (hwf : WF chk mp) (τ : Int) :
    C07.velFormula chk mp τ = .ok (some ⟨velF mp τ, MILLIMETER_PER_SECOND chk⟩) := by
  obtain ⟨⟨p0, u0⟩, ⟨v0, u1⟩, t1, t2, t3, ⟨a, u2⟩, ec⟩ := mp
  obtain ⟨h1, h2, h3⟩ := hwf
  simp only at h1 h2 h3
  subst h1 h2 h3
  -- between concrete units the check of `+` evaluates, in either build
  cases chk <;> rfl

theorem getVelocity_wf {chk : Bool} {mp : MotionProfile F} (hwf : WF chk mp) (t : Int) :
    mp.getVelocity chk t = .ok (velOpt chk mp t) := by
  rw [getVelocity_eq, velFormula_wf hwf, velFormula_wf hwf, velFormula_wf hwf, velOpt]
  cases mp.getPiece t <;> rfl

theorem getPosition_wf {chk : Bool} {mp : MotionProfile F} (hwf : WF chk mp) (t : Int) :
    mp.getPosition chk t = .ok (posOpt chk mp t) := by
  obtain ⟨⟨p0, u0⟩, ⟨v0, u1⟩, t1, t2, t3, ⟨a, u2⟩, ec⟩ := mp
  obtain ⟨h1, h2, h3⟩ := hwf
  simp only at h1 h2 h3
  subst h1 h2 h3
  unfold MotionProfile.getPosition posOpt
  rw [chain_eq_pick]
  -- as in `velFormula_wf`, on each piece
  cases MotionProfile.getPiece _ t <;> cases chk <;> rfl

end

end Rrtk.Thm.MpL
