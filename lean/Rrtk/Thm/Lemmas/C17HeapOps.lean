/-
C17, the heap machine of `Rrtk/RefHeap.lean` and `Rrtk/RefAlias.lean`, statement by statement: what a successful run of each
statement looked like (`clone_ok`, … — which handle, which heap operation, which table), what the statement computes on a
live slot (`clone_live`, …), and what it leaves alone: a statement other than a constructor replaces at most ONE live cell,
by a cell of the same kind (`Upd`), and hands out no handle to a new address (`Inherits`).  Counting the handles of a table — all of them (`cnt`)
or the COUNTED ones (`cntC`) — is one weighted sum `wsum`.
Tier S (no scalar).
-/
import Rrtk.RefAlias
namespace Rrtk.Thm.C17
open Rrtk

theorem getD_some {α : Type} {l : List (Option α)} {i : Nat} {h : α} (hi : l.getD i none = some h) :
    l[i]? = some (some h) := by
  rw [List.getD_eq_getElem?_getD] at hi
  cases hg : l[i]? with
  | none => rw [hg] at hi; cases hi
  | some x => rw [hg] at hi; exact congrArg some hi

theorem mem_of_getD {α : Type} {l : List (Option α)} {i : Nat} {h : α} (hi : l.getD i none = some h) : some h ∈ l :=
  List.mem_of_getElem? (getD_some hi)

theorem getD_lt {α : Type} {l : List (Option α)} {i : Nat} {h : α} (hi : l.getD i none = some h) : i < l.length :=
  (List.getElem?_eq_some_iff.1 (getD_some hi)).1

theorem mem_unset (t : List (Option RHandle)) (i : Nat) (g : RHandle) (hg : some g ∈ t.set i none) : some g ∈ t := by
  rcases List.mem_or_eq_of_mem_set hg with hg | hg
  · exact hg
  · cases hg

theorem mem_set_some (t : List (Option RHandle)) (i : Nat) (x g : RHandle) (hg : some g ∈ t.set i (some x)) :
    some g ∈ t.set i none ∨ g = x := by
  by_cases hlt : i < t.length
  · rw [List.set_eq_take_append_cons_drop, if_pos hlt] at hg ⊢
    simp only [List.mem_append, List.mem_cons, Option.some.injEq, reduceCtorEq, false_or] at hg ⊢
    rcases hg with hg | hg | hg
    · exact .inl (.inl hg)
    · exact .inr hg
    · exact .inl (.inr hg)
  · rw [List.set_eq_of_length_le (Nat.le_of_not_lt hlt)] at hg ⊢
    exact .inl hg

/-- every handle of `t'` has the address and the variant of a handle of `t`: nothing points anywhere new -/
def Inherits (t' t : List (Option RHandle)) : Prop :=
  ∀ g, some g ∈ t' → ∃ g0, some g0 ∈ t ∧ g.addr = g0.addr ∧ g.variant = g0.variant

theorem Inherits.mem {t' t : List (Option RHandle)} (h : Inherits t' t) {g : RHandle} (hg : some g ∈ t') :
    ∃ g0, some g0 ∈ t ∧ g.addr = g0.addr ∧ g.variant = g0.variant := h g hg

theorem Inherits.refl (t : List (Option RHandle)) : Inherits t t := fun g hg => ⟨g, hg, rfl, rfl⟩

theorem Inherits.unset (t : List (Option RHandle)) (i : Nat) : Inherits (t.set i none) t :=
  fun g hg => ⟨g, mem_unset _ _ _ hg, rfl, rfl⟩

theorem Inherits.set {t : List (Option RHandle)} {g : RHandle} (hm : some g ∈ t) (i : Nat) :
    Inherits (t.set i (some g)) t := fun x hx => by
  rcases List.mem_or_eq_of_mem_set hx with hx | hx
  · exact ⟨x, hx, rfl, rfl⟩
  · obtain rfl : x = g := Option.some.inj hx
    exact ⟨x, hm, rfl, rfl⟩

theorem Inherits.push {t' t : List (Option RHandle)} (hi : Inherits t' t) {g g0 : RHandle} (hm : some g0 ∈ t)
    (ha : g.addr = g0.addr) (hv : g.variant = g0.variant) : Inherits (t' ++ [some g]) t := fun x hx => by
  rcases List.mem_append.1 hx with hx | hx
  · exact hi.mem hx
  · obtain rfl : x = g := by simpa using hx
    exact ⟨g0, hm, ha, hv⟩

/-- weight of a slot: a slot without a handle weighs nothing -/
def ow (w : RHandle → Nat) : Option RHandle → Nat
  | none => 0
  | some h => w h

def wsum (w : RHandle → Nat) : List (Option RHandle) → Nat
  | [] => 0
  | x :: t => ow w x + wsum w t

theorem wsum_append (w : RHandle → Nat) (l : List (Option RHandle)) (x : Option RHandle) :
    wsum w (l ++ [x]) = wsum w l + ow w x := by
  induction l with
  | nil => simp [wsum]
  | cons y t ih => simp only [List.cons_append, wsum, ih]; omega

theorem wsum_set (w : RHandle → Nat) (l : List (Option RHandle)) (i : Nat) (h : RHandle) (x : Option RHandle)
    (hi : l.getD i none = some h) : wsum w (l.set i x) + w h = wsum w l + ow w x := by
  induction l generalizing i with
  | nil => simp at hi
  | cons y t ih =>
    cases i with
    | zero =>
      obtain rfl : y = some h := by simpa using hi
      simp only [List.set_cons_zero, wsum, ow]; omega
    | succ j =>
      have := ih j (by simpa using hi)
      simp only [List.set_cons_succ, wsum]; omega

theorem wsum_mono (w w' : RHandle → Nat) (l : List (Option RHandle)) (hle : ∀ h, some h ∈ l → w h ≤ w' h) :
    wsum w l ≤ wsum w' l := by
  induction l with
  | nil => exact Nat.le_refl _
  | cons x t ih =>
    have := ih fun h hm => hle h (List.mem_cons_of_mem _ hm)
    cases x with
    | none => simpa [wsum, ow] using this
    | some g =>
      have := hle g (List.mem_cons_self ..)
      simp only [wsum, ow]; omega

theorem wsum_congr (w w' : RHandle → Nat) (l : List (Option RHandle)) (heq : ∀ h, some h ∈ l → w h = w' h) :
    wsum w l = wsum w' l :=
  Nat.le_antisymm (wsum_mono w w' l fun h hm => Nat.le_of_eq (heq h hm))
    (wsum_mono w' w l fun h hm => Nat.le_of_eq (heq h hm).symm)

theorem le_wsum (w : RHandle → Nat) (l : List (Option RHandle)) (h : RHandle) (hm : some h ∈ l) : w h ≤ wsum w l := by
  induction l with
  | nil => simp at hm
  | cons x t ih =>
    rcases List.mem_cons.1 hm with rfl | ht
    · simp only [wsum, ow]; omega
    · have := ih ht
      simp only [wsum]; omega

theorem wsum_zero (l : List (Option RHandle)) : wsum (fun _ => 0) l = 0 := by
  induction l with
  | nil => rfl
  | cons x t ih => cases x <;> simp [wsum, ow, ih]

/-- number of live handles to address `a` in a handle table -/
def cnt (a : Nat) : List (Option RHandle) → Nat
  | [] => 0
  | none :: t => cnt a t
  | some h :: t => (if h.addr = a then 1 else 0) + cnt a t

theorem cnt_eq_wsum (a : Nat) (l : List (Option RHandle)) :
    cnt a l = wsum (fun h => if h.addr = a then 1 else 0) l := by
  induction l with
  | nil => rfl
  | cons x t ih => cases x <;> simp [cnt, wsum, ow, ih]

theorem cnt_set_none (a : Nat) (l : List (Option RHandle)) (i : Nat) (h : RHandle) (hi : l.getD i none = some h) :
    cnt a (l.set i none) + (if h.addr = a then 1 else 0) = cnt a l := by
  simp only [cnt_eq_wsum]
  exact wsum_set _ l i h none hi

theorem cnt_pos (l : List (Option RHandle)) (h : RHandle) (hm : some h ∈ l) : 1 ≤ cnt h.addr l := by
  rw [cnt_eq_wsum]
  simpa using le_wsum (fun g => if g.addr = h.addr then 1 else 0) l h hm

/-- `1` if `h` is a counted handle to address `a` -/
def wC (a : Nat) (h : RHandle) : Nat := if h.addr = a ∧ h.variant.counted = true then 1 else 0

/-- number of live COUNTED handles (`Rc` / `Arc`) to address `a` in a handle table -/
def cntC (a : Nat) : List (Option RHandle) → Nat
  | [] => 0
  | none :: t => cntC a t
  | some h :: t => wC a h + cntC a t

theorem wC_ne (a : Nat) (h : RHandle) (hne : h.addr ≠ a) : wC a h = 0 := by simp [wC, hne]
theorem wC_raw (a : Nat) (h : RHandle) (hk : h.variant.counted = false) : wC a h = 0 := by simp [wC, hk]
theorem wC_self (h : RHandle) (hk : h.variant.counted = true) : wC h.addr h = 1 := by simp [wC, hk]

theorem cntC_eq_wsum (a : Nat) (l : List (Option RHandle)) : cntC a l = wsum (wC a) l := by
  induction l with
  | nil => rfl
  | cons x t ih => cases x <;> simp [cntC, wsum, ow, ih]

theorem cntC_append (a : Nat) (l : List (Option RHandle)) (h : RHandle) :
    cntC a (l ++ [some h]) = cntC a l + wC a h := by
  simp only [cntC_eq_wsum, wsum_append, ow]

theorem cntC_set_some (a : Nat) (l : List (Option RHandle)) (i : Nat) (h h' : RHandle) (hi : l.getD i none = some h) :
    cntC a (l.set i (some h')) + wC a h = cntC a l + wC a h' := by
  simp only [cntC_eq_wsum]
  exact wsum_set _ l i h (some h') hi

theorem cntC_set_none (a : Nat) (l : List (Option RHandle)) (i : Nat) (h : RHandle) (hi : l.getD i none = some h) :
    cntC a (l.set i none) + wC a h = cntC a l := by
  simp only [cntC_eq_wsum]
  exact wsum_set _ l i h none hi

theorem cntC_pos (l : List (Option RHandle)) (h : RHandle) (hm : some h ∈ l) (hk : h.variant.counted = true) :
    1 ≤ cntC h.addr l := by
  rw [cntC_eq_wsum, ← wC_self h hk]
  exact le_wsum _ l h hm

theorem cntC_zero_of_forall (a : Nat) (l : List (Option RHandle)) (hne : ∀ h, some h ∈ l → h.addr ≠ a) : cntC a l = 0 := by
  rw [cntC_eq_wsum, wsum_congr _ (fun _ => 0) l fun h hm => wC_ne a h (hne h hm), wsum_zero]

theorem cntC_le_cnt (a : Nat) (l : List (Option RHandle)) : cntC a l ≤ cnt a l := by
  rw [cntC_eq_wsum, cnt_eq_wsum]
  refine wsum_mono _ _ l fun h _ => ?_
  by_cases ha : h.addr = a
  · simp only [wC, ha, true_and, if_true]; split <;> omega
  · simp [wC, ha]

theorem cntC_eq_cnt (a : Nat) (l : List (Option RHandle))
    (hall : ∀ g, some g ∈ l → g.addr = a → g.variant.counted = true) : cntC a l = cnt a l := by
  rw [cntC_eq_wsum, cnt_eq_wsum]
  refine wsum_congr _ _ l fun h hm => ?_
  by_cases ha : h.addr = a
  · simp [wC, ha, hall h hm ha]
  · simp [wC, ha]

theorem cell_ok {hp : Heap} {a : Nat} {c : HCell} : hp.cell a = .ok c ↔ hp[a]? = some c ∧ c.freed = false := by
  unfold Heap.cell
  cases hg : hp[a]? with
  | none => simp
  | some x =>
    simp only [Option.some.injEq]
    by_cases hf : x.freed = true
    · rw [if_pos hf]; constructor
      · intro h; cases h
      · rintro ⟨rfl, h2⟩; rw [hf] at h2; cases h2
    · rw [if_neg hf]; simp only [Except.ok.injEq]; constructor
      · intro h; subst h; exact ⟨rfl, by simpa using hf⟩
      · exact fun h => h.1

theorem cell_lt (hp : Heap) (a : Nat) (c : HCell) (h : hp.cell a = .ok c) : a < hp.length :=
  (List.getElem?_eq_some_iff.1 (cell_ok.1 h).1).1

theorem get_set (hp : Heap) (a : Nat) (c' : HCell) (ha : a < hp.length) (b : Nat) :
    (hp.set a c')[b]? = if b = a then some c' else hp[b]? := by
  rw [List.getElem?_set]
  by_cases h : a = b
  · subst h; simp [ha]
  · have h' : ¬ b = a := fun e => h e.symm
    simp [h, h']

theorem get_set_self {hp : Heap} {a : Nat} {c : HCell} (hc : hp.cell a = .ok c) (c' : HCell) :
    (hp.set a c')[a]? = some c' :=
  List.getElem?_set_self (cell_lt hp a c hc)

/-- `Clone`, arm by arm, is: hand out the SAME handle; for a counted variant after incrementing the strong count in the
cell the handle points at (faulting if that cell is gone) -/
theorem heap_clone_eq (hp : Heap) (h : RHandle) :
    hp.clone h =
      if h.variant.counted then
        (match hp.cell h.addr with
         | .error e => .error e
         | .ok c => .ok (hp.set h.addr { c with strong := c.strong + 1 }, h))
      else .ok (hp, h) := by
  obtain ⟨v, a, d⟩ := h
  cases v <;> rfl

/-- `to_dyn!`, arm by arm, is: if the calling crate gets an arm for the variant, the same handle marked `dyn` and the
same heap; `unimplemented!()` otherwise -/
theorem heap_toDyn_eq (feats : List String) (hp : Heap) (h : RHandle) :
    Heap.toDyn feats hp h =
      if toDynHasArm feats h.variant then .ok (hp, { h with isDyn := true }) else .error (.panic .unimpl) := by
  obtain ⟨v, a, d⟩ := h
  rfl

/-- `hp'` is `hp`, or `hp` with ONE live cell replaced by a cell of the same kind and — unless `w` is its address — the
same payload -/
def Upd (w : Option Nat) (hp hp' : Heap) : Prop :=
  hp' = hp ∨ ∃ a c c', hp.cell a = .ok c ∧ c'.kind = c.kind ∧ (w ≠ some a → c'.value = c.value) ∧ hp' = hp.set a c'

theorem Upd.refl (w : Option Nat) (hp : Heap) : Upd w hp hp := .inl rfl

theorem Upd.write {hp : Heap} {a : Nat} {c : HCell} (v : Int) (hc : hp.cell a = .ok c) :
    Upd (some a) hp (hp.set a { c with value := v }) :=
  .inr ⟨a, c, { c with value := v }, hc, rfl, fun h => absurd rfl h, rfl⟩

theorem Upd.length {w : Option Nat} {hp hp' : Heap} (hu : Upd w hp hp') : hp'.length = hp.length := by
  rcases hu with rfl | ⟨_, _, _, _, _, _, rfl⟩
  · rfl
  · exact List.length_set

theorem Upd.frame {w : Option Nat} {hp hp' : Heap} (hu : Upd w hp hp') {a : Nat} {c : HCell} (hc : hp[a]? = some c) :
    ∃ c', hp'[a]? = some c' ∧ c'.kind = c.kind ∧ (w ≠ some a → c'.value = c.value) := by
  rcases hu with rfl | ⟨b, cb, cb', hcb, hk, hv, rfl⟩
  · exact ⟨c, hc, rfl, fun _ => rfl⟩
  · rw [get_set _ _ _ (cell_lt _ _ _ hcb)]
    by_cases hab : a = b
    · subst hab
      obtain rfl : cb = c := Option.some.inj ((cell_ok.1 hcb).1.symm.trans hc)
      exact ⟨cb', by simp, hk, hv⟩
    · exact ⟨c, by simp [hab, hc], rfl, fun _ => rfl⟩

/-- `Clone`: the same handle; the heap untouched for a raw pointer, one more share in the live cell for an `Rc` / `Arc` -/
theorem heap_clone_cases {hp hp' : Heap} {h h' : RHandle} (hc : hp.clone h = .ok (hp', h')) :
    h' = h ∧ ((h.variant.counted = false ∧ hp' = hp) ∨
      (h.variant.counted = true ∧
        ∃ c, hp.cell h.addr = .ok c ∧ hp' = hp.set h.addr { c with strong := c.strong + 1 })) := by
  rw [heap_clone_eq] at hc
  cases hk : h.variant.counted with
  | false =>
    simp only [hk, Bool.false_eq_true, if_false, Except.ok.injEq, Prod.mk.injEq] at hc
    exact ⟨hc.2.symm, .inl ⟨rfl, hc.1.symm⟩⟩
  | true =>
    simp only [hk, if_true] at hc
    split at hc
    · cases hc
    · next c hcell => cases hc; exact ⟨rfl, .inr ⟨rfl, c, hcell, rfl⟩⟩

/-- drop glue: nothing for a raw pointer; one share less in the live cell for an `Rc` / `Arc`, freed at 0 -/
theorem heap_drop_cases {hp hp' : Heap} {h : RHandle} (hd : hp.drop h = .ok hp') :
    (h.variant.counted = false ∧ hp' = hp) ∨
      (h.variant.counted = true ∧
        ∃ c, hp.cell h.addr = .ok c ∧ hp' = hp.set h.addr { c with strong := c.strong - 1, freed := c.strong - 1 == 0 }) := by
  unfold Heap.drop at hd
  cases hk : h.variant.counted with
  | false =>
    simp only [hk, Bool.false_eq_true, if_false, Except.ok.injEq] at hd
    exact .inl ⟨rfl, hd.symm⟩
  | true =>
    simp only [hk, if_true] at hd
    split at hd
    · cases hd
    · next c hcell => cases hd; exact .inr ⟨rfl, c, hcell, rfl⟩

theorem heap_clone_ok {hp hp' : Heap} {h h' : RHandle} (hc : hp.clone h = .ok (hp', h')) :
    h' = h ∧ Upd none hp hp' := by
  obtain ⟨rfl, ⟨_, rfl⟩ | ⟨_, c, hcell, rfl⟩⟩ := heap_clone_cases hc
  · exact ⟨rfl, .inl rfl⟩
  · exact ⟨rfl, .inr ⟨_, c, { c with strong := c.strong + 1 }, hcell, rfl, fun _ => rfl, rfl⟩⟩

theorem heap_drop_ok {hp hp' : Heap} {h : RHandle} (hd : hp.drop h = .ok hp') : Upd none hp hp' := by
  obtain ⟨_, rfl⟩ | ⟨_, c, hcell, rfl⟩ := heap_drop_cases hd
  · exact .inl rfl
  · exact .inr ⟨_, c, { c with strong := c.strong - 1, freed := c.strong - 1 == 0 }, hcell, rfl, fun _ => rfl, rfl⟩

theorem heap_write_ok {hp hp' : Heap} {h : RHandle} {v : Int} (hw : hp.write h v = .ok hp') :
    ∃ c, hp.cell h.addr = .ok c ∧ hp' = hp.set h.addr { c with value := v } := by
  unfold Heap.write at hw
  split at hw
  · cases hw
  · next c hcell => cases hw; exact ⟨c, hcell, rfl⟩

/-! ### the statements: what a successful run looked like

`toDynClone feats` / `toDynMove feats` are `toDynCloneWith` / `toDynMoveWith` at `toDynHasArm feats` by `rfl`, so the lemmas
about the latter serve both. -/

theorem slot_ok {s : RState} {i : Nat} {h : RHandle} : s.slot i = .ok h ↔ s.table.getD i none = some h := by
  unfold RState.slot
  cases s.table.getD i none with
  | none => simp
  | some g => simp

theorem slot_dead {s : RState} {i : Nat} (hi : s.table.getD i none = none) : s.slot i = .error .deadHandle := by
  unfold RState.slot; rw [hi]

theorem clone_ok {s s' : RState} {i : Nat} (he : s.clone i = .ok s') :
    ∃ h hp, s.table.getD i none = some h ∧ s.heap.clone h = .ok (hp, h) ∧ s' = ⟨hp, s.table ++ [some h]⟩ := by
  unfold RState.clone at he
  split at he
  · cases he
  · next h hs =>
    split at he
    · cases he
    · next hp h' hcl =>
      cases he
      obtain rfl := (heap_clone_ok hcl).1
      exact ⟨_, _, slot_ok.1 hs, hcl, rfl⟩

theorem toDynCloneWith_ok {arm : RefVariant → Bool} {s s' : RState} {i : Nat} (he : s.toDynCloneWith arm i = .ok s') :
    ∃ h hp, s.table.getD i none = some h ∧ s.heap.clone h = .ok (hp, h) ∧ arm h.variant = true ∧
      s' = ⟨hp, s.table ++ [some { h with isDyn := true }]⟩ := by
  unfold RState.toDynCloneWith at he
  split at he
  · cases he
  · next h hs =>
    split at he
    · cases he
    · next hp h' hcl =>
      obtain rfl := (heap_clone_ok hcl).1
      cases harm : arm h'.variant with
      | false => simp [Heap.toDynWith, harm] at he
      | true =>
        simp only [Heap.toDynWith, harm, if_true, Except.ok.injEq] at he
        exact ⟨_, _, slot_ok.1 hs, hcl, harm, he.symm⟩

theorem toDynMoveWith_ok {arm : RefVariant → Bool} {s s' : RState} {i : Nat} (he : s.toDynMoveWith arm i = .ok s') :
    ∃ h, s.table.getD i none = some h ∧ arm h.variant = true ∧
      s' = ⟨s.heap, s.table.set i none ++ [some { h with isDyn := true }]⟩ := by
  unfold RState.toDynMoveWith at he
  split at he
  · cases he
  · next h hs =>
    cases harm : arm h.variant with
    | false => simp [Heap.toDynWith, harm] at he
    | true =>
      simp only [Heap.toDynWith, harm, if_true, Except.ok.injEq] at he
      exact ⟨_, slot_ok.1 hs, harm, he.symm⟩

theorem read_ok {s : RState} {i : Nat} {x : Int} (he : s.read i = .ok x) :
    ∃ h c, s.table.getD i none = some h ∧ s.heap.cell h.addr = .ok c ∧ x = c.value := by
  unfold RState.read at he
  split at he
  · cases he
  · next h hs =>
    unfold Heap.read at he
    split at he
    · cases he
    · next c hc => cases he; exact ⟨_, c, slot_ok.1 hs, hc, rfl⟩

theorem write_ok {s s' : RState} {i : Nat} {v : Int} (he : s.write i v = .ok s') :
    ∃ h c, s.table.getD i none = some h ∧ s.heap.cell h.addr = .ok c ∧
      s' = ⟨s.heap.set h.addr { c with value := v }, s.table⟩ := by
  unfold RState.write at he
  split at he
  · cases he
  · next h hs =>
    split at he
    · cases he
    · next hp hw =>
      cases he
      obtain ⟨c, hc, rfl⟩ := heap_write_ok hw
      exact ⟨_, c, slot_ok.1 hs, hc, rfl⟩

theorem drop_ok {s s' : RState} {i : Nat} (he : s.drop i = .ok s') :
    ∃ h hp, s.table.getD i none = some h ∧ s.heap.drop h = .ok hp ∧ s' = ⟨hp, s.table.set i none⟩ := by
  unfold RState.drop at he
  split at he
  · cases he
  · next h hs =>
    split at he
    · cases he
    · next hp hd => cases he; exact ⟨_, _, slot_ok.1 hs, hd, rfl⟩

theorem rawAlias_ok {s s' : RState} {i : Nat} (he : s.rawAlias i = .ok s') :
    ∃ h c, s.table.getD i none = some h ∧ s.heap.cell h.addr = .ok c ∧
      s' = ⟨s.heap, s.table ++ [some ⟨h.variant.rawOf, h.addr, h.isDyn⟩]⟩ := by
  unfold RState.rawAlias at he
  split at he
  · cases he
  · next h hs =>
    unfold Heap.rawAlias at he
    cases hc : s.heap.cell h.addr with
    | error e => rw [hc] at he; cases he
    | ok c => rw [hc] at he; cases he; exact ⟨h, c, slot_ok.1 hs, hc, rfl⟩

/-- `clone_from`, step by step: the source is cloned, the old value of the slot dropped, the clone stored -/
theorem cloneFrom_ok {s s' : RState} {i j : Nat} (he : s.cloneFrom i j = .ok s') :
    ∃ old src hp, s.table.getD i none = some old ∧ s.table.getD j none = some src ∧
      s.heap.clone src = .ok (hp, src) ∧ hp.drop old = .ok s'.heap ∧ s'.table = s.table.set i (some src) := by
  unfold RState.cloneFrom at he
  split at he
  · cases he
  · next old hs =>
    split at he
    · cases he
    · next src hs2 =>
      split at he
      · cases he
      · next hp h' hcl =>
        obtain rfl := (heap_clone_ok hcl).1
        split at he
        · cases he
        · next hp' hd =>
          cases he
          exact ⟨old, _, hp, slot_ok.1 hs, slot_ok.1 hs2, hcl, hd, rfl⟩

/-! ### the statements on a live slot (whose cell, where it is looked at, is live) -/

theorem clone_live {s : RState} {i : Nat} {h : RHandle} {c : HCell} (hi : s.table.getD i none = some h)
    (hc : s.heap.cell h.addr = .ok c) :
    s.clone i = .ok ⟨if h.variant.counted then s.heap.set h.addr { c with strong := c.strong + 1 } else s.heap,
      s.table ++ [some h]⟩ := by
  rw [RState.clone, slot_ok.2 hi]
  simp only [heap_clone_eq, hc]
  cases h.variant.counted <;> rfl

theorem toDynClone_live (feats : List String) {s : RState} {i : Nat} {h : RHandle} {c : HCell}
    (hi : s.table.getD i none = some h) (hc : s.heap.cell h.addr = .ok c) :
    s.toDynClone feats i =
      if toDynHasArm feats h.variant then
        .ok ⟨if h.variant.counted then s.heap.set h.addr { c with strong := c.strong + 1 } else s.heap,
          s.table ++ [some { h with isDyn := true }]⟩
      else .error (.panic .unimpl) := by
  rw [RState.toDynClone, slot_ok.2 hi]
  simp only [heap_clone_eq, hc]
  cases h.variant.counted <;> simp only [Bool.false_eq_true, if_true, if_false, heap_toDyn_eq] <;>
    cases toDynHasArm feats h.variant <;> rfl

theorem toDynMove_live (feats : List String) {s : RState} {i : Nat} {h : RHandle} (hi : s.table.getD i none = some h) :
    s.toDynMove feats i =
      if toDynHasArm feats h.variant then .ok ⟨s.heap, s.table.set i none ++ [some { h with isDyn := true }]⟩
      else .error (.panic .unimpl) := by
  rw [RState.toDynMove, slot_ok.2 hi]
  simp only [heap_toDyn_eq]
  cases toDynHasArm feats h.variant <;> rfl

theorem read_live {s : RState} {i : Nat} {h : RHandle} {c : HCell} (hi : s.table.getD i none = some h)
    (hc : s.heap.cell h.addr = .ok c) : s.read i = .ok c.value := by
  rw [RState.read, slot_ok.2 hi]
  simp only [Heap.read, hc]

theorem write_live {s : RState} {i : Nat} {h : RHandle} {c : HCell} (v : Int) (hi : s.table.getD i none = some h)
    (hc : s.heap.cell h.addr = .ok c) : s.write i v = .ok ⟨s.heap.set h.addr { c with value := v }, s.table⟩ := by
  rw [RState.write, slot_ok.2 hi]
  simp only [Heap.write, hc]

theorem drop_live {s : RState} {i : Nat} {h : RHandle} {c : HCell} (hi : s.table.getD i none = some h)
    (hc : s.heap.cell h.addr = .ok c) :
    s.drop i = .ok ⟨if h.variant.counted then
        s.heap.set h.addr { c with strong := c.strong - 1, freed := c.strong - 1 == 0 } else s.heap,
      s.table.set i none⟩ := by
  rw [RState.drop, slot_ok.2 hi]
  simp only [Heap.drop, hc]
  cases h.variant.counted <;> rfl

/-! ### what a statement leaves alone -/

theorem hexec_read {feats : List String} {s s' : RState} {i : Nat} (he : hexec feats s (.read i) = .ok s') : s' = s := by
  simp only [hexec] at he
  split at he
  · cases he
  · exact (Except.ok.inj he).symm

/-- the address a statement writes a payload to -/
def writeAddr (s : RState) : HOp → Option Nat
  | .write i _ => (s.table.getD i none).map (·.addr)
  | _ => none

/-- a statement other than a constructor allocates nothing: it updates at most one cell — the payload only if it is a
write through a handle to that cell — and its handles come from old ones -/
theorem exec_upd (feats : List String) (s s' : RState) (op : HOp) (hna : ∀ k v, op ≠ .alloc k v)
    (he : hexec feats s op = .ok s') : Upd (writeAddr s op) s.heap s'.heap ∧ Inherits s'.table s.table := by
  cases op with
  | alloc k v => exact absurd rfl (hna k v)
  | clone i =>
    obtain ⟨h, hp, hi, hcl, rfl⟩ := clone_ok he
    exact ⟨(heap_clone_ok hcl).2, (Inherits.refl _).push (mem_of_getD hi) rfl rfl⟩
  | toDynClone i =>
    obtain ⟨h, hp, hi, hcl, _, rfl⟩ := toDynCloneWith_ok he
    exact ⟨(heap_clone_ok hcl).2, (Inherits.refl _).push (mem_of_getD hi) rfl rfl⟩
  | toDynMove i =>
    obtain ⟨h, hi, _, rfl⟩ := toDynMoveWith_ok he
    exact ⟨Upd.refl _ _, (Inherits.unset _ i).push (mem_of_getD hi) rfl rfl⟩
  | read i => obtain rfl := hexec_read he; exact ⟨Upd.refl _ _, Inherits.refl _⟩
  | write i v =>
    obtain ⟨h, c, hi, hc, rfl⟩ := write_ok he
    have hw : writeAddr s (.write i v) = some h.addr := by rw [writeAddr, hi]; rfl
    exact ⟨hw ▸ Upd.write v hc, Inherits.refl _⟩
  | drop i =>
    obtain ⟨h, hp, hi, hd, rfl⟩ := drop_ok he
    exact ⟨heap_drop_ok hd, Inherits.unset _ i⟩

/-- … so every statement, constructors included, keeps every allocated cell allocated, of its kind and — unless it writes
there — with its payload -/
theorem exec_frame (feats : List String) (s s' : RState) (op : HOp) (he : hexec feats s op = .ok s') {a : Nat}
    {c : HCell} (hc : s.heap[a]? = some c) :
    ∃ c', s'.heap[a]? = some c' ∧ c'.kind = c.kind ∧ (writeAddr s op ≠ some a → c'.value = c.value) := by
  cases op with
  | alloc k v =>
    obtain rfl : s.alloc k v = s' := Except.ok.inj he
    exact ⟨c, (List.getElem?_append_left (List.getElem?_eq_some_iff.1 hc).1).trans hc, rfl, fun _ => rfl⟩
  -- (`nofun` for the side condition is elaborated once per remaining statement and is slow; `noConfusion` is not)
  | _ => exact (exec_upd feats s s' _ (fun _ _ h => HOp.noConfusion h) he).1.frame hc

theorem hrun_cons_ok {feats : List String} {s s' : RState} {op : HOp} (rest : List HOp)
    (h : hexec feats s op = .ok s') : hrun feats s (op :: rest) = hrun feats s' rest := by
  simp [hrun, hrunWith, h]

theorem hrun_cons_err {feats : List String} {s : RState} {op : HOp} (rest : List HOp) {e : HFault}
    (h : hexec feats s op = .error e) : hrun feats s (op :: rest) = .error e := by
  simp [hrun, hrunWith, h]

end Rrtk.Thm.C17
