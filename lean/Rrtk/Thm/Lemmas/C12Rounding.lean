/-
C12 "up to rounding" at real binary32 rounding (`SF`, `u = 2^-24`, `η = 2^-150`).  The convexity theorems of `Thm/C12.lean`
are about exact arithmetic; with every `+ − * /` rounded, the EWMA update and the moving average stay within an explicit
budget of the interval of their inputs.  Both are weighted means whose weights sum to `1` only up to a rounding defect
(`1.0 − L` is itself rounded; the `f32` images of the sample intervals do not add up to the image of the window), computed
with a few more roundings: `mean_near` of `Rrtk/Thm/Lemmas/RoundingBounds.lean`.  The EWMA reproduces a constant input to within
one unit in the last place, and only in the normal range; kernel-checked instances show that neither restriction can go,
and that the moving average does not reproduce constants exactly either.  The exponent of `SF` is unbounded upward: the bounds
speak of hardware `f32` as long as no intermediate result reaches `2^128`.
-/
import Rrtk.Thm.C12
import Rrtk.Thm.Lemmas.RoundingBounds
namespace Rrtk.Thm.C12
open Rrtk Rrtk.Soft Rrtk.Thm.SoftFloat Rrtk.Thm.SoftScalar Rrtk.Thm.RoundingBounds Rrtk.Thm.C18.Soft

section S
variable {F : Type} [Add F] [Sub F] [Mul F] [Div F] [FloatLike F]

/-- what one EWMA update computes, in the operand order of the code: `prev * (1.0 − L) + new * L` -/
def ewmaVal (p n L : F) : F := p * (c1 - L) + n * L

/-- tie to the model (any scalar type): the update stores `ewmaVal prev new L`, `L = 1.0 − powf (1.0 − smoothing) Δt` -/
theorem ewmaNext_value (smoothing pv : F) (dt : Int) (o : Datum F) :
    ewmaNext scaleF addF smoothing pv dt o =
      .ok (⟨.ok (some ⟨o.time, ewmaVal pv o.value (ewmaLambda smoothing dt)⟩), some o.time⟩, .ok ()) := rfl
end S

theorem ewmaVal_val (p n L : SF) :
    (ewmaVal p n L).val = rne32 (rne32 (p.val * rne32 (1 - L.val)) + rne32 (n.val * L.val)) := by
  simp only [ewmaVal, add_val, mul_val, sub_val, c1_val]

/-- budget of one EWMA update around an interval whose end points have magnitude at most `A`: the defect `u` of the weights
and two roundings on each path give `(1+u)^3`, the two products may underflow -/
def ewmaDelta (A : ℚ) : ℚ := ((1 + u) ^ 3 - 1) * A + 2 * (1 + u) * η

theorem ewmaDelta_nonneg {A : ℚ} (hA : 0 ≤ A) : 0 ≤ ewmaDelta A :=
  add_nonneg (mul_nonneg (pow_sub_one_nonneg 3) hA) (mul_nonneg (mul_nonneg zero_le_two (zero_le_one.trans one_le_one_add_u)) η_nonneg)

theorem ewmaDelta_le {A : ℚ} (hA : 0 ≤ A) : ewmaDelta A ≤ 4 * u * A + 3 * η :=
  add_le_add (mul_le_mul_of_nonneg_right (by unfold u; norm_num) hA)
    (mul_le_mul_of_nonneg_right (by unfold u; norm_num) η_nonneg)

/-- One update with ANY binary32 weight `L ∈ [0, 1]` (whatever `powf` returned).  Rational end points and a free `A` are what
iterating needs: after one update the interval is `[lo − δ, hi + δ]`. -/
theorem ewma_value_near (p n L : SF) (A lo hi : ℚ) (hlo : |lo| ≤ A) (hhi : |hi| ≤ A)
    (hL0 : (c0 : SF) ≤ L) (hL1 : L ≤ c1)
    (hp1 : lo ≤ p.val) (hp2 : p.val ≤ hi) (hn1 : lo ≤ n.val) (hn2 : n.val ≤ hi) :
    lo - ewmaDelta A ≤ (ewmaVal p n L).val ∧ (ewmaVal p n L).val ≤ hi + ewmaDelta A := by
  have hL0' := (c0_le_iff L).1 hL0
  have hL1' := (le_c1_iff L).1 hL1
  -- the weights `M = fl(1 − L)` and `L` are non-negative and add up to `1` only up to `u`: `1.0 − L` is itself rounded
  have hM0 : 0 ≤ (c1 - L).val := by
    rw [sub_val, c1_val]; exact rne32_nonneg _ (sub_nonneg.2 hL1')
  have hML : |(c1 - L).val + L.val - 1| ≤ u := by
    have h := sub_err c1 L
    rw [c1_val, abs_of_nonneg (sub_nonneg.2 hL1')] at h
    rw [show (c1 - L).val + L.val - 1 = (c1 - L).val - (1 - L.val) by ring]
    exact h.trans (mul_le_of_le_one_right u_nonneg (sub_le_self 1 hL0'))
  unfold ewmaVal
  generalize (c1 - L : SF) = M at hM0 hML ⊢
  have m1 := abs_mul_le_of_nonneg (abs_le_of_between hlo hhi hp1 hp2) hM0
  have m2 := abs_mul_le_of_nonneg (abs_le_of_between hlo hhi hn1 hn2) hL0'
  -- three roundings: the two products (with `η`), then their sum (without)
  have e3 := near_round_add ((abs_add_le _ _).trans (add_le_add m1 m2))
    (near_add (near_of_round m1 (mul_err p M)) (near_of_round m2 (mul_err n L)))
  rw [← mul_add] at e3
  have key : ewmaDelta A = ((1 + u) * ((1 + u) * (1 + u)) - 1) * A + (1 + u) * (η + η) := by
    unfold ewmaDelta; ring
  rw [key]
  exact mean_near hlo hhi hML (one_le_mul_of_one_le_of_one_le one_le_one_add_u one_le_one_add_u)
    (by rw [mul_add]; exact add_le_add (mul_le_mul_of_nonneg_right hp1 hM0) (mul_le_mul_of_nonneg_right hn1 hL0'))
    (by rw [mul_add]; exact add_le_add (mul_le_mul_of_nonneg_right hp2 hM0) (mul_le_mul_of_nonneg_right hn2 hL0')) e3

/-- C12, EWMA "between the smallest and largest contributing sample (up to rounding)": the rounding is at most
`4·u·max(|lo|,|hi|) + 3·η` -/
theorem ewma_value_bounds_binary32 (p n L lo hi : SF) (hL0 : (c0 : SF) ≤ L) (hL1 : L ≤ c1)
    (hp1 : lo ≤ p) (hp2 : p ≤ hi) (hn1 : lo ≤ n) (hn2 : n ≤ hi) :
    lo.val - (4 * u * max |lo.val| |hi.val| + 3 * η) ≤ (ewmaVal p n L).val ∧
    (ewmaVal p n L).val ≤ hi.val + (4 * u * max |lo.val| |hi.val| + 3 * η) :=
  within_mono (ewma_value_near p n L _ lo.val hi.val (le_max_left _ _) (le_max_right _ _) hL0 hL1 hp1 hp2 hn1 hn2)
    (ewmaDelta_le ((abs_nonneg lo.val).trans (le_max_left _ |hi.val|)))

/-- the same read on `ewmaNext`.  At `SF` this says little: `powf` of `SF` is the placeholder `1.0`, so `ewmaLambda smoothing dt` is `0.0`
whatever its arguments, `hL0` and `hL1` always hold and `x` is `pv` (the example below); the statement with content is
`ewma_value_bounds_binary32`, for an arbitrary weight -/
theorem ewmaNext_bounds_binary32 (smoothing pv : SF) (dt : Int) (o : Datum SF) (lo hi : SF)
    (hL0 : (c0 : SF) ≤ ewmaLambda smoothing dt) (hL1 : ewmaLambda smoothing dt ≤ c1)
    (hp1 : lo ≤ pv) (hp2 : pv ≤ hi) (hn1 : lo ≤ o.value) (hn2 : o.value ≤ hi) :
    ∃ x : SF, ewmaNext scaleF addF smoothing pv dt o = .ok (⟨.ok (some ⟨o.time, x⟩), some o.time⟩, .ok ()) ∧
      lo.val - (4 * u * max |lo.val| |hi.val| + 3 * η) ≤ x.val ∧
      x.val ≤ hi.val + (4 * u * max |lo.val| |hi.val| + 3 * η) :=
  ⟨_, ewmaNext_value smoothing pv dt o,
    ewma_value_bounds_binary32 pv o.value _ lo hi hL0 hL1 hp1 hp2 hn1 hn2⟩

theorem ewma_lambda_zero_binary32 (p n : SF) : ewmaVal p n c0 = p := by
  rw [ewmaVal, sub_zero', mul_one', mul_zero', add_zero']

theorem ewma_lambda_one_binary32 (p n : SF) : ewmaVal p n c1 = n := by
  rw [ewmaVal, sub_self', mul_zero', mul_one', zero_add']

/-- C12 "a constant input yields that constant": bit for bit when `L ∈ {0, 1}` -/
theorem ewma_constant_exact_binary32 (c L : SF) (hL : L = c0 ∨ L = c1) : ewmaVal c c L = c := by
  rcases hL with rfl | rfl
  · exact ewma_lambda_zero_binary32 c c
  · exact ewma_lambda_one_binary32 c c

/-- what the placeholder `powf` of `SF` gives (`powf _ _ = 1.0`, so `L = 1.0 − 1.0 = 0.0`): the previous value, exactly.
(Only an illustration: no law about `powf` is claimed; the bounds above are for an arbitrary `L`.) -/
example (smoothing pv : SF) (dt : Int) (o : Datum SF) :
    ewmaNext scaleF addF smoothing pv dt o = .ok (⟨.ok (some ⟨o.time, pv⟩), some o.time⟩, .ok ()) := by
  rw [ewmaNext_value]
  have : ewmaLambda smoothing dt = (c0 : SF) := SF.ext (by
    show rne32 ((c1 : SF).val - rne32 1) = (c0 : SF).val
    rw [c1_val, c0_val, rne32_one, sub_self, rne32_zero])
  rw [this, ewma_lambda_zero_binary32]

/-- C12 "a constant input yields that constant", any binary32 weight, any `c`: only up to rounding
(`ewma_constant_not_exact`) -/
theorem ewma_constant_any_lambda_binary32 (c L : SF) (hL0 : (c0 : SF) ≤ L) (hL1 : L ≤ c1) :
    |(ewmaVal c c L).val - c.val| ≤ ewmaDelta |c.val| ∧
    |(ewmaVal c c L).val - c.val| ≤ 4 * u * |c.val| + 3 * η := by
  obtain ⟨h1, h2⟩ := ewma_value_near c c L |c.val| c.val c.val le_rfl le_rfl hL0 hL1 le_rfl le_rfl le_rfl le_rfl
  have h : |(ewmaVal c c L).val - c.val| ≤ ewmaDelta |c.val| :=
    abs_sub_le_iff.2 ⟨sub_le_iff_le_add'.2 h2, sub_le_comm.1 h1⟩
  exact ⟨h, le_trans h (ewmaDelta_le (abs_nonneg _))⟩

/-- the sum of the two rounded products stays within `5/4` ulp of `c` (`3/2` ulp in the lowest normal binade) -/
theorem ewma_const_sum_near (c L : ℚ) (hL0 : 0 ≤ L) (hL1 : L ≤ 1) (e : ℤ) (he : -126 ≤ e)
    (hce : (2:ℚ) ^ e ≤ c) (hce' : c < (2:ℚ) ^ (e + 1)) :
    0 ≤ rne32 (c * rne32 (1 - L)) + rne32 (c * L) ∧
    |rne32 (c * rne32 (1 - L)) + rne32 (c * L) - c| < 3 / 2 * (2:ℚ) ^ (e - 23) ∧
    (-125 ≤ e → |rne32 (c * rne32 (1 - L)) + rne32 (c * L) - c| < 5 / 4 * (2:ℚ) ^ (e - 23)) := by
  have hc0 : 0 < c := lt_of_lt_of_le (by positivity) hce
  -- the rounded complement `M` lies in `[0, 1]`, within `2^-25` of `1 − L`, and is at most `1/2` when `L` is at least `1/2`
  obtain ⟨hM0, hM1⟩ := rne32_between c0 c1 (1 - L) (by rw [c0_val]; exact sub_nonneg.2 hL1)
    (by rw [c1_val]; exact sub_le_self 1 hL0)
  rw [c0_val] at hM0; rw [c1_val] at hM1
  have hMh : 1 / 2 ≤ L → rne32 (1 - L) ≤ 1 / 2 := fun h => by
    have := rne32_le_of_rep chalf (1 - L) (by rw [chalf_val]; exact (sub_le_sub_left h 1).trans_eq (by norm_num))
    rwa [chalf_val] at this
  have hMe : |rne32 (1 - L) - (1 - L)| ≤ (2:ℚ) ^ (-24:ℤ) / 2 :=
    rne32_err_ulp (1 - L) (-24) (by norm_num) (by rw [abs_of_nonneg (sub_nonneg.2 hL1)]; simpa using hL0)
  generalize rne32 (1 - L) = M at *
  have hcM0 : 0 ≤ c * M := mul_nonneg hc0.le hM0
  have hcL0 : 0 ≤ c * L := mul_nonneg hc0.le hL0
  -- both products lie below `2^(e+1)`: rounding error at most half an ulp `2^(e−23)` each
  have top : ∀ x : ℚ, 0 ≤ x → x ≤ c → |rne32 x - x| ≤ (2:ℚ) ^ (e - 23) / 2 := fun x h0 h1 =>
    rne32_err_ulp x (e - 23) (by omega) (by
      rw [abs_of_nonneg h0, show e - 23 + 24 = e + 1 by ring]; exact le_trans h1 hce'.le)
  have t1 := top _ hcM0 (mul_le_of_le_one_right hc0.le hM1)
  have t2 := top _ hcL0 (mul_le_of_le_one_right hc0.le hL1)
  -- `c·(M + L)` differs from `c` by less than `2^(e+1)·2^-25`, another half ulp
  have hcE : |c * (M - (1 - L))| < (2:ℚ) ^ (e - 23) / 2 := by
    rw [abs_mul, abs_of_pos hc0]
    calc c * |M - (1 - L)| ≤ c * ((2:ℚ) ^ (-24:ℤ) / 2) := mul_le_mul_of_nonneg_left hMe hc0.le
      _ < (2:ℚ) ^ (e + 1) * ((2:ℚ) ^ (-24:ℤ) / 2) := mul_lt_mul_of_pos_right hce' (by positivity)
      _ = (2:ℚ) ^ (e - 23) / 2 := by
        rw [← mul_div_assoc, ← zpow_add₀ two_ne_zero, show e + 1 + -24 = e - 23 by ring]
  -- the distance from `c` is at most the two rounding errors plus that half ulp
  have sum3 : ∀ {a b : ℚ}, |rne32 (c * M) - c * M| ≤ a → |rne32 (c * L) - c * L| ≤ b →
      |rne32 (c * M) + rne32 (c * L) - c| < a + b + (2:ℚ) ^ (e - 23) / 2 := fun ha hb => by
    rw [show rne32 (c * M) + rne32 (c * L) - c
      = (rne32 (c * M) - c * M) + (rne32 (c * L) - c * L) + c * (M - (1 - L)) by ring]
    exact (abs_add_le _ _).trans_lt (add_lt_add_of_le_of_lt ((abs_add_le _ _).trans (add_le_add ha hb)) hcE)
  refine ⟨add_nonneg (rne32_nonneg _ hcM0) (rne32_nonneg _ hcL0), (sum3 t1 t2).trans_eq (by ring), fun he125 => ?_⟩
  -- one of the two products is at most `c/2 < 2^e`, a binade lower: its rounding error is at most a quarter ulp
  have low : ∀ x : ℚ, 0 ≤ x → x ≤ c / 2 → |rne32 x - x| ≤ (2:ℚ) ^ (e - 23) / 4 := fun x h0 h1 => by
    rw [zpow_add_one₀ two_ne_zero] at hce'
    refine (rne32_err_ulp x (e - 24) (by omega) ?_).trans_eq ?_
    · rw [abs_of_nonneg h0, sub_add_cancel]; exact h1.trans ((div_lt_iff₀ two_pos).2 hce').le
    · rw [zpow_eq_mul 1 (by omega : e - 23 = e - 24 + (1:ℕ))]; ring
  rcases le_total (1 / 2) L with hLh | hLh
  · have t1' := low _ hcM0 ((mul_le_mul_of_nonneg_left (hMh hLh) hc0.le).trans_eq (mul_one_div c 2))
    exact (sum3 t1' t2).trans_eq (by ring)
  · have t2' := low _ hcL0 ((mul_le_mul_of_nonneg_left hLh hc0.le).trans_eq (mul_one_div c 2))
    exact (sum3 t1 t2').trans_eq (by ring)

/-- positive normal `c`: the result is within one ulp `2^(e−23)` of `c`; for `c ≠ 2^e` that is `c` or one of its two binary32
neighbours (below a power of two the numbers are twice as dense) -/
theorem ewma_const_pos (c L : SF) (hL0 : 0 ≤ L.val) (hL1 : L.val ≤ 1) (e : ℤ) (he : -126 ≤ e)
    (hce : (2:ℚ) ^ e ≤ c.val) (hce' : c.val < (2:ℚ) ^ (e + 1)) : |(ewmaVal c c L).val - c.val| ≤ (2:ℚ) ^ (e - 23) := by
  obtain ⟨hs0, h32, h54⟩ := ewma_const_sum_near c.val L.val hL0 hL1 e he hce hce'
  rw [ewmaVal_val]
  exact rne32_near c.val _ e he c.rep hce hce' hs0 h32 fun h _ => h54 h

theorem ewmaVal_neg (p n L : SF) : (ewmaVal (-p) (-n) L).val = -(ewmaVal p n L).val := by
  rw [ewmaVal_val, ewmaVal_val, neg_val, neg_val, neg_mul, neg_mul, rne32_neg, rne32_neg, ← neg_add, rne32_neg]

/-- C12 "a constant input yields that constant", any binary32 weight, `c` in the normal range: within one ulp of `c`
(`ewma_const_pos`), so `|result − c| ≤ 2·u·|c|`.  Attained up to the factor `1 − 2^-23`
(`ewma_constant_not_exact`); false below `2^-126` (`ewma_constant_two_u_fails_subnormal`). -/
theorem ewma_constant_two_u_binary32 (c L : SF) (hL0 : (c0 : SF) ≤ L) (hL1 : L ≤ c1)
    (hc : (2:ℚ) ^ (-126:ℤ) ≤ |c.val|) : |(ewmaVal c c L).val - c.val| ≤ 2 * u * |c.val| := by
  have key : ∀ x : SF, (2:ℚ) ^ (-126:ℤ) ≤ x.val → |(ewmaVal x x L).val - x.val| ≤ 2 * u * x.val := by
    intro x hx126
    have hx0 : 0 < x.val := lt_of_lt_of_le (by positivity) hx126
    obtain ⟨l1, l2⟩ := lg_spec x.val hx0
    have hl : -126 ≤ lg x.val := (lg_ge_iff x.val hx0 _).2 hx126
    -- within one ulp `2^(lg x − 23) = 2u·2^(lg x) ≤ 2u·x`
    calc |(ewmaVal x x L).val - x.val| ≤ (2:ℚ) ^ (lg x.val - 23) :=
          ewma_const_pos x L ((c0_le_iff L).1 hL0) ((le_c1_iff L).1 hL1) (lg x.val) hl l1 l2
      _ = 2 * u * (2:ℚ) ^ lg x.val := by
        rw [zpow_eq_mul 23 (by omega : lg x.val = lg x.val - 23 + (23:ℕ))]; unfold u; ring
      _ ≤ 2 * u * x.val := mul_le_mul_of_nonneg_left l1 (mul_nonneg zero_le_two u_nonneg)
  -- the update is odd in `c`: reduce to `|c|`
  rcases le_total 0 c.val with hpos | hneg
  · rw [abs_of_nonneg hpos] at hc ⊢
    exact key c hc
  · rw [abs_of_nonpos hneg] at hc ⊢
    have h := key (-c) hc
    rwa [ewmaVal_neg, neg_val, neg_sub_neg, abs_sub_comm] at h

/-- `ewmaVal` iterated over a list of (sample, weight) pairs, every weight given.  A fold of its own: no theorem relates it to
histories of `Ewma.step`, whose weight at `SF` is always `0.0` (`ewmaNext_bounds_binary32`) -/
def ewmaFold (p : SF) (l : List (SF × SF)) : SF := l.foldl (fun acc x => ewmaVal acc x.1 x.2) p

/-- started within `D` of `[lo, hi]` (the drift so far), `k` updates end within `Q^k·(D + A + 2kη) − A`, `Q = (1+u)^3` -/
theorem ewma_fold_drift (l : List (SF × SF)) (A lo hi : ℚ) (hlo : |lo| ≤ A) (hhi : |hi| ≤ A)
    (hl : ∀ x ∈ l, (c0 : SF) ≤ x.2 ∧ x.2 ≤ c1 ∧ lo ≤ x.1.val ∧ x.1.val ≤ hi) :
    ∀ (p : SF) (D : ℚ), 0 ≤ D → lo - D ≤ p.val → p.val ≤ hi + D →
    lo - (((1 + u) ^ 3) ^ l.length * (D + A + 2 * l.length * η) - A) ≤ (ewmaFold p l).val ∧
    (ewmaFold p l).val ≤ hi + (((1 + u) ^ 3) ^ l.length * (D + A + 2 * l.length * η) - A) := by
  induction l with
  | nil => intro p D _ h1 h2; simpa [ewmaFold] using And.intro h1 h2
  | cons x l ih =>
    intro p D hD hp1 hp2
    obtain ⟨hx0, hx1, hx2, hx3⟩ := hl x (List.mem_cons_self ..)
    -- one update, around `[lo − D, hi + D]`, whose end points have magnitude at most `A + D`
    obtain ⟨s1, s2⟩ := ewma_value_near p x.1 x.2 (A + D) (lo - D) (hi + D)
      ((abs_sub _ _).trans (add_le_add hlo (abs_of_nonneg hD).le))
      ((abs_add_le _ _).trans (add_le_add hhi (abs_of_nonneg hD).le)) hx0 hx1 hp1 hp2
      ((sub_le_self lo hD).trans hx2) (hx3.trans (le_add_of_nonneg_right hD))
    rw [sub_sub] at s1
    rw [add_assoc] at s2
    refine within_mono (ih (fun y hy => hl y (List.mem_cons_of_mem _ hy)) (ewmaVal p x.1 x.2) _
      (add_nonneg hD (ewmaDelta_nonneg (add_nonneg ((abs_nonneg _).trans hlo) hD))) s1 s2) ?_
    -- in terms of `Y = D + A` the update is `Y ↦ Q·Y + 2(1+u)·η ≤ Q·(Y + 2η)`, `Q = (1+u)^3`: a geometric iteration
    have f1 : (1 + u) ^ 1 * η ≤ (1 + u) ^ 3 * η := mul_le_mul_of_nonneg_right (pow_mono (by norm_num)) η_nonneg
    have f2 : l.length * η ≤ (1 + u) ^ 3 * (l.length * η) :=
      le_mul_of_one_le_left (mul_nonneg (Nat.cast_nonneg _) η_nonneg) (one_le_pow 3)
    rw [List.length_cons, pow_succ _ l.length, mul_assoc (((1 + u) ^ 3) ^ l.length)]
    push_cast
    refine sub_le_sub_right (mul_le_mul_of_nonneg_left ?_ (pow_nonneg (pow_nonneg (zero_le_one.trans one_le_one_add_u) 3) _)) A
    unfold ewmaDelta
    linarith only [f1, f2]

/-- `k` updates `ewmaVal` with arbitrary weights in `[0, 1]` (the fold `ewmaFold`, not a history of the stream): the drift from
`[lo, hi]` is `≈ 3k·u·max(|lo|,|hi|) + 2k·η` -/
theorem ewma_fold_bounds_binary32 (l : List (SF × SF)) (p : SF) (lo hi : ℚ)
    (hl : ∀ x ∈ l, (c0 : SF) ≤ x.2 ∧ x.2 ≤ c1 ∧ lo ≤ x.1.val ∧ x.1.val ≤ hi) (hp1 : lo ≤ p.val) (hp2 : p.val ≤ hi) :
    lo - (((1 + u) ^ (3 * l.length) - 1) * max |lo| |hi| + 2 * l.length * (1 + u) ^ (3 * l.length) * η)
      ≤ (ewmaFold p l).val ∧
    (ewmaFold p l).val
      ≤ hi + (((1 + u) ^ (3 * l.length) - 1) * max |lo| |hi| + 2 * l.length * (1 + u) ^ (3 * l.length) * η) := by
  have h := ewma_fold_drift l _ lo hi (le_max_left _ _) (le_max_right _ _) hl p 0 le_rfl (by rwa [sub_zero])
    (by rwa [add_zero])
  rw [← pow_mul, zero_add] at h
  exact within_mono h (le_of_eq (by ring))

namespace RoundingExamples
/-- `c = 1 + 2^-23` (the binary32 successor of `1.0`) -/
def cSucc1 : SF := SF.mk' 8388609 (-23) (by norm_num) (by norm_num)
/-- a weight `L = 8161889·2^-25 ≈ 0.2432` -/
def lam : SF := SF.mk' 8161889 (-25) (by norm_num) (by norm_num)
/-- `3·2^-149`, a subnormal -/
def cSub3 : SF := SF.mk' 3 (-149) (by norm_num) (by norm_num)

theorem cSucc1_val : cSucc1.val = 8388609 / 8388608 := by
  show ((8388609:ℤ):ℚ) * (2:ℚ) ^ (-23:ℤ) = _; norm_num
theorem lam_val : lam.val = 8161889 / 33554432 := by
  show ((8161889:ℤ):ℚ) * (2:ℚ) ^ (-25:ℤ) = _; norm_num
theorem cSub3_val : cSub3.val = 3 / 713623846352979940529142984724747568191373312 := by
  show ((3:ℤ):ℚ) * (2:ℚ) ^ (-149:ℤ) = _; norm_num

theorem lam_range : (c0 : SF) ≤ lam ∧ lam ≤ c1 := by
  rw [le_def, le_def, c0_val, c1_val, lam_val]; norm_num

/-- a constant input is NOT reproduced exactly: with `prev = new = 1 + 2^-23` and `L ≈ 0.2432` the binary32 EWMA
returns `1 + 2^-22`, one unit in the last place above the constant — `|result − c| = 2^-23 ≈ 1.9999998·u·|c|`. -/
theorem ewma_constant_not_exact : (ewmaVal cSucc1 cSucc1 lam).val = 4194305 / 4194304 ∧
    ewmaVal cSucc1 cSucc1 lam ≠ cSucc1 := by
  have h : (ewmaVal cSucc1 cSucc1 lam).val = 4194305 / 4194304 := by
    rw [ewmaVal_val, cSucc1_val, lam_val]; decide +kernel
  refine ⟨h, fun e => ?_⟩
  rw [e, cSucc1_val] at h
  revert h; norm_num

/-- `2·u·|c|` is NOT a bound for subnormal constants: with `prev = new = 3·2^-149` and `L = 0.5` both halves
`1.5·2^-149` round (ties to even) to `2·2^-149` and the result is `4·2^-149`: off by `2^-149`, while
`2·u·|c| = 3·2^-172`.  The `η` term of the bounds above is therefore necessary. -/
theorem ewma_constant_two_u_fails_subnormal :
    (ewmaVal cSub3 cSub3 chalf).val = 4 / 713623846352979940529142984724747568191373312 ∧
    ¬ |(ewmaVal cSub3 cSub3 chalf).val - cSub3.val| ≤ 2 * u * |cSub3.val| := by
  have h : (ewmaVal cSub3 cSub3 chalf).val = 4 / 713623846352979940529142984724747568191373312 := by
    rw [ewmaVal_val, cSub3_val, chalf_val]; decide +kernel
  refine ⟨h, ?_⟩
  rw [h, cSub3_val]; unfold u; norm_num

/-- non-vacuity of `ewma_value_bounds_binary32`: `prev = 1.5`, `new = 2^24`, `L ≈ 0.2432`, `lo = 1.5`, `hi = 2^24` -/
example : (c0 : SF) ≤ lam ∧ lam ≤ c1 ∧ x1_5 ≤ x1_5 ∧ x1_5 ≤ x2p24 ∧ x1_5 ≤ x2p24 ∧ x2p24 ≤ x2p24 := by
  have h : x1_5 ≤ x2p24 := by rw [le_def, x2p24_val, x1_5_val]; norm_num
  exact ⟨lam_range.1, lam_range.2, le_refl' _, h, h, le_refl' _⟩

/-- non-vacuity of `ewma_fold_bounds_binary32`: start `1.5`, then samples `2^24` (weight `≈ 0.2432`) and `1.5` (weight `0.5`),
all inside `[3/2, 2^24]` -/
example : (∀ x ∈ [(x2p24, lam), (x1_5, (chalf : SF))],
      (c0 : SF) ≤ x.2 ∧ x.2 ≤ c1 ∧ (3 / 2 : ℚ) ≤ x.1.val ∧ x.1.val ≤ 16777216) ∧
    (3 / 2 : ℚ) ≤ x1_5.val ∧ x1_5.val ≤ 16777216 := by
  have h15 := x1_5_val
  refine ⟨?_, by rw [h15], by rw [h15]; norm_num⟩
  intro x hx
  rcases List.mem_pair.1 hx with rfl | rfl
  · exact ⟨lam_range.1, lam_range.2, by rw [x2p24_val]; norm_num, by rw [x2p24_val]⟩
  · refine ⟨?_, ?_, by rw [h15], by rw [h15]; norm_num⟩
    · rw [le_def, c0_val, chalf_val]; norm_num
    · rw [le_def, c1_val, chalf_val]; norm_num

/-- non-vacuity of `ewma_constant_two_u_binary32`: `c = 1 + 2^-23` is in the normal range -/
example : (2:ℚ) ^ (-126:ℤ) ≤ |cSucc1.val| := by rw [cSucc1_val]; norm_num
end RoundingExamples

/-- what the accumulation loop of the moving average computes at `SF`: `((0.0 + v₁·w₁) + v₂·w₂) + …` -/
def maAcc (l : List (SF × SF)) : SF := l.foldl (fun a p => a + scaleF p.1 p.2) c0

/-- tie to the model: this is the result of `Ma.accumulate` for the `f32` instantiation -/
theorem accumulate_binary32 (l : List (SF × SF)) :
    Ma.accumulate scaleF addF (some (c0 : SF)) l = .ok (some (maAcc l)) := by
  rw [accumulate_eq_maSum scaleF addF (· + ·) (fun _ _ => rfl)]; rfl

/-- of a list of (value, weight) pairs: the rounded products; and over `ℚ` (the `Q`) the weighted sum, its sum of magnitudes, the
total weight -/
def maProds (l : List (SF × SF)) : List SF := l.map (fun p => p.1 * p.2)
def wsumQ (l : List (SF × SF)) : ℚ := (l.map (fun p => p.1.val * p.2.val)).sum
def wabsQ (l : List (SF × SF)) : ℚ := (l.map (fun p => |p.1.val * p.2.val|)).sum
def wtotQ (l : List (SF × SF)) : ℚ := (l.map (fun p => p.2.val)).sum

@[simp] theorem wsumQ_nil : wsumQ [] = 0 := rfl
@[simp] theorem wabsQ_nil : wabsQ [] = 0 := rfl
@[simp] theorem wtotQ_nil : wtotQ [] = 0 := rfl
@[simp] theorem maProds_nil : maProds [] = [] := rfl
@[simp] theorem wsumQ_cons (p : SF × SF) (l : List (SF × SF)) : wsumQ (p :: l) = p.1.val * p.2.val + wsumQ l := rfl
@[simp] theorem wabsQ_cons (p : SF × SF) (l : List (SF × SF)) : wabsQ (p :: l) = |p.1.val * p.2.val| + wabsQ l := rfl
@[simp] theorem wtotQ_cons (p : SF × SF) (l : List (SF × SF)) : wtotQ (p :: l) = p.2.val + wtotQ l := rfl
@[simp] theorem maProds_cons (p : SF × SF) (l : List (SF × SF)) : maProds (p :: l) = (p.1 * p.2) :: maProds l := rfl
@[simp] theorem maProds_length (l : List (SF × SF)) : (maProds l).length = l.length := by simp [maProds]

theorem maAcc_eq_foldl (l : List (SF × SF)) : maAcc l = (maProds l).foldl (fun acc t => acc + t) c0 := by
  unfold maAcc maProds; rw [List.foldl_map]; rfl

theorem maProds_near (l : List (SF × SF)) :
    List.Forall₂ (fun (y : SF) (x : ℚ) => |y.val - x| ≤ (1 + u - 1) * |x| + η) (maProds l)
      (l.map (fun p => p.1.val * p.2.val)) := by
  unfold maProds
  rw [List.forall₂_map_left_iff, List.forall₂_map_right_iff, List.forall₂_same]
  exact fun p _ => near_of_round le_rfl (mul_err p.1 p.2)

/-- `n + 1` roundings on the longest path: the product, then `n` additions (`0.0 + t₁` counted); no sign condition -/
theorem ma_accumulate_err (l : List (SF × SF)) :
    |(maAcc l).val - wsumQ l| ≤ ((1 + u) ^ (l.length + 1) - 1) * wabsQ l + l.length * (1 + u) ^ l.length * η := by
  have h := foldl_add_err (maProds l) c0
  rw [← maAcc_eq_foldl, c0_val, zero_add, abs_zero, zero_add, maProds_length] at h
  have := acc_near (one_le_pow _) h (maProds_near l)
  rwa [List.length_map, List.map_map, ← pow_succ] at this

theorem wsumQ_bounds (l : List (SF × SF)) (lo hi : ℚ) (hw : ∀ p ∈ l, 0 ≤ p.2.val)
    (hv : ∀ p ∈ l, lo ≤ p.1.val ∧ p.1.val ≤ hi) :
    0 ≤ wtotQ l ∧ lo * wtotQ l ≤ wsumQ l ∧ wsumQ l ≤ hi * wtotQ l ∧ wabsQ l ≤ max |lo| |hi| * wtotQ l :=
  wsum_bounds l (·.1.val) (·.2.val) lo hi hw hv

/-- the accumulated sum before the division, against `[lo·S, hi·S]`, `S = Σwᵢ` -/
theorem ma_accumulate_bounds (l : List (SF × SF)) (lo hi : SF) (hw : ∀ p ∈ l, (c0 : SF) ≤ p.2)
    (hv : ∀ p ∈ l, lo ≤ p.1 ∧ p.1 ≤ hi) :
    lo.val * wtotQ l - (((1 + u) ^ (l.length + 1) - 1) * (max |lo.val| |hi.val| * wtotQ l)
        + l.length * (1 + u) ^ l.length * η) ≤ (maAcc l).val ∧
    (maAcc l).val ≤ hi.val * wtotQ l + (((1 + u) ^ (l.length + 1) - 1) * (max |lo.val| |hi.val| * wtotQ l)
        + l.length * (1 + u) ^ l.length * η) := by
  obtain ⟨_, h1, h2, h3⟩ := wsumQ_bounds l lo.val hi.val (fun p hp => (c0_le_iff p.2).1 (hw p hp)) hv
  exact within_of_near h1 h2 (ma_accumulate_err l)
    (add_le_add_left (mul_le_mul_of_nonneg_left h3 (pow_sub_one_nonneg (l.length + 1))) _)

/-- The output `fl(fl(Σ fl(vᵢ·wᵢ)) / W)` for abstract weights: the divisor `W` (the rounded window length) agrees with the sum
of the rounded weights only up to a relative `ε`.  The `η/W` term is real: underflow errors of the products are amplified
by the division by a short window. -/
theorem ma_value_bounds_binary32_gen (l : List (SF × SF)) (W lo hi : SF) (ε : ℚ) (hW : (c0 : SF) < W)
    (hw : ∀ p ∈ l, (c0 : SF) ≤ p.2) (hv : ∀ p ∈ l, lo ≤ p.1 ∧ p.1 ≤ hi)
    (hsum : |wtotQ l - W.val| ≤ ε * W.val) :
    lo.val - (((1 + ε) * (1 + u) ^ (l.length + 2) - 1) * max |lo.val| |hi.val|
        + (l.length * (1 + u) ^ (l.length + 1) / W.val + 1) * η) ≤ (divF (maAcc l) W).val ∧
    (divF (maAcc l) W).val ≤ hi.val + (((1 + ε) * (1 + u) ^ (l.length + 2) - 1) * max |lo.val| |hi.val|
        + (l.length * (1 + u) ^ (l.length + 1) / W.val + 1) * η) := by
  have hW' := (c0_lt_iff W).1 hW
  obtain ⟨h0, h1, h2, h3⟩ := wsumQ_bounds l lo.val hi.val (fun p hp => (c0_le_iff p.2).1 (hw p hp)) hv
  have hlo := le_max_left |lo.val| |hi.val|
  have hhi := le_max_right |lo.val| |hi.val|
  generalize max |lo.val| |hi.val| = A at *
  -- the weights `wᵢ / W` sum to `1` only up to `ε`
  have hS : |wtotQ l / W.val - 1| ≤ ε := by
    rw [div_sub_one hW'.ne', abs_div, abs_of_pos hW', div_le_iff₀ hW']; exact hsum
  -- the accumulated sum, divided exactly, then rounded once
  have a1 : |(maAcc l).val - wsumQ l| ≤ ((1 + u) ^ (l.length + 1) - 1) * (A * wtotQ l)
      + l.length * (1 + u) ^ l.length * η :=
    (ma_accumulate_err l).trans (add_le_add_left (mul_le_mul_of_nonneg_left h3 (pow_sub_one_nonneg (l.length + 1))) _)
  have hx : |wsumQ l / W.val| ≤ A * wtotQ l / W.val := by
    rw [abs_div, abs_of_pos hW']
    exact div_le_div_of_nonneg_right
      (abs_le_of_between (abs_mul_le_of_nonneg hlo h0) (abs_mul_le_of_nonneg hhi h0) h1 h2) hW'.le
  have a2 := near_round (r := (divF (maAcc l) W).val) hx (near_div hW' a1) (div_err (maAcc l) W)
  rw [mul_div_assoc] at a2
  have key : ((1 + ε) * (1 + u) ^ (l.length + 2) - 1) * A + (l.length * (1 + u) ^ (l.length + 1) / W.val + 1) * η
      = ((1 + ε) * ((1 + u) ^ (l.length + 1) * (1 + u)) - 1) * A
        + ((1 + u) * (l.length * (1 + u) ^ l.length * η / W.val) + η) := by ring
  rw [key]
  exact mean_near hlo hhi hS (one_le_mul_of_one_le_of_one_le (one_le_pow _) one_le_one_add_u)
    (by rw [← mul_div_assoc]; exact div_le_div_of_nonneg_right h1 hW'.le)
    (by rw [← mul_div_assoc]; exact div_le_div_of_nonneg_right h2 hW'.le) a2

/-- weights that sum to the divisor exactly -/
theorem ma_value_bounds_binary32 (l : List (SF × SF)) (W lo hi : SF) (hW : (c0 : SF) < W)
    (hw : ∀ p ∈ l, (c0 : SF) ≤ p.2) (hv : ∀ p ∈ l, lo ≤ p.1 ∧ p.1 ≤ hi) (hsum : wtotQ l = W.val) :
    lo.val - (((1 + u) ^ (l.length + 2) - 1) * max |lo.val| |hi.val|
        + (l.length * (1 + u) ^ (l.length + 1) / W.val + 1) * η) ≤ (divF (maAcc l) W).val ∧
    (divF (maAcc l) W).val ≤ hi.val + (((1 + u) ^ (l.length + 2) - 1) * max |lo.val| |hi.val|
        + (l.length * (1 + u) ^ (l.length + 1) / W.val + 1) * η) := by
  have h := ma_value_bounds_binary32_gen l W lo hi 0 hW hw hv (by rw [hsum, sub_self, abs_zero, zero_mul])
  rwa [add_zero, one_mul] at h

theorem secs_val (n : Int) : (secs n : SF).val = rne32 (rne32 (n : ℚ) / 1000000000) := by
  show rne32 ((FloatLike.ofInt n : SF).val / (c1e9 : SF).val) = _
  rw [ofInt_val, c1e9_val]

theorem secs_nonneg_binary32 (n : Int) (hn : 0 ≤ n) : (c0 : SF) ≤ secs n := by
  rw [c0_le_iff, secs_val]
  exact rne32_nonneg _ (div_nonneg (rne32_nonneg _ (Int.cast_nonneg hn)) (by norm_num))

/-- the model's weights `fl(fl(n) / 1e9)`: two roundings, both in the normal range for every integer `n` -/
theorem secs_bounds (n : Int) (hn : 0 ≤ n) :
    (n : ℚ) / 1000000000 * (1 - u) ^ 2 ≤ (secs n : SF).val ∧ (secs n : SF).val ≤ (n : ℚ) / 1000000000 * (1 + u) ^ 2 := by
  rw [secs_val]
  exact two_step_bounds (by norm_num) u_nonneg u_lt_one.le (by exact_mod_cast hn) (rel_N _ (inR_int n))
    (rel_N _ (inR_int_div n))

theorem sum_secs_bounds (ns : List Int) (h : ∀ n ∈ ns, 0 ≤ n) :
    (ns.sum : ℚ) / 1000000000 * (1 - u) ^ 2 ≤ (ns.map (fun n => (secs n : SF).val)).sum ∧
    (ns.map (fun n => (secs n : SF).val)).sum ≤ (ns.sum : ℚ) / 1000000000 * (1 + u) ^ 2 := by
  induction ns with
  | nil => simp
  | cons n ns ih =>
    obtain ⟨h1, h2⟩ := ih (fun m hm => h m (List.mem_cons_of_mem _ hm))
    obtain ⟨b1, b2⟩ := secs_bounds n (h n (List.mem_cons_self ..))
    rw [List.map_cons, List.sum_cons, List.sum_cons, Int.cast_add, add_div, add_mul, add_mul]
    exact ⟨add_le_add b1 h1, add_le_add b2 h2⟩

/-- relative mismatch between the sum of the rounded weights and the rounded window length: `4u/(1−u)^2 ≈ 2.4·10⁻⁷` -/
def maEps : ℚ := 4 * u / (1 - u) ^ 2

theorem maEps_nonneg : 0 ≤ maEps := div_nonneg (mul_nonneg zero_le_four u_nonneg) (sq_nonneg _)

theorem maEps_le : maEps ≤ 5 * u := by unfold maEps u; norm_num

/-- the intervals sum to the window as integers; their `f32` images sum to the `f32` image of the window only up to `maEps` -/
theorem weights_sum_close (ns : List Int) (window : Int) (hw : 0 < window) (h : ∀ n ∈ ns, 0 ≤ n)
    (hsum : ns.sum = window) :
    (c0 : SF) < secs window ∧
    |(ns.map (fun n => (secs n : SF).val)).sum - (secs window : SF).val| ≤ maEps * (secs window : SF).val := by
  obtain ⟨s1, s2⟩ := sum_secs_bounds ns h
  obtain ⟨w1, w2⟩ := secs_bounds window hw.le
  rw [hsum] at s1 s2
  have hT : (0:ℚ) < (window : ℚ) / 1000000000 := div_pos (by exact_mod_cast hw) (by norm_num)
  generalize (window : ℚ) / 1000000000 = T at *
  have hu1 : 0 < (1 - u) ^ 2 := pow_pos (sub_pos.2 u_lt_one) 2
  have hWpos : 0 < (secs window : SF).val := lt_of_lt_of_le (mul_pos hT hu1) w1
  refine ⟨(c0_lt_iff _).2 hWpos, ?_⟩
  -- both numbers lie in `[T(1−u)², T(1+u)²]`, an interval of length `4uT = maEps·T(1−u)² ≤ maEps·W`
  calc _ ≤ T * (1 + u) ^ 2 - T * (1 - u) ^ 2 := abs_sub_le_of_le_of_le s1 s2 w1 w2
    _ = maEps * (T * (1 - u) ^ 2) := by
      rw [maEps, mul_left_comm, div_mul_cancel₀ _ hu1.ne']; ring
    _ ≤ maEps * (secs window : SF).val := mul_le_mul_of_nonneg_left w1 maEps_nonneg

theorem maTerms_length (cut : Int) (q : List (Datum SF)) : (maTerms (F := SF) cut q).length = q.length := by
  simp [maTerms, ma_weights_length]

theorem wtotQ_maTerms (cut : Int) (q : List (Datum SF)) :
    wtotQ (maTerms (F := SF) cut q) = ((Ma.weightsNs cut q).map (fun n => (secs n : SF).val)).sum := by
  show ((maTerms (F := SF) cut q).map ((fun t : SF => t.val) ∘ Prod.snd)).sum = _
  rw [← List.map_map, (maTerms_eq (F := SF) cut q).2, List.map_map]; rfl

/-- budget of one moving-average update: `n` samples in the window, magnitudes at most `A`, rounded window length `W`
(seconds): `mean_near` with the defect `maEps` and `n + 2` roundings, the underflows of the products divided by `W` -/
def maDelta (n : ℕ) (A W : ℚ) : ℚ :=
  ((1 + maEps) * (1 + u) ^ (n + 2) - 1) * A + (n * (1 + u) ^ (n + 1) / W + 1) * η

/-- for up to `2^23 − 2` samples in the window -/
theorem maDelta_le (n : ℕ) (A W : ℚ) (hA : 0 ≤ A) (hW : 0 < W) (hn : ((n + 2 : ℕ) : ℚ) * u ≤ 1 / 2) :
    maDelta n A W ≤ (2 * n + 14) * u * A + (2 * n / W + 1) * η := by
  unfold maDelta
  have hX := one_add_pow_le u_nonneg (n + 2) hn
  have hP2 : (1 + u) ^ (n + 2) ≤ 2 := by linarith only [hX, hn]
  have hP1 : (1 + u) ^ (n + 1) ≤ 2 := le_trans (pow_mono (by omega)) hP2
  push_cast at hX
  have hP0 := one_le_pow (n + 2)
  generalize (1 + u) ^ (n + 2) = P at hP0 hP2 hX ⊢
  -- relative part: `(1 + ε)·P − 1 = ε·P + (P − 1) ≤ 5u·2 + 2(n+2)u`
  have c1' : (1 + maEps) * P - 1 ≤ (2 * n + 14) * u := by
    linarith only [hX, mul_le_mul maEps_le hP2 (zero_le_one.trans hP0) (mul_nonneg (by norm_num) u_nonneg)]
  -- absolute part: `n·(1+u)^(n+1)/W ≤ 2n/W`
  have c2' : (n:ℚ) * (1 + u) ^ (n + 1) / W ≤ 2 * n / W := by
    rw [mul_comm 2]; exact div_le_div_of_nonneg_right (mul_le_mul_of_nonneg_left hP1 (Nat.cast_nonneg n)) hW.le
  exact add_le_add (mul_le_mul_of_nonneg_right c1' hA)
    (mul_le_mul_of_nonneg_right (add_le_add_left c2' 1) η_nonneg)

/-- the moving average of a window queue with the model's own weights `wᵢ = fl(fl(nsᵢ)/1e9)`, `W = fl(fl(window)/1e9)`: no
hypothesis about the weights is left, `wᵢ ≥ 0` and `|Σwᵢ − W| ≤ maEps·W` are proved -/
theorem ma_value_convex_binary32 (window : Int) (hw : 0 < window) (o : Datum SF) (q : List (Datum SF))
    (h : WinQueue window o q) (lo hi : SF) (hb : ∀ d ∈ q, lo ≤ d.value ∧ d.value ≤ hi) :
    lo.val - maDelta q.length (max |lo.val| |hi.val|) (secs window : SF).val
      ≤ (divF (maAcc (maTerms (o.time - window) q)) (secs window)).val ∧
    (divF (maAcc (maTerms (o.time - window) q)) (secs window)).val
      ≤ hi.val + maDelta q.length (max |lo.val| |hi.val|) (secs window : SF).val := by
  have hnn := (ma_weights_nonneg window o q h).1
  obtain ⟨hWpos, hclose⟩ := weights_sum_close (Ma.weightsNs (o.time - window) q) window hw hnn
    (ma_weights_sum_window window o q h)
  rw [← wtotQ_maTerms] at hclose
  have hw0 : ∀ p ∈ maTerms (F := SF) (o.time - window) q, (c0 : SF) ≤ p.2 := by
    intro p hp
    have h2 := (List.of_mem_zip hp).2
    obtain ⟨n, hn, e⟩ := List.mem_map.1 h2
    rw [← e]; exact secs_nonneg_binary32 n (hnn n hn)
  have hv : ∀ p ∈ maTerms (F := SF) (o.time - window) q, lo ≤ p.1 ∧ p.1 ≤ hi := by
    intro p hp
    obtain ⟨d, hd, e⟩ := mem_maTerms _ _ p hp
    rw [e]; exact hb d hd
  have := ma_value_bounds_binary32_gen (maTerms (o.time - window) q) (secs window) lo hi maEps hWpos hw0 hv hclose
  rw [maTerms_length] at this
  exact this

/-- C12, moving average "between the smallest and largest contributing sample (up to rounding)", one update (the rounded
counterpart of `ma_convex`): the rounding is at most `maDelta n A W`, `n` samples in the window, `A` the larger magnitude
of the two bounds, `W` the window in seconds as the code computes it -/
theorem ma_convex_binary32 (window : Int) (hw : 0 < window) (s : MaS SF) (o : Datum SF)
    (hsort : Sorted s.queue) (hle : ∀ d ∈ s.queue, d.time ≤ o.time) :
    ∃ x : SF, Ma.step scaleF addF divF (some (c0 : SF)) window s (.ok (some o)) =
        .ok (⟨.ok (some ⟨o.time, x⟩), maWindow window s.queue o⟩, .ok ()) ∧
      x = divF (maAcc (maTerms (o.time - window) (maWindow window s.queue o))) (secs window) ∧
      ∀ lo hi : SF, (∀ d ∈ maWindow window s.queue o, lo ≤ d.value ∧ d.value ≤ hi) →
        lo.val - maDelta (maWindow window s.queue o).length (max |lo.val| |hi.val|) (secs window : SF).val ≤ x.val ∧
        x.val ≤ hi.val + maDelta (maWindow window s.queue o).length (max |lo.val| |hi.val|) (secs window : SF).val :=
  ⟨_, by rw [ma_step_present scaleF addF divF _ window hw, accumulate_binary32], rfl, fun lo hi hb =>
    ma_value_convex_binary32 window hw o _ (winQueue_maWindow window hw _ o hsort hle) lo hi hb⟩

/-- the same after every non-decreasing history (the rounded counterpart of `ma_convex_history`): no panic, and the
contributing samples are those received since the last error whose timestamp is newer than `o.time − window` -/
theorem ma_convex_history_binary32 (window : Int) (hw : 0 < window) (pre : List (Output SF)) (o : Datum SF)
    (hmono : NonDecr (pre ++ [.ok (some o)])) :
    ∃ (s : MaS SF) (x : SF),
      runE (Ma.step scaleF addF divF (some (c0 : SF)) window) Ma.init (pre ++ [.ok (some o)]) = .ok s ∧
      Ma.get s = .ok (some ⟨o.time, x⟩) ∧
      s.queue = (sinceReset [] pre ++ [o]).filter (fun d => decide (o.time - window < d.time)) ∧
      x = divF (maAcc (maTerms (o.time - window) s.queue)) (secs window) ∧
      ∀ lo hi : SF, (∀ d ∈ sinceReset [] pre ++ [o], o.time - window < d.time → lo ≤ d.value ∧ d.value ≤ hi) →
        lo.val - maDelta s.queue.length (max |lo.val| |hi.val|) (secs window : SF).val ≤ x.val ∧
        x.val ≤ hi.val + maDelta s.queue.length (max |lo.val| |hi.val|) (secs window : SF).val := by
  obtain ⟨s, hrun⟩ := ma_no_panic_f32 window hw (pre ++ [.ok (some o)])
  obtain ⟨v, hval, hacc, hq, hwq⟩ := ma_last_step hw hmono hrun
  rw [accumulate_binary32] at hacc
  cases hacc
  refine ⟨s, _, hrun, hval, hq, rfl, fun lo hi hb => ?_⟩
  refine ma_value_convex_binary32 window hw o _ hwq lo hi ?_
  rw [hq]
  exact List.forall_mem_filter.2 fun d hd ht => hb d hd (of_decide_eq_true ht)

namespace RoundingExamples
/-- non-vacuity of `ma_value_bounds_binary32` / `ma_accumulate_bounds`: values `1.5` and `2^24` with weights `0.5`, `0.5`,
divisor `1.0` -/
example : (c0 : SF) < c1 ∧ (∀ p ∈ [(x1_5, (chalf : SF)), (x2p24, chalf)], (c0 : SF) ≤ p.2) ∧
    (∀ p ∈ [(x1_5, (chalf : SF)), (x2p24, chalf)], x1_5 ≤ p.1 ∧ p.1 ≤ x2p24) ∧
    wtotQ [(x1_5, (chalf : SF)), (x2p24, chalf)] = (c1 : SF).val := by
  have h : x1_5 ≤ x2p24 := by rw [le_def, x2p24_val, x1_5_val]; norm_num
  have hh : (c0 : SF) ≤ chalf := by rw [le_def, c0_val, chalf_val]; norm_num
  refine ⟨by rw [lt_def, c0_val, c1_val]; norm_num, ?_, ?_, ?_⟩
  · intro p hp
    rcases List.mem_pair.1 hp with rfl | rfl <;> exact hh
  · intro p hp
    rcases List.mem_pair.1 hp with rfl | rfl
    · exact ⟨le_refl' _, h⟩
    · exact ⟨h, le_refl' _⟩
  · simp only [wtotQ, List.map_cons, List.map_nil, List.sum_cons, List.sum_nil]
    rw [chalf_val, c1_val]; norm_num

/-- non-vacuity of `ma_convex_binary32` / `ma_convex_history_binary32`: two samples `1.0` at 1 ns and 3 ns, window 3 ns -/
example : Sorted ([⟨1, (c1 : SF)⟩] : List (Datum SF)) ∧ ∀ d ∈ ([⟨1, (c1 : SF)⟩] : List (Datum SF)), d.time ≤ 3 := by
  refine ⟨List.pairwise_singleton _ _, fun d hd => ?_⟩
  rw [List.mem_singleton.1 hd]; decide
example : NonDecr ([.ok (some ⟨1, (c1 : SF)⟩)] ++ [.ok (some ⟨3, (c1 : SF)⟩)]) := by
  simp [NonDecr, presentTimes]

/-- the number the `f32` moving average shows after the constant history `1.0, 1.0` (1 ns, 3 ns; window 3 ns) -/
def constVal : Option (Int × ℚ) :=
  match runE (Ma.step scaleF addF divF (some (c0 : SF)) 3) Ma.init
      [.ok (some ⟨1, (c1 : SF)⟩), .ok (some ⟨3, (c1 : SF)⟩)] with
  | .ok s => (match Ma.get s with | .ok (some d) => some (d.time, d.value.val) | _ => none)
  | .error _ => none
/-- a constant input is NOT reproduced exactly by the moving average either: the constant `1.0` comes out as
`1 − 2^-24` (the weights `fl(1e-9)`, `fl(2e-9)` do not add up to `fl(3e-9)`), inside the proved budget. -/
theorem ma_constant_not_exact : constVal = some (3, 16777215 / 16777216) := by decide +kernel
end RoundingExamples

end Rrtk.Thm.C12
