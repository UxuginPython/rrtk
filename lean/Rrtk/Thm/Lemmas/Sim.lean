/-
Simulation of one `Except Panic` computation by another, up to a map on results: whenever the first succeeds, the
second succeeds with the mapped result.  C19 uses it with the first computation a model function with dimension checking
compiled in, the second the same function with checking compiled out, and the map an erasure of units.
-/
import Rrtk.Core
namespace Rrtk

/-- `y` simulates `x` up to `e`: if `x` succeeds with `r`, `y` succeeds with `e r` -/
def Sim {α β : Type} (e : α → β) (x : Except Panic α) (y : Except Panic β) : Prop :=
  ∀ r, x = .ok r → y = .ok (e r)

namespace Sim
variable {α β : Type} {e : α → β}

theorem ok (a : α) : Sim e (.ok a) (.ok (e a)) := fun _ h => by cases h; rfl
theorem ok' {a : α} {b : β} (h : e a = b) : Sim e (.ok a) (.ok b) := h ▸ ok a
theorem error (p : Panic) (y : Except Panic β) : Sim e (.error p) y := fun _ h => by cases h

/-- The rule for the model's `match x with | .error p => .error p | .ok a => …`: to prove a statement about `x` and `y`
(typically `Sim e' (match x with …) (match y with …)`) consider `x` failed, and `x = .ok a` with `y = .ok (e a)`.  The goal is
matched by abstracting `x` and `y` in it, so it works whatever auxiliary matcher the model function was compiled to, where a
congruence lemma stated for one `match` would not unify.  `x` is the LAST argument of `motive` so that it is abstracted
first and `(add_sim _ _).elim` finds its arguments in the checked computation; the case `ok` leaves `match .ok a with …`
unreduced (`dsimp only` reduces it). -/
@[elab_as_elim]
theorem elim {motive : Except Panic β → Except Panic α → Prop} {x : Except Panic α} {y : Except Panic β}
    (h : Sim e x y) (error : ∀ p y, motive y (.error p)) (ok : ∀ a, motive (.ok (e a)) (.ok a)) : motive y x := by
  cases x with
  | error p => exact error p y
  | ok a => rw [h a rfl]; exact ok a

/-- `e` occurs only in the hypotheses, not in the conclusion: `h.map fun a => …` with `h` a term finds it, `refine Sim.map ?_ …`
does not and needs `(e := …)`; likewise `bind`.  `e'`, `f` and `g` occur only in the conclusion and are read off a goal that
shows `.map` (`.bind`) on BOTH sides: a `have := h.bind …` without a stated type needs `(e' := …) (f := …) (g := …)`, and a side
that is a bare computation `y` is first rewritten to `y.bind .ok` (equal by cases on `y`, not by `rfl`). -/
theorem map {γ δ : Type} {e' : γ → δ} {f : α → γ} {g : β → δ} {x : Except Panic α} {y : Except Panic β}
    (h : Sim e x y) (hfg : ∀ a, g (e a) = e' (f a)) : Sim e' (x.map f) (y.map g) := by
  cases x with
  | error p => exact error p _
  | ok a => rw [h a rfl]; exact ok' (hfg a).symm

/-- for computations written with `Except.bind` itself (not a model function's own `match`) simulation is a congruence -/
theorem bind {γ δ : Type} {e' : γ → δ} {f : α → Except Panic γ} {g : β → Except Panic δ} {x : Except Panic α}
    {y : Except Panic β} (h : Sim e x y) (hfg : ∀ a, Sim e' (f a) (g (e a))) : Sim e' (x.bind f) (y.bind g) := by
  cases x with
  | error p => exact error p _
  | ok a => rw [h a rfl]; exact hfg a
end Sim
end Rrtk
