/-
Equations for the two PID controllers of `Streams/Stateful.lean` (`PIDControllerStream`, `CommandPID`): what `Pid.step`,
`Cpid.stepInput`, `Cpid.set` and `Cpid.get` do on each form of input.  `Cpid.step` is a `match` on the followed command around
`set` and `stepInput`; its four equations (all `rfl`) stand where the properties ask for them — `C05.cpid_step_none`,
`cpid_step_fol_absent`, `cpid_step_fol_present`, `cpid_step_fol_err` in `Thm/Ext/C05.lean`, and as one conjunction
`C11.cpid_follow_is_set` (its error case alone: `C11.cpid_follow_error_aborts`) — and the proofs unfold it where they meet it.
-/
import Rrtk.Streams.Stateful
import Rrtk.Thm.Lemmas.Run
namespace Rrtk

section
variable {F : Type}
namespace Cpid

theorem get_error_iff (q : CpidS F) (e : Err) : Cpid.get q = .error e ↔ q.us = .error e := by
  obtain ⟨c, us, lr⟩ := q
  rcases us with e' | _ | u0
  · exact ⟨fun h => by cases h; rfl, fun h => by cases h; rfl⟩
  · exact ⟨nofun, nofun⟩
  · -- a staged record shows a value or nothing, never an error
    refine ⟨fun h => ?_, nofun⟩
    simp only [Cpid.get] at h
    repeat' split at h
    all_goals cases h

variable [BEq F]

theorem set_same (s : CpidS F) (c : Command F) (h : Command.beq c s.command = true) :
    Cpid.set s c = { s with lastRequest := some c } := by
  simp only [Cpid.set, h]; rfl

theorem set_diff (s : CpidS F) (c : Command F) (h : Command.beq c s.command = false) :
    Cpid.set s c = ⟨c, .ok none, some c⟩ := by
  simp only [Cpid.set, h]; rfl

theorem set_setLR (s : CpidS F) (l : Option (Command F)) (c : Command F) :
    Cpid.set { s with lastRequest := l } c = Cpid.set s c := by
  cases h : Command.beq c s.command
  · rw [set_diff s c h, set_diff { s with lastRequest := l } c h]
  · rw [set_same s c h, set_same { s with lastRequest := l } c h]

end Cpid
end

section
variable {F : Type} [Add F] [Sub F] [Mul F] [Div F] [FloatLike F]

namespace Pid

theorem step_first (sp : F) (k : PIDK F) (p : PidS F) (x : Datum F) (h : p.prevError = none) :
    Pid.step sp k p (.ok (some x)) =
      (⟨some ⟨x.time, sp - x.value⟩, p.intError + c0,
        .ok (some ⟨x.time, k.kp * (sp - x.value) + k.ki * (p.intError + c0) + k.kd * c0⟩)⟩, .ok ()) := by
  simp only [Pid.step, h]

theorem step_next (sp : F) (k : PIDK F) (p : PidS F) (x : Datum F) (t : Int) (e : F)
    (h : p.prevError = some ⟨t, e⟩) :
    Pid.step sp k p (.ok (some x)) =
      (⟨some ⟨x.time, sp - x.value⟩, p.intError + secs (x.time - t) * (e + (sp - x.value)) / c2,
        .ok (some ⟨x.time, k.kp * (sp - x.value) +
          k.ki * (p.intError + secs (x.time - t) * (e + (sp - x.value)) / c2) +
          k.kd * (((sp - x.value) - e) / secs (x.time - t))⟩)⟩, .ok ()) := by
  simp only [Pid.step, h]

theorem step_ret (sp : F) (k : PIDK F) (p : PidS F) (i : Output F) : (Pid.step sp k p i).2 = inRet i := by
  rcases i with e | _ | x <;> rfl

end Pid

namespace Cpid

/-- the staged record after one input, as a function of the command, the old record and the input only -/
def nextUs (chk : Bool) (k : PIDK3 F) (c : Command F) (us : Except Err (Option (CpU0 F)))
    (inp : Output (State F)) : Except Err (Option (CpU0 F)) :=
  (Cpid.stepInput chk k ⟨c, us, none⟩ inp).1.us

/-- `stepInput` rewrites the field `us` and nothing else; the new `us` does not depend on `lastRequest`, and the return
value depends on the input only -/
theorem stepInput_eq (chk : Bool) (k : PIDK3 F) (s : CpidS F) (inp : Output (State F)) :
    Cpid.stepInput chk k s inp = ({ s with us := nextUs chk k s.command s.us inp }, inRet inp) := by
  obtain ⟨c, us, lr⟩ := s
  rcases inp with e | _ | x
  · rfl
  · rfl
  · rcases us with e | _ | ⟨t, o, er, _ | u1⟩ <;> rfl

theorem nextUs_absent (chk : Bool) (k : PIDK3 F) (c : Command F) (us : Except Err (Option (CpU0 F))) :
    nextUs chk k c us (.ok none) = .ok none := rfl

theorem nextUs_error (chk : Bool) (k : PIDK3 F) (c : Command F) (us : Except Err (Option (CpU0 F))) (e : Err) :
    nextUs chk k c us (.error e) = .error e := rfl

theorem nextUs_sample_of_error (chk : Bool) (k : PIDK3 F) (c : Command F) (e : Err) (x : Datum (State F)) :
    nextUs chk k c (.error e) (.ok (some x)) = nextUs chk k c (.ok none) (.ok (some x)) := rfl

theorem nextUs_sample_some (chk : Bool) (k : PIDK3 F) (c : Command F) (us : Except Err (Option (CpU0 F)))
    (x : Datum (State F)) : ∃ u0, nextUs chk k c us (.ok (some x)) = .ok (some u0) ∧ u0.time = x.time := by
  rcases us with e | _ | ⟨t, o, er, _ | u1⟩ <;> exact ⟨_, rfl, rfl⟩

/-- a sample enters only through its time and the component the command kind selects, the gains only through the triple
it selects; the unit-checking flag only through that component -/
theorem nextUs_congr (chk chk' : Bool) (k k' : PIDK3 F) (c : Command F) (us : Except Err (Option (CpU0 F)))
    (x x' : Datum (State F)) (hk : k.get c.kind = k'.get c.kind) (ht : x.time = x'.time)
    (hv : (x.value.getValue chk c.kind).value = (x'.value.getValue chk' c.kind).value) :
    nextUs chk k c us (.ok (some x)) = nextUs chk' k' c us (.ok (some x')) := by
  simp only [nextUs, Cpid.stepInput, PIDK3.evaluate, hk, ht, hv]

theorem stepInput_command (chk : Bool) (k : PIDK3 F) (s : CpidS F) (inp : Output (State F)) :
    (Cpid.stepInput chk k s inp).1.command = s.command := by rw [stepInput_eq]

theorem stepInput_lastRequest (chk : Bool) (k : PIDK3 F) (s : CpidS F) (inp : Output (State F)) :
    (Cpid.stepInput chk k s inp).1.lastRequest = s.lastRequest := by rw [stepInput_eq]

variable [BEq F]

theorem step_present (chk : Bool) (k : PIDK3 F) (q : CpidS F) (dc : Datum (Command F)) (ds : Datum (State F)) :
    (Cpid.step chk k q (some (.ok (some dc))) (.ok (some ds))).2 = .ok () ∧
    ∃ u0, (Cpid.step chk k q (some (.ok (some dc))) (.ok (some ds))).1.us = .ok (some u0) ∧ u0.time = ds.time := by
  simp only [Cpid.step, stepInput_eq]
  exact ⟨rfl, nextUs_sample_some chk k _ _ ds⟩

end Cpid
end
end Rrtk
