/-
Generic facts about `Except` that the walks over the model's `match` towers use: inverting `map`, `bind`, an `if` between
`.ok` and `.error`, and the observable summary `toOption`.  No import.
-/
namespace Except
variable {ε α β : Type}

theorem map_eq_ok {f : α → β} {x : Except ε α} {y : β} : x.map f = .ok y ↔ ∃ a, x = .ok a ∧ f a = y := by
  cases x with
  | error e => exact ⟨nofun, fun ⟨_, h, _⟩ => nomatch h⟩
  | ok a => exact ⟨fun h => ⟨a, rfl, Except.ok.inj h⟩, fun ⟨_, h, hf⟩ => by cases h; exact congrArg Except.ok hf⟩
theorem map_eq_error {f : α → β} {x : Except ε α} {e : ε} : x.map f = .error e ↔ x = .error e := by
  cases x with
  | error e' => exact ⟨fun h => by cases h; rfl, fun h => by cases h; rfl⟩
  | ok a => exact ⟨nofun, nofun⟩
theorem bind_eq_ok {f : α → Except ε β} {x : Except ε α} {y : β} :
    x.bind f = .ok y ↔ ∃ a, x = .ok a ∧ f a = .ok y := by
  cases x with
  | error e => exact ⟨nofun, fun ⟨_, h, _⟩ => nomatch h⟩
  | ok a => exact ⟨fun h => ⟨a, rfl, h⟩, fun ⟨_, h, hf⟩ => by cases h; exact hf⟩

theorem map_some_ne_none (x : Except ε α) : x.map some ≠ .ok none :=
  fun h => let ⟨_, _, h⟩ := map_eq_ok.1 h; nomatch h

/-- an observable summary `some _` of a result says that the call returned -/
theorem ok_of_toOption_map {r : Except ε α} {f : α → β} {b : β}
    (h : r.toOption.map f = some b) : ∃ a, r = .ok a ∧ f a = b := by
  cases r with
  | error e => cases h
  | ok a => exact ⟨a, rfl, Option.some.inj h⟩

/-! Inverting `if c then .ok a else .error p`, the form every checked operation of `Dim.lean` takes. -/
variable {c : Prop} [Decidable c] {a r : α} {p q : ε}
theorem ite_ok_error_eq_ok_iff : (if c then (.ok a : Except ε α) else .error p) = .ok r ↔ c ∧ a = r := by
  split <;> simp [*]
theorem ite_ok_error_eq_error_iff : (if c then (.ok a : Except ε α) else .error p) = .error q ↔ ¬ c ∧ p = q := by
  split <;> simp [*]
theorem exists_ite_ok_error_eq_error_iff : (∃ q, (if c then (.ok a : Except ε α) else .error p) = .error q) ↔ ¬ c := by
  split <;> simp [*]
/-- a guard in front of a computation: a return passed the guard -/
theorem ite_error_eq_ok_iff {x : Except ε α} : (if c then .error p else x) = .ok r ↔ ¬ c ∧ x = .ok r := by
  by_cases h : c
  · rw [if_pos h]; exact ⟨nofun, fun h' => absurd h h'.1⟩
  · rw [if_neg h]; exact ⟨fun h' => ⟨h, h'⟩, fun h' => h'.2⟩
end Except
