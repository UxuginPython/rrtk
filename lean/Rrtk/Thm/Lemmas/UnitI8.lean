/-
The `i8` exponents of `rrtk::Unit`, made explicit (DESIGN §2.1 idealisation "unit exponents are `Int` where the code has `i8`").

`src/dimensions.rs:563-564, 594-595` add and subtract the two `i8` exponents with the plain `+` / `-` operators: a debug build
(overflow checks on) panics when a result leaves `[-128, 127]`, a release build wraps modulo 256.  `I8Unit.mul/div` below are
that machine-level behaviour, over the same structure `DUnit` the model uses; the theorems say on which operands the model's
unbounded `DUnit.mul/div` IS the code (every operand pair of the C01 quantifier: 49-constant grid and random exponents up to |60|),
and what the code does on the others (so the idealisation has an exact, proved boundary).
`dbg` is rustc's overflow checking (debug / release profile), independent of the model's `chk`; dimension checking is compiled in
throughout this file.
Mathlib-free.
-/
import Rrtk.Dim
namespace Rrtk

def inI8 (n : Int) : Prop := -128 ≤ n ∧ n ≤ 127
instance (n : Int) : Decidable (inI8 n) := by unfold inI8; infer_instance

/-- two's-complement wrap of an integer to `i8` (what `+`/`-` on `i8` yield with overflow checks off) -/
def wrapI8 (n : Int) : Int := (n + 128) % 256 - 128

/-- an `i8` result: `dbg = true` (overflow checks on) panics out of range, `dbg = false` wraps -/
def resI8 (dbg : Bool) (n : Int) : Except Panic Int :=
  if inI8 n then .ok n else if dbg then .error .overflow else .ok (wrapI8 n)

namespace I8Unit
/-- a `Unit` value that exists in the crate: both exponents are `i8` -/
def Wf (u : DUnit) : Prop := inI8 u.mm ∧ inI8 u.s
instance (u : DUnit) : Decidable (Wf u) := by unfold Wf; infer_instance

/-- `impl Mul for Unit` on `i8` exponents, checking compiled in (`src/dimensions.rs:559-567`): the millimetre exponent is computed
first, so its overflow is the one reported -/
def mul (dbg : Bool) (a b : DUnit) : Except Panic DUnit :=
  match resI8 dbg (a.mm + b.mm) with
  | .error e => .error e
  | .ok m => match resI8 dbg (a.s + b.s) with
    | .error e => .error e
    | .ok s => .ok ⟨m, s⟩
/-- `impl Div for Unit` on `i8` exponents (`src/dimensions.rs:590-598`) -/
def div (dbg : Bool) (a b : DUnit) : Except Panic DUnit :=
  match resI8 dbg (a.mm - b.mm) with
  | .error e => .error e
  | .ok m => match resI8 dbg (a.s - b.s) with
    | .error e => .error e
    | .ok s => .ok ⟨m, s⟩
end I8Unit

namespace Thm.C01
open I8Unit

theorem wrapI8_inI8 (n : Int) : inI8 (wrapI8 n) := by
  unfold inI8 wrapI8; omega

theorem wrapI8_id {n : Int} (h : inI8 n) : wrapI8 n = n := by
  unfold inI8 at h; unfold wrapI8; omega

/-- wrapping changes an out-of-range result (by a non-zero multiple of 256): the release build is then NOT the model -/
theorem wrapI8_ne {n : Int} (h : ¬ inI8 n) : wrapI8 n ≠ n := by
  unfold inI8 at h; unfold wrapI8; omega

theorem wrapI8_congr (n : Int) : (wrapI8 n - n) % 256 = 0 := by
  unfold wrapI8; omega

theorem resI8_ok {dbg : Bool} {n : Int} (h : inI8 n) : resI8 dbg n = .ok n := if_pos h

/-- both exponents through `resI8`, millimetres first.  By definition `I8Unit.mul dbg a b` is `pairI8 dbg (a.mm + b.mm) (a.s + b.s)`
and `I8Unit.div dbg a b` is `pairI8 dbg (a.mm - b.mm) (a.s - b.s)`, and `DUnit.mul true a b`, `DUnit.div true a b` are the
pairs of those exact results; so every fact below about `mul` and `div` is a fact about `pairI8` at two integers. -/
def pairI8 (dbg : Bool) (m s : Int) : Except Panic DUnit :=
  match resI8 dbg m with
  | .error e => .error e
  | .ok m => match resI8 dbg s with
    | .error e => .error e
    | .ok s => .ok ⟨m, s⟩

theorem pairI8_ok {dbg : Bool} {m s : Int} (hm : inI8 m) (hs : inI8 s) : pairI8 dbg m s = .ok ⟨m, s⟩ := by
  simp only [pairI8, resI8_ok hm, resI8_ok hs]

theorem pairI8_debug_iff (m s : Int) : pairI8 true m s = .error .overflow ↔ ¬ (inI8 m ∧ inI8 s) := by
  unfold pairI8 resI8
  by_cases hm : inI8 m <;> by_cases hs : inI8 s <;> simp [hm, hs]

theorem pairI8_debug_sound {m s : Int} {u : DUnit} (h : pairI8 true m s = .ok u) : u = ⟨m, s⟩ := by
  unfold pairI8 resI8 at h
  by_cases hm : inI8 m <;> by_cases hs : inI8 s <;> simp [hm, hs] at h
  exact h.symm

theorem pairI8_release (m s : Int) :
    ∃ u, pairI8 false m s = .ok u ∧ Wf u ∧ (u.mm - m) % 256 = 0 ∧ (u.s - s) % 256 = 0 ∧
      (u = ⟨m, s⟩ ↔ inI8 m ∧ inI8 s) := by
  unfold pairI8 resI8
  -- a component in range is itself; one out of range is wrapped: in range (`wrapI8_inI8`), congruent (`wrapI8_congr`), different (`wrapI8_ne`)
  by_cases hm : inI8 m <;> by_cases hs : inI8 s <;>
    simp [hm, hs, Wf, wrapI8_inI8, wrapI8_congr, wrapI8_ne]

/-- REFINEMENT, general form: whenever the exact exponent sums fit `i8`, the code's `Unit * Unit` (either overflow mode) is
the model's `DUnit.mul true`. -/
theorem unit_mul_i8_refines (dbg : Bool) (a b : DUnit) (hm : inI8 (a.mm + b.mm)) (hs : inI8 (a.s + b.s)) :
    I8Unit.mul dbg a b = .ok (DUnit.mul true a b) :=
  pairI8_ok hm hs

theorem unit_div_i8_refines (dbg : Bool) (a b : DUnit) (hm : inI8 (a.mm - b.mm)) (hs : inI8 (a.s - b.s)) :
    I8Unit.div dbg a b = .ok (DUnit.div true a b) :=
  pairI8_ok hm hs

/-- the C01 quantifier: exponents up to |60| (this contains the 49-constant grid `[-3,3]²`) -/
def Within60 (u : DUnit) : Prop := -60 ≤ u.mm ∧ u.mm ≤ 60 ∧ -60 ≤ u.s ∧ u.s ≤ 60
instance (u : DUnit) : Decidable (Within60 u) := by unfold Within60; infer_instance

theorem within60_wf {u : DUnit} (h : Within60 u) : Wf u := by
  unfold Within60 at h; unfold Wf inI8; omega

/-- REFINEMENT on everything C01 quantifies over: no operand pair with exponents up to |60| overflows, in either build mode, so
there the unbounded model IS the `i8` code, and its result is again a representable `Unit`. -/
theorem unit_mul_i8_refines_within60 (dbg : Bool) (a b : DUnit) (ha : Within60 a) (hb : Within60 b) :
    I8Unit.mul dbg a b = .ok (DUnit.mul true a b) ∧ Wf (DUnit.mul true a b) := by
  unfold Within60 at ha hb
  have hm : inI8 (a.mm + b.mm) := by unfold inI8; omega
  have hs : inI8 (a.s + b.s) := by unfold inI8; omega
  exact ⟨unit_mul_i8_refines dbg a b hm hs, hm, hs⟩

theorem unit_div_i8_refines_within60 (dbg : Bool) (a b : DUnit) (ha : Within60 a) (hb : Within60 b) :
    I8Unit.div dbg a b = .ok (DUnit.div true a b) ∧ Wf (DUnit.div true a b) := by
  unfold Within60 at ha hb
  have hm : inI8 (a.mm - b.mm) := by unfold inI8; omega
  have hs : inI8 (a.s - b.s) := by unfold inI8; omega
  exact ⟨unit_div_i8_refines dbg a b hm hs, hm, hs⟩

/-- the bound 60 is not arbitrary slack: 63 is the largest symmetric bound that can never overflow a product … -/
theorem unit_mul_i8_refines_within63 (dbg : Bool) (a b : DUnit)
    (ha : -63 ≤ a.mm ∧ a.mm ≤ 63 ∧ -63 ≤ a.s ∧ a.s ≤ 63) (hb : -63 ≤ b.mm ∧ b.mm ≤ 63 ∧ -63 ≤ b.s ∧ b.s ≤ 63) :
    I8Unit.mul dbg a b = .ok (DUnit.mul true a b) :=
  unit_mul_i8_refines dbg a b (by unfold inI8; omega) (by unfold inI8; omega)

/-- … and at 64 the debug build panics (witness: mm⁶⁴ · mm⁶⁴) -/
theorem unit_mul_i8_overflow_at_64 : I8Unit.mul true ⟨64, 0⟩ ⟨64, 0⟩ = .error .overflow := rfl

/-- OUTSIDE the range, debug build: the code panics exactly when one of the exact sums leaves `i8` (so a checked debug build
never returns a wrong unit: it returns the model's unit or panics) -/
theorem unit_mul_i8_debug_iff (a b : DUnit) :
    I8Unit.mul true a b = .error .overflow ↔ ¬ (inI8 (a.mm + b.mm) ∧ inI8 (a.s + b.s)) :=
  pairI8_debug_iff (a.mm + b.mm) (a.s + b.s)

theorem unit_div_i8_debug_iff (a b : DUnit) :
    I8Unit.div true a b = .error .overflow ↔ ¬ (inI8 (a.mm - b.mm) ∧ inI8 (a.s - b.s)) :=
  pairI8_debug_iff (a.mm - b.mm) (a.s - b.s)

theorem unit_mul_i8_debug_sound (a b u : DUnit) (h : I8Unit.mul true a b = .ok u) : u = DUnit.mul true a b :=
  pairI8_debug_sound h

theorem unit_div_i8_debug_sound (a b u : DUnit) (h : I8Unit.div true a b = .ok u) : u = DUnit.div true a b :=
  pairI8_debug_sound h

/-- OUTSIDE the range, release build: never panics, the result is a representable unit congruent to the exact one modulo 256,
and it differs from the exact one iff an exact sum leaves `i8` — additivity of exponents is then lost silently.  (Outside the C01
quantifier; stated so that the boundary of the idealisation is a theorem.) -/
theorem unit_mul_i8_release (a b : DUnit) :
    ∃ u, I8Unit.mul false a b = .ok u ∧ Wf u ∧
      (u.mm - (a.mm + b.mm)) % 256 = 0 ∧ (u.s - (a.s + b.s)) % 256 = 0 ∧
      (u = DUnit.mul true a b ↔ inI8 (a.mm + b.mm) ∧ inI8 (a.s + b.s)) :=
  pairI8_release (a.mm + b.mm) (a.s + b.s)

theorem unit_div_i8_release (a b : DUnit) :
    ∃ u, I8Unit.div false a b = .ok u ∧ Wf u ∧
      (u.mm - (a.mm - b.mm)) % 256 = 0 ∧ (u.s - (a.s - b.s)) % 256 = 0 ∧
      (u = DUnit.div true a b ↔ inI8 (a.mm - b.mm) ∧ inI8 (a.s - b.s)) :=
  pairI8_release (a.mm - b.mm) (a.s - b.s)

/-- witness of the silent loss: `mm¹⁰⁰ · mm¹⁰⁰` is `mm⁻⁵⁶` in a release build -/
theorem unit_mul_i8_release_wraps : I8Unit.mul false ⟨100, 0⟩ ⟨100, 0⟩ = .ok ⟨-56, 0⟩ := rfl

/-- non-vacuity of the refinement hypotheses: a pair at the corner of the quantifier -/
example : Within60 ⟨60, -60⟩ ∧ Within60 ⟨60, 60⟩ ∧
    I8Unit.mul true ⟨60, -60⟩ ⟨60, 60⟩ = .ok ⟨120, 0⟩ ∧ I8Unit.div true ⟨60, -60⟩ ⟨-60, 60⟩ = .ok ⟨120, -120⟩ :=
  ⟨by decide, by decide, rfl, rfl⟩

end Thm.C01
end Rrtk
