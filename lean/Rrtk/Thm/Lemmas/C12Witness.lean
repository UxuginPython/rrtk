/-
C12: a NON-degenerate witness for the `powf` hypotheses of `ewma_convex`, `ewma_convex_history`, `ewma_constant`.

Those theorems are stated for any exact scalar `F` (`[FloatLike F] [ExactScalar F]` are instance ARGUMENTS, not the global
`ℚ` instance), under `hpr : b ∈ [0,1], d ≥ 0 ⇒ powf b d ∈ [0,1]` (and `hp0 : powf b 0 = 1` for `ewma_first_sample_lambda`).
The `ℚ` instance of `Lemmas/Exact.lean` has `powf ≡ 1`, for which the filter never moves (`L = 0`).  Here `QP` is a copy of
`ℚ` whose `powf b d = b ^ ⌈d⌉₊` — the true power at every whole number of seconds, not constant — and `hp0`, `hpr` are
PROVED for it; with it the filter output moves strictly between two different samples.
Numerals are written at `QP`: a `(4 : ℚ)` is accepted as a `QP` payload but carries `ℚ`'s instances, and `norm_num` then
fails on `0 ≤ 4`.
-/
import Rrtk.Thm.C12
import Mathlib.Data.Rat.Floor
namespace Rrtk.Thm.C12
open Rrtk

/-- the rationals with `powf b d = b ^ ⌈d⌉₊` -/
def QP : Type := ℚ
instance : Field QP := inferInstanceAs (Field ℚ)
instance : LinearOrder QP := inferInstanceAs (LinearOrder ℚ)
instance : IsStrictOrderedRing QP := inferInstanceAs (IsStrictOrderedRing ℚ)
def powfW (b d : ℚ) : ℚ := b ^ ⌈d⌉₊
instance : FloatLike QP := ⟨fun n => (n : ℚ), fun q => Rat.num q / Rat.den q, powfW, fun x => |(x : ℚ)|⟩
instance : ExactScalar QP := ⟨fun _ => rfl, fun _ => rfl⟩

/-- `hp0` holds for the witness -/
theorem powfW_zero : ∀ b : QP, FloatLike.powf b (0 : QP) = 1 := by
  intro b
  show (b : ℚ) ^ ⌈(0 : ℚ)⌉₊ = 1
  rw [Nat.ceil_zero, pow_zero]

/-- `hpr` holds for the witness -/
theorem powfW_range : ∀ b d : QP, 0 ≤ b → b ≤ 1 → 0 ≤ d → 0 ≤ FloatLike.powf b d ∧ FloatLike.powf b d ≤ 1 := by
  intro b d hb0 hb1 _
  show (0 : ℚ) ≤ powfW b d ∧ powfW b d ≤ 1
  exact ⟨pow_nonneg hb0 _, pow_le_one₀ hb0 hb1⟩

/-- … and it is not constant: `(1/2)^1 = 1/2`, `(1/2)^2 = 1/4` -/
theorem powfW_nonconstant : FloatLike.powf (1 / 2 : QP) (1 : QP) = 1 / 2 ∧ FloatLike.powf (1 / 2 : QP) (2 : QP) = 1 / 4 := by
  -- closed rational arithmetic; plain `rfl` stops at the irreducible `Rat` operations
  with_unfolding_all exact ⟨rfl, rfl⟩

/-- the weight of a sample one second after the previous one, smoothing `1/2`: `L = 1/2` (not `0`) -/
theorem ewmaLambda_witness : ewmaLambda (1 / 2 : QP) 1000000000 = 1 / 2 := by
  have hs : (sec 1000000000 : QP) = 1 := by rw [sec]; norm_num
  have hb : (1 : QP) - 1 / 2 = 1 / 2 := by norm_num
  rw [ewmaLambda_eq, hs, hb, powfW_nonconstant.1, hb]

/-- **`ewma_convex` exercised non-degenerately**: smoothing `1/2`, held value `0` at `t = 0`, sample `4` at `t = 1 s`.
The update returns `2` — strictly between the two samples — and the conclusions of `ewma_convex` (with `hpr` discharged by
`powfW_range`) are what pins it there. -/
theorem ewma_moves_strictly :
    Ewma.step scaleF addF (1 / 2 : QP) ⟨.ok (some ⟨0, 0⟩), some 0⟩ (.ok (some ⟨1000000000, 4⟩)) =
      .ok (⟨.ok (some ⟨1000000000, 2⟩), some 1000000000⟩, .ok ()) ∧ (0 : QP) < 2 ∧ (2 : QP) < 4 := by
  obtain ⟨x, hstep, hx, hlo, hhi, _⟩ := ewma_convex (1 / 2 : QP) (by norm_num) (by norm_num) powfW_range
    ⟨.ok (some ⟨0, 0⟩), some 0⟩ ⟨1000000000, 4⟩ ⟨0, 0⟩ 0 rfl rfl (by decide)
  have e : (⟨1000000000, 4⟩ : Datum QP).time - 0 = 1000000000 := rfl
  rw [e, ewmaLambda_witness] at hx
  have hx2 : x = 2 := by rw [hx]; norm_num
  rw [hx2] at hstep
  exact ⟨hstep, by norm_num, by norm_num⟩

/-- the history version on a two-sample history: the hypotheses hold and the held value `2` is inside `[0, 4]` -/
example : ∃ s', runE (Ewma.step scaleF addF (1 / 2 : QP)) Ewma.init
      [.ok (some ⟨0, 0⟩), .ok (some ⟨1000000000, 4⟩)] = .ok s' ∧
    ∀ v, Ewma.get s' = .ok (some v) → (0 : QP) ≤ v.value ∧ v.value ≤ 4 := by
  obtain ⟨s', hrun, hb⟩ := ewma_convex_history (1 / 2 : QP) (by norm_num) (by norm_num) powfW_range
    [.ok (some ⟨0, 0⟩), .ok (some ⟨1000000000, 4⟩)] (by unfold NonDecr; decide)
  refine ⟨s', hrun, fun v hv => hb v hv 0 4 ?_⟩
  intro d hd
  simp [sinceReset] at hd
  rcases hd with rfl | rfl <;> norm_num

end Rrtk.Thm.C12
