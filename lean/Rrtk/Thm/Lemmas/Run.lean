/-
Running a stateful stream over a history of input events.  A stream is `step : S → I → Except Panic (S × UpdRet)` with
`get : S → G`; `runE` folds the step over the history and stops at the first panic.  The lemmas lift facts about one
step from EVERY state to every history: the last step decides what a run ends in (`runE_last_step`, `ShowsInputErr`),
invariants and simulations (`runE_inv`, `runE_rel`, `runE_sim`), reset events (`runE_reset`), deleting ignored events
(`FilterSim`).  `inRet` is the `UpdRet` of an update that only reads its input.
A step built from other steps is best written with `Except.bind`/`Except.map`: `step s i = .ok r` is then inverted by
`Except.bind_eq_ok`/`Except.map_eq_ok` of `Lemmas/Except.lean`, whereas a nested `match` on the inner step's result is not in
their form and is left standing as `match Except.ok a with …` when the inner equation is rewritten (the model's own steps are
such `match` towers; the `*_step_present` and `*_step_eq_convStep` lemmas walk each once).
-/
import Rrtk.Core

namespace Rrtk.Thm.C05Run
/-- both panicked alike, or both ended in related states -/
def RelE {S : Type} (R : S → S → Prop) : Except Panic S → Except Panic S → Prop
  | .ok b, .ok a => R b a
  | .error p, .error q => p = q
  | _, _ => False

theorem RelE.eq_iff {S : Type} {x y : Except Panic S} : RelE Eq x y ↔ x = y := by
  rcases x with p | b <;> rcases y with q | a <;> simp [RelE, eq_comm]
end Rrtk.Thm.C05Run

namespace Rrtk
open Thm.C05Run (RelE)

/-- histories grow at the end -/
theorem snoc_induction {α : Type} {P : List α → Prop} (nil : P []) (snoc : ∀ l a, P l → P (l ++ [a])) : ∀ l, P l := by
  intro l
  rw [← List.reverse_reverse l]
  induction l.reverse with
  | nil => exact nil
  | cons a t ih => rw [List.reverse_cons]; exact snoc _ _ ih

/-- what an `update` that only reads its input returns: the input's error, else `Ok`.  The same function as
`Thm.C10.updRetOf`, the name the C10 statements use. -/
def inRet {α : Type} : Output α → UpdRet
  | .error e => .error e
  | .ok _ => .ok ()

variable {S I : Type}

/-- final state after a history (`.error p` if some update panicked) -/
def runE (step : S → I → Except Panic (S × UpdRet)) : S → List I → Except Panic S
  | s, [] => .ok s
  | s, i :: is =>
    match step s i with
    | .error p => .error p
    | .ok r => runE step r.1 is

theorem runE_nil (step : S → I → Except Panic (S × UpdRet)) (s : S) : runE step s [] = .ok s := rfl

theorem runE_cons (step : S → I → Except Panic (S × UpdRet)) (s : S) (i : I) (is : List I) :
    runE step s (i :: is) = match step s i with
      | .error p => .error p
      | .ok r => runE step r.1 is := rfl

theorem runE_append (step : S → I → Except Panic (S × UpdRet)) (s : S) (a b : List I) :
    runE step s (a ++ b) = match runE step s a with
      | .error p => .error p
      | .ok s' => runE step s' b := by
  induction a generalizing s with
  | nil => rfl
  | cons i is ih =>
    simp only [List.cons_append, runE_cons]
    cases step s i with
    | error p => rfl
    | ok r => exact ih r.1

theorem runE_cons_ok {step : S → I → Except Panic (S × UpdRet)} {s s' : S} {i : I} {is : List I}
    (h : runE step s (i :: is) = .ok s') : ∃ r, step s i = .ok r ∧ runE step r.1 is = .ok s' := by
  rw [runE_cons] at h
  cases hs : step s i with
  | error p => rw [hs] at h; cases h
  | ok r => rw [hs] at h; exact ⟨r, rfl, h⟩

theorem runE_append_ok {step : S → I → Except Panic (S × UpdRet)} {s s' : S} {a b : List I}
    (h : runE step s (a ++ b) = .ok s') : ∃ m, runE step s a = .ok m ∧ runE step m b = .ok s' := by
  rw [runE_append] at h
  cases ha : runE step s a with
  | error p => rw [ha] at h; cases h
  | ok m => rw [ha] at h; exact ⟨m, rfl, h⟩

theorem runE_concat_ok {step : S → I → Except Panic (S × UpdRet)} {s0 s : S} {pre : List I} {l : I}
    (h : runE step s0 (pre ++ [l]) = .ok s) : ∃ s' r, runE step s0 pre = .ok s' ∧ step s' l = .ok r ∧ r.1 = s := by
  obtain ⟨s', hpre, hl⟩ := runE_append_ok h
  obtain ⟨r, hr, hs⟩ := runE_cons_ok hl
  exact ⟨s', r, hpre, hr, Except.ok.inj hs⟩

/-- what a run ends in is decided by its last step -/
theorem runE_last_step {step : S → I → Except Panic (S × UpdRet)} {P : I → S → Prop}
    (hstep : ∀ s i r, step s i = .ok r → P i r.1) {s0 s : S} {evs : List I} (h : runE step s0 evs = .ok s) :
    (evs = [] ∧ s = s0) ∨ ∃ l, evs.getLast? = some l ∧ P l s := by
  rcases List.eq_nil_or_concat evs with rfl | ⟨pre, l, rfl⟩
  · exact .inl ⟨rfl, (Except.ok.inj h).symm⟩
  · rw [List.concat_eq_append] at h ⊢
    obtain ⟨s', r, -, hs, rfl⟩ := runE_concat_ok h
    exact .inr ⟨l, List.getLast?_concat, hstep s' l r hs⟩

theorem runE_inv (step : S → I → Except Panic (S × UpdRet)) (Inv : S → Prop) (Good : I → Prop)
    (hstep : ∀ s i, Inv s → Good i → ∃ r, step s i = .ok r ∧ Inv r.1)
    (s : S) (hs : Inv s) (evs : List I) (hg : ∀ i ∈ evs, Good i) : ∃ s', runE step s evs = .ok s' ∧ Inv s' := by
  induction evs generalizing s with
  | nil => exact ⟨s, rfl, hs⟩
  | cons i is ih =>
    obtain ⟨r, hr, hi⟩ := hstep s i hs (hg i List.mem_cons_self)
    simp only [runE_cons, hr]
    exact ih r.1 hi fun j hj => hg j (List.mem_cons_of_mem _ hj)

theorem runE_total (step : S → I → Except Panic (S × UpdRet)) (ht : ∀ s i, ∃ r, step s i = .ok r)
    (s : S) (evs : List I) : ∃ s', runE step s evs = .ok s' :=
  (runE_inv step (fun _ => True) (fun _ => True) (fun s i _ _ => (ht s i).imp fun _ h => ⟨h, trivial⟩) s trivial evs
    fun _ _ => trivial).imp fun _ h => h.1

theorem runE_rel {A : Type} (step : S → I → Except Panic (S × UpdRet)) (astep : A → I → A) (R : S → A → Prop)
    (hstep : ∀ s a i r, R s a → step s i = .ok r → R r.1 (astep a i))
    (s : S) (a : A) (is : List I) (s' : S) (h0 : R s a) (h : runE step s is = .ok s') : R s' (is.foldl astep a) := by
  induction is generalizing s a with
  | nil => cases h; exact h0
  | cons i is ih =>
    obtain ⟨r, hr, h⟩ := runE_cons_ok h
    exact ih r.1 _ (hstep s a i r h0 hr) h

theorem runE_sim {S' I' : Type} (step : S → I → Except Panic (S × UpdRet))
    (step' : S' → I' → Except Panic (S' × UpdRet)) (f : I → I') (R : S → S' → Prop)
    (hstep : ∀ s s' i t r, R s s' → step s i = .ok (t, r) → ∃ t', step' s' (f i) = .ok (t', r) ∧ R t t')
    (evs : List I) {s t : S} {s' : S'} (hR : R s s') (h : runE step s evs = .ok t) :
    ∃ t', runE step' s' (evs.map f) = .ok t' ∧ R t t' := by
  induction evs generalizing s s' with
  | nil => cases h; exact ⟨s', rfl, hR⟩
  | cons i is ih =>
    obtain ⟨r, hr, h⟩ := runE_cons_ok h
    obtain ⟨t1, h1, hR1⟩ := hstep s s' i r.1 r.2 hR hr
    rw [List.map_cons, runE_cons, h1]
    exact ih hR1 h

theorem runE_append_cons_congr {step : S → I → Except Panic (S × UpdRet)} {s0 s s' : S} {pre : List I} {r : I}
    (hpre : runE step s0 pre = .ok s) (hr : step s r = step s' r) (post : List I) :
    runE step s0 (pre ++ r :: post) = runE step s' (r :: post) := by
  rw [runE_append, hpre]
  simp only [runE_cons, hr]

/-- `hr`: the event `r` is a *reset*, it acts on every state as on the initial one.  After it the run goes on as that
of a newly constructed stream. -/
theorem runE_reset (step : S → I → Except Panic (S × UpdRet)) (init : S) (r : I)
    (hr : ∀ s, step s r = step init r) (pre post : List I) (s : S) (hpre : runE step init pre = .ok s) :
    runE step init (pre ++ r :: post) = runE step init (r :: post) :=
  runE_append_cons_congr hpre (hr s) post

/-- `post₁` ranges over all lists, so over every prefix of what follows the reset: the states after the reset coincide
step by step -/
theorem runE_reset_prefix (step : S → I → Except Panic (S × UpdRet)) (init : S) (r : I)
    (hr : ∀ s, step s r = step init r) (pre post₁ : List I) (s : S) (hpre : runE step init pre = .ok s) :
    runE step init (pre ++ r :: post₁) = runE step init (r :: post₁) :=
  runE_reset step init r hr pre post₁ s hpre

theorem runE_reset_total (step : S → I → Except Panic (S × UpdRet)) (ht : ∀ s i, ∃ r, step s i = .ok r)
    (init : S) (r : I) (hr : ∀ s, step s r = step init r) (pre post : List I) :
    runE step init (pre ++ r :: post) = runE step init (r :: post) := by
  obtain ⟨s, hs⟩ := runE_total step ht init pre
  exact runE_reset step init r hr pre post s hs

/-- after one step from ANY state the getter shows the error of that step's input and no other -/
structure ShowsInputErr {α β : Type} (step : S → Output α → Except Panic (S × UpdRet)) (get : S → Output β) : Prop where
  err : ∀ {s e r}, step s (.error e) = .ok r → get r.1 = .error e
  ok : ∀ {s o r}, step s (.ok o) = .ok r → ∃ v, get r.1 = .ok v

section
variable {α β : Type} {step : S → Output α → Except Panic (S × UpdRet)} {get : S → Output β}

theorem ShowsInputErr.run_iff (hs : ShowsInputErr step get) {s0 s : S} {evs : List (Output α)} (hne : evs ≠ [])
    (h : runE step s0 evs = .ok s) (e : Err) : get s = .error e ↔ evs.getLast? = some (.error e) := by
  have hstep : ∀ s i r, step s i = .ok r → ∀ e, get r.1 = .error e ↔ i = .error e := by
    intro s i r hr e
    rcases i with e' | o
    · rw [hs.err hr, Except.error.injEq, Except.error.injEq, eq_comm]
    · obtain ⟨v, hv⟩ := hs.ok hr
      rw [hv]; exact ⟨nofun, nofun⟩
  rcases runE_last_step (P := fun i s => ∀ e, get s = .error e ↔ i = .error e) hstep h with ⟨rfl, -⟩ | ⟨l, hl, hP⟩
  · exact absurd rfl hne
  · rw [hl, hP e, Option.some.injEq]

/-- C05 "no stale errors", for any stream whose start state shows no error -/
theorem ShowsInputErr.no_stale_err (hs : ShowsInputErr step get) {init : S} (hinit : ∃ v, get init = .ok v)
    {evs : List (Output α)} {s : S} (h : runE step init evs = .ok s) {e : Err} (he : get s = .error e) :
    evs.getLast? = some (.error e) := by
  cases evs with
  | nil => cases h; obtain ⟨v, hv⟩ := hinit; rw [hv] at he; cases he
  | cons i is => exact (hs.run_iff (List.cons_ne_nil i is) h e).mp he
end

/-- `R b a`: `b` is a state of the run over the FILTERED history, `a` of the run over the FULL history.  A deleted
event keeps the relation (it acts on the full side only); a kept event acts identically on related states. -/
structure FilterSim (step : S → I → Except Panic (S × UpdRet)) (noop : I → Bool) (R : S → S → Prop) : Prop where
  refl : ∀ s, R s s
  deleted : ∀ {b a i}, R b a → noop i = true → ∃ a' r, step a i = .ok (a', r) ∧ R b a'
  kept : ∀ {b a i}, R b a → noop i = false → step b i = step a i

section
variable {step : S → I → Except Panic (S × UpdRet)} {noop : I → Bool} {R : S → S → Prop}

theorem FilterSim.run (hs : FilterSim step noop R) (evs : List I) (b a : S) (h : R b a) :
    RelE R (runE step b (evs.filter (fun i => !noop i))) (runE step a evs) := by
  induction evs generalizing b a with
  | nil => exact h
  | cons i is ih =>
    cases hi : noop i with
    | true =>
      obtain ⟨a', r, hr, hR⟩ := hs.deleted h hi
      simp only [List.filter_cons, hi, Bool.not_true, runE_cons, hr]
      exact ih b a' hR
    | false =>
      simp only [List.filter_cons, hi, Bool.not_false, runE_cons, if_true, hs.kept h hi]
      cases step a i with
      | error p => exact rfl
      | ok r => exact ih r.1 r.1 (hs.refl _)

/-- after a kept event the two runs are in the SAME state, not only in related ones -/
theorem FilterSim.run_last (hs : FilterSim step noop R) (evs : List I) (l : I) (hl : evs.getLast? = some l)
    (hnl : noop l = false) (b a : S) (h : R b a) :
    runE step b (evs.filter (fun i => !noop i)) = runE step a evs := by
  obtain ⟨ys, rfl⟩ := List.getLast?_eq_some_iff.mp hl
  have hrel := hs.run ys b a h
  have hf : [l].filter (fun i => !noop i) = [l] := by simp [hnl]
  rw [List.filter_append, hf, runE_append, runE_append]
  revert hrel
  cases runE step b (ys.filter (fun i => !noop i)) <;> cases runE step a ys <;> simp only [RelE, false_imp_iff]
  · rintro rfl; rfl
  · intro hR; simp only [runE_cons, hs.kept hR hnl]
end

/-- events that leave the state untouched: the simulation is equality -/
theorem runE_filter_noop (step : S → I → Except Panic (S × UpdRet)) (noop : I → Bool)
    (hn : ∀ s i, noop i = true → ∃ r, step s i = .ok (s, r)) (s0 : S) (evs : List I) :
    runE step s0 (evs.filter (fun i => !noop i)) = runE step s0 evs :=
  RelE.eq_iff.mp ((FilterSim.mk (R := Eq) (fun _ => rfl)
    (fun h hi => by subst h; obtain ⟨r, hr⟩ := hn _ _ hi; exact ⟨_, r, hr, rfl⟩)
    (fun h _ => by rw [h])).run evs s0 s0 rfl)

end Rrtk
