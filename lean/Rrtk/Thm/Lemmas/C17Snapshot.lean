/-
C17 — SNAPSHOT facts about today's `to_dyn!` arm table (`Rrtk/Gen/ToDyn.lean`, regenerated from /repo/src/reference.rs).
They are NOT obligations of the property: C17 only requires that every variant the macro lists converts; a macro that lists MORE
variants (say, gains arms for `PtrMutex`, `ArcRwLock`, `ArcMutex`) is conformant, and these facts then stop being true. The check builds
this module separately and reports a failure as informational drift, never as a violation.
-/
import Rrtk.Thm.Ext.C17
namespace Rrtk.Thm.C17Snapshot
open Rrtk Rrtk.Thm.C17

/-- `trace` (`Thm/C17.lean`) leaves out the write through the never-created handle 5 and everything after the panicking
`to_dyn!` (an `Arc<Mutex<_>>` Reference: no arm in today's table) -/
example : trace [] (RefCase.init .arcMutex) [.clone 0, .write 5 9, .write 1 3, .toDyn 0, .write 0 4] =
    [.clone 0, .write 1 3] := by decide
example : (run [] (RefCase.init .arcMutex) [.clone 0, .write 5 9, .write 1 3, .toDyn 0, .write 0 4]).read 0 = some 3 := by
  decide

/-- the macro lists exactly `Ptr`, `RcRefCell`, `PtrRwLock`; `PtrMutex`, `ArcRwLock`, `ArcMutex` have no arm at all
(so the property does not require them to convert — and they never do) -/
theorem to_dyn_unlisted_variants :
    toDynLists .ptr = true ∧ toDynLists .rcRefCell = true ∧ toDynLists .ptrRwLock = true ∧
    toDynLists .ptrMutex = false ∧ toDynLists .arcRwLock = false ∧ toDynLists .arcMutex = false := by
  decide
theorem to_dyn_unlisted_never_convert (callerFeats rrtkFeats : List String) :
    toDynHasArmIn callerFeats rrtkFeats .ptrMutex = false ∧ toDynHasArmIn callerFeats rrtkFeats .arcRwLock = false ∧
    toDynHasArmIn callerFeats rrtkFeats .arcMutex = false :=
  ⟨hasArmWith_unlisted Gen.toDynDefs .ptrMutex (by decide) callerFeats rrtkFeats,
    hasArmWith_unlisted Gen.toDynDefs .arcRwLock (by decide) callerFeats rrtkFeats,
    hasArmWith_unlisted Gen.toDynDefs .arcMutex (by decide) callerFeats rrtkFeats⟩

/-- today exactly one definition of the implementing macro is compiled into each rrtk build -/
theorem to_dyn_one_definition_per_build :
    ∀ r ∈ rrtkBuilds, (Gen.toDynDefs.filter (fun d => itemCfgHolds r d.1)).length = 1 := by decide

/-- today an `Arc<Mutex>` Reference has no `to_dyn!` arm: the heap machine panics, on the conversion alone and inside a case
(where by `simulation_run` the `RefCase` model emits the same tokens) -/
example : Heap.toDyn ["std"] [⟨.arcMutex, 5, false, 1⟩] ⟨.arcMutex, 0, false⟩ = .error (.panic .unimpl) := by rfl
example : heapRun ["alloc", "std"] (RState.init .arcMutex) [.cl 0, .dy 1, .rd 0] = [.done, .panic .unimpl] := by rfl

end Rrtk.Thm.C17Snapshot
