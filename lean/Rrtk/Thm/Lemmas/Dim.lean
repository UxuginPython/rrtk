/-
What the unit checks of `Dim.lean` / `Core.lean` do, stated once.  With checking compiled in every unit test of the crate
is `const_eq`, i.e. equality of the two exponent pairs; with checking compiled out `eq_assume_true` (the one the crate's own
code uses) is constantly true and its twin `eq_assume_false` constantly false.  So each checked operation is an `if` on an
equation between units, and each unchecked one is total.  `mul` and `div` check nothing; what they compute holds by `rfl` and
has a name because `rw`, `simp only` and `omega` need one: with checking `DUnit.mul_true`, `div_true`, `new_true`; the two
fields of a product or quotient of quantities `Quantity.mul_value`, `mul_unit`, `div_value`, `div_unit`; the checked unit of a
converted time or a dimensionless number `Quantity.ofTime_unit`, `dimensionless_unit`.  Also the two outcomes of the `i64` range
check and the round trips between a `Command` and its kind, raw value and quantity.  No Mathlib.
-/
import Rrtk.Core
import Rrtk.Thm.Lemmas.Except
namespace Rrtk

theorem chkI64_ok_iff (n r : Int) : chkI64 n = .ok r ↔ r = n ∧ inI64 n := by
  rw [chkI64, Except.ite_ok_error_eq_ok_iff, and_comm, eq_comm]
theorem chkI64_overflow_iff (n : Int) : chkI64 n = .error .overflow ↔ ¬ inI64 n := by
  rw [chkI64, Except.ite_ok_error_eq_error_iff, and_iff_left rfl]

namespace DUnit
theorem constEq_eq (a b : DUnit) : constEq a b = decide (a = b) := by
  cases a; cases b; simp only [constEq, DUnit.mk.injEq, Bool.decide_and]; rfl
theorem constEq_iff {a b : DUnit} : constEq a b = true ↔ a = b := by rw [constEq_eq, decide_eq_true_iff]
theorem constEq_self (a : DUnit) : constEq a a = true := constEq_iff.2 rfl

theorem eqAssumeTrue_true (a b : DUnit) : eqAssumeTrue true a b = decide (a = b) := constEq_eq a b
theorem eqAssumeTrue_false (a b : DUnit) : eqAssumeTrue false a b = true := rfl
theorem eqAssumeFalse_true (a b : DUnit) : eqAssumeFalse true a b = decide (a = b) := constEq_eq a b
theorem eqAssumeFalse_false (a b : DUnit) : eqAssumeFalse false a b = false := rfl

theorem assertEqAssumeOk_true (a b : DUnit) :
    assertEqAssumeOk true a b = if a = b then .ok () else .error .dim := by
  simp only [assertEqAssumeOk, eqAssumeTrue_true, decide_eq_true_eq]
theorem assertEqAssumeOk_false (a b : DUnit) : assertEqAssumeOk false a b = .ok () := rfl

/-- `impl Add for Unit`, either build: the left unit, or the dimension panic -/
theorem add_eq (chk : Bool) (a b : DUnit) :
    add chk a b = if eqAssumeTrue chk a b then .ok a else .error .dim := by
  unfold add assertEqAssumeOk; cases eqAssumeTrue chk a b <;> rfl
theorem sub_eq (chk : Bool) (a b : DUnit) :
    sub chk a b = if eqAssumeTrue chk a b then .ok a else .error .dim := add_eq chk a b
theorem add_true (a b : DUnit) : add true a b = if a = b then .ok a else .error .dim := by
  simp only [add_eq, eqAssumeTrue_true, decide_eq_true_eq]
theorem sub_true (a b : DUnit) : sub true a b = if a = b then .ok a else .error .dim := add_true a b

theorem new_true (mm s : Int) : new true mm s = ⟨mm, s⟩ := rfl
theorem mul_true (a b : DUnit) : mul true a b = ⟨a.mm + b.mm, a.s + b.s⟩ := rfl
theorem div_true (a b : DUnit) : div true a b = ⟨a.mm - b.mm, a.s - b.s⟩ := rfl
theorem mul_comm (chk : Bool) (a b : DUnit) : mul chk a b = mul chk b a := by
  cases chk
  · rfl
  · rw [mul_true, mul_true, Int.add_comm a.mm, Int.add_comm a.s]
end DUnit

namespace Quantity
section
variable {F : Type} [Add F]
theorem add_eq (chk : Bool) (a b : Quantity F) :
    add chk a b = if DUnit.eqAssumeTrue chk a.unit b.unit then .ok ⟨a.value + b.value, a.unit⟩ else .error .dim := by
  rw [add, DUnit.add_eq]; cases DUnit.eqAssumeTrue chk a.unit b.unit <;> rfl
theorem add_true (a b : Quantity F) :
    add true a b = if a.unit = b.unit then .ok ⟨a.value + b.value, a.unit⟩ else .error .dim := by
  simp only [add_eq, DUnit.eqAssumeTrue_true, decide_eq_true_eq]
theorem add_false (a b : Quantity F) : add false a b = .ok ⟨a.value + b.value, a.unit⟩ := rfl

/-- either build: the sum exists as soon as the units that are checked agree -/
theorem add_of_units {chk : Bool} {a b : Quantity F} (h : chk = true → a.unit = b.unit) :
    add chk a b = .ok ⟨a.value + b.value, a.unit⟩ := by
  cases chk
  · rfl
  · rw [add_true, if_pos (h rfl)]

theorem add_ok {chk : Bool} {a b r : Quantity F} (h : add chk a b = .ok r) :
    r = ⟨a.value + b.value, a.unit⟩ ∧ DUnit.eqAssumeTrue chk a.unit b.unit = true := by
  rw [add_eq, Except.ite_ok_error_eq_ok_iff] at h
  exact ⟨h.2.symm, h.1⟩
theorem add_err {chk : Bool} {a b : Quantity F} {p : Panic} (h : add chk a b = .error p) : p = .dim := by
  rw [add_eq, Except.ite_ok_error_eq_error_iff] at h
  exact h.2.symm
end

section
variable {F : Type} [Sub F]
theorem sub_eq (chk : Bool) (a b : Quantity F) :
    sub chk a b = if DUnit.eqAssumeTrue chk a.unit b.unit then .ok ⟨a.value - b.value, a.unit⟩ else .error .dim := by
  rw [sub, DUnit.sub_eq]; cases DUnit.eqAssumeTrue chk a.unit b.unit <;> rfl
theorem sub_true (a b : Quantity F) :
    sub true a b = if a.unit = b.unit then .ok ⟨a.value - b.value, a.unit⟩ else .error .dim := by
  simp only [sub_eq, DUnit.eqAssumeTrue_true, decide_eq_true_eq]
theorem sub_false (a b : Quantity F) : sub false a b = .ok ⟨a.value - b.value, a.unit⟩ := rfl
theorem sub_ok {chk : Bool} {a b r : Quantity F} (h : sub chk a b = .ok r) :
    r = ⟨a.value - b.value, a.unit⟩ ∧ DUnit.eqAssumeTrue chk a.unit b.unit = true := by
  rw [sub_eq, Except.ite_ok_error_eq_ok_iff] at h
  exact ⟨h.2.symm, h.1⟩
theorem sub_err {chk : Bool} {a b : Quantity F} {p : Panic} (h : sub chk a b = .error p) : p = .dim := by
  rw [sub_eq, Except.ite_ok_error_eq_error_iff] at h
  exact h.2.symm
end

section
variable {F : Type}
theorem mul_value [Mul F] (chk : Bool) (a b : Quantity F) : (mul chk a b).value = a.value * b.value := rfl
theorem mul_unit [Mul F] (chk : Bool) (a b : Quantity F) : (mul chk a b).unit = DUnit.mul chk a.unit b.unit := rfl
theorem div_value [Div F] (chk : Bool) (a b : Quantity F) : (div chk a b).value = a.value / b.value := rfl
theorem div_unit [Div F] (chk : Bool) (a b : Quantity F) : (div chk a b).unit = DUnit.div chk a.unit b.unit := rfl
theorem ofTime_unit [Div F] [FloatLike F] (t : Int) : (ofTime true t : Quantity F).unit = ⟨0, 1⟩ := rfl
theorem dimensionless_unit (v : F) : (dimensionless true v).unit = ⟨0, 0⟩ := rfl

/-- a product of quantities commutes where the scalars' does: the exponents are sums in `Int` -/
theorem mul_comm [Mul F] (hcomm : ∀ x y : F, x * y = y * x) (chk : Bool) (a b : Quantity F) :
    mul chk a b = mul chk b a := by
  rw [mul, mul, hcomm, DUnit.mul_comm]
end

section
variable {F : Type} [LT F] [BEq F] [DecidableLT F]
theorem partialCmp_eq (chk : Bool) (a b : Quantity F) :
    partialCmp chk a b = if DUnit.eqAssumeTrue chk a.unit b.unit then .ok (cmpF a.value b.value) else .error .dim := by
  unfold partialCmp DUnit.assertEqAssumeOk; cases DUnit.eqAssumeTrue chk a.unit b.unit <;> rfl
theorem partialCmp_true (a b : Quantity F) :
    partialCmp true a b = if a.unit = b.unit then .ok (cmpF a.value b.value) else .error .dim := by
  simp only [partialCmp_eq, DUnit.eqAssumeTrue_true, decide_eq_true_eq]
end
end Quantity

namespace Command
variable {F : Type}
theorem kind_new (pd : PosDer) (v : F) : (Command.new pd v).kind = pd := by cases pd <;> rfl
theorem raw_new (pd : PosDer) (v : F) : (Command.new pd v).raw = v := by cases pd <;> rfl
theorem new_kind_raw (c : Command F) : Command.new c.kind c.raw = c := by cases c <;> rfl
theorem tryOfQuantity_toQuantity (c : Command F) : Command.tryOfQuantity (Command.toQuantity true c) = some c := by
  cases c <;> rfl
/-- an end state at rest (`acceleration == 0.0`, `velocity == 0.0`) is commanded as its position -/
theorem ofState_rest [BEq F] [FloatLike F] {e : State F} (ha : (e.acceleration == c0) = true)
    (hv : (e.velocity == c0) = true) : Command.ofState e = .position e.position := by
  simp only [Command.ofState, ha, hv, if_true]
end Command

section
variable {F : Type} [Mul F] [FloatLike F]
/-- `Time::try_from(Quantity)` with checking: exactly for seconds, `(value * 1e9) as i64` -/
theorem Time.tryOfQuantity_true (q : Quantity F) :
    Time.tryOfQuantity true q = if q.unit = ⟨0, 1⟩ then some (FloatLike.toInt (q.value * c1e9)) else none := by
  simp only [Time.tryOfQuantity, DUnit.eqAssumeTrue_true, decide_eq_true_eq]; rfl
theorem Time.tryOfQuantity_false (q : Quantity F) :
    Time.tryOfQuantity false q = some (FloatLike.toInt (q.value * c1e9)) := rfl
theorem Time.tryOfQuantity_some {chk : Bool} {q : Quantity F} {n : Int} (h : Time.tryOfQuantity chk q = some n) :
    n = FloatLike.toInt (q.value * c1e9) ∧ DUnit.eqAssumeTrue chk q.unit (SECOND chk) = true := by
  unfold Time.tryOfQuantity at h
  split at h
  · exact ⟨(Option.some.inj h).symm, ‹_›⟩
  · cases h
end
theorem DimInt.tryOfQuantity_true {F : Type} [FloatLike F] (q : Quantity F) :
    DimInt.tryOfQuantity true q = if q.unit = ⟨0, 0⟩ then some (FloatLike.toInt q.value) else none := by
  simp only [DimInt.tryOfQuantity, DUnit.eqAssumeTrue_true, decide_eq_true_eq]; rfl

namespace State
section
variable {F : Type} [FloatLike F]
theorem setConstantPosition_true (s : State F) (q : Quantity F) :
    setConstantPosition true s q = if q.unit = ⟨1, 0⟩ then (⟨q.value, c0, c0⟩, true) else (s, false) := by
  simp only [setConstantPosition, DUnit.eqAssumeTrue_true, decide_eq_true_eq]; rfl
theorem setConstantVelocity_true (s : State F) (q : Quantity F) :
    setConstantVelocity true s q = if q.unit = ⟨1, -1⟩ then (⟨s.position, q.value, c0⟩, true) else (s, false) := by
  simp only [setConstantVelocity, DUnit.eqAssumeTrue_true, decide_eq_true_eq]; rfl
end

section
variable {F : Type}
theorem setConstantAcceleration_true (s : State F) (q : Quantity F) :
    setConstantAcceleration true s q =
      if q.unit = ⟨1, -2⟩ then (⟨s.position, s.velocity, q.value⟩, true) else (s, false) := by
  simp only [setConstantAcceleration, DUnit.eqAssumeTrue_true, decide_eq_true_eq]; rfl

/-- `State::new` accepts exactly (mm, mm/s, mm/s²) -/
theorem new_true (p v a : Quantity F) :
    State.new true p v a =
      if p.unit = ⟨1, 0⟩ ∧ v.unit = ⟨1, -1⟩ ∧ a.unit = ⟨1, -2⟩ then .ok ⟨p.value, v.value, a.value⟩ else .error .dim := by
  simp only [State.new, DUnit.assertEqAssumeOk_true]
  by_cases hp : p.unit = ⟨1, 0⟩ <;> by_cases hv : v.unit = ⟨1, -1⟩ <;> by_cases ha : a.unit = ⟨1, -2⟩ <;>
    simp only [hp, hv, ha, MILLIMETER, MILLIMETER_PER_SECOND, MILLIMETER_PER_SECOND_SQUARED, DUnit.new_true, if_true, if_false,
      and_self, and_false, false_and]
theorem new_false (p v a : Quantity F) : State.new false p v a = .ok ⟨p.value, v.value, a.value⟩ := rfl
theorem new_ok {chk : Bool} {p v a : Quantity F} {s : State F} (h : State.new chk p v a = .ok s) :
    s = ⟨p.value, v.value, a.value⟩ := by
  cases chk
  · exact (Except.ok.inj h).symm
  · rw [new_true, Except.ite_ok_error_eq_ok_iff] at h
    exact h.2.symm
end

/-- `State::update` as written through the `Quantity` operators never panics and is the raw formula, in either build -/
theorem updateQ_eq {F : Type} [Add F] [Mul F] [Div F] [FloatLike F] (chk : Bool) (s : State F) (dt : Int) :
    updateQ chk s dt = .ok (update s dt) := by
  cases chk <;> rfl
end State
end Rrtk
