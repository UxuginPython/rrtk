/-
C19, the controllers: the model functions that take `chk` and are not covered by `Thm/C19.lean`.

* `Cpid.stepInput` / `Cpid.step` (`CommandPID`) and `PidW.update` (`PIDWrapper`): the only use of `chk` is the unit of the
  quantity returned by `State::get_value`, whose VALUE is then taken; so the two builds compute literally the same thing
  (`erase_cpid`, `erase_pidw`: equalities with no hypothesis).
* the controller assembled from the crate's own streams (`diffQ`, `Spid.errorSignal`, `Spid.step`): one-step simulation,
  whole histories, "well-dimensioned inputs never panic when checked", "unchecked never panics".
-/
import Rrtk.Thm.C19
import Rrtk.Thm.C11
import Rrtk.Streams.Composed
set_option linter.unusedSectionVars false
namespace Rrtk.Thm.C19
open Rrtk

variable {F : Type} [Add F] [Sub F] [Mul F] [Div F] [Neg F] [LT F] [LE F] [BEq F]
  [DecidableLT F] [DecidableLE F] [FloatLike F]

/-- `CommandPID::update`: new memory (every `f32` and the timestamp in it), the recorded request and the update's
return value are equal with dimension checking compiled in and out — for every state, every followed command and every
input, with no side condition (the `State` carries no unit, so no input is ill-dimensioned). -/
theorem erase_cpid (k : PIDK3 F) (s : CpidS F) (fol : Option (Output (Command F))) (inp : Output (State F)) :
    Cpid.step true k s fol inp = Cpid.step false k s fol inp := by
  unfold Cpid.step
  simp only [C11.cpid_chk_irrelevant]

theorem erase_cpid_any (c c' : Bool) (k : PIDK3 F) (s : CpidS F) (fol : Option (Output (Command F)))
    (inp : Output (State F)) : Cpid.step c k s fol inp = Cpid.step c' k s fol inp := by
  have h : ∀ c, Cpid.step c k s fol inp = Cpid.step false k s fol inp := fun c => by
    cases c
    · rfl
    · exact erase_cpid k s fol inp
  exact (h c).trans (h c').symm

theorem erase_cpid_get (k : PIDK3 F) (s : CpidS F) (fol : Option (Output (Command F))) (inp : Output (State F)) :
    Cpid.get (Cpid.step true k s fol inp).1 = Cpid.get (Cpid.step false k s fol inp).1 ∧
    (Cpid.step true k s fol inp).2 = (Cpid.step false k s fol inp).2 := by
  rw [erase_cpid]; exact ⟨rfl, rfl⟩

/-- whole histories of `CommandPID` updates -/
def runCpid (chk : Bool) (k : PIDK3 F) :
    CpidS F → List (Option (Output (Command F)) × Output (State F)) → CpidS F × List UpdRet
  | s, [] => (s, [])
  | s, i :: is =>
    let r := Cpid.step chk k s i.1 i.2
    let q := runCpid chk k r.1 is
    (q.1, r.2 :: q.2)

theorem erase_cpid_run (k : PIDK3 F) (s : CpidS F) (is : List (Option (Output (Command F)) × Output (State F))) :
    runCpid true k s is = runCpid false k s is := by
  induction is generalizing s with
  | nil => rfl
  | cons i is ih => simp only [runCpid, erase_cpid, ih]

/-- `PIDWrapper::update`: new wrapper state (clock, cached state and command, PID memory), the value handed to the
motor and the return value are equal in the two builds, for every world, terminal and scripted motor. -/
theorem erase_pidw (k : PIDK3 F) (p : PidW F) (w : World F) (i : Nat) (acc iu : UpdRet) :
    PidW.update true k p w i acc iu = PidW.update false k p w i acc iu := by
  unfold PidW.update
  simp only [erase_cpid]

/-- erasure of the assembled controller's memory: the two `Quantity` streams are erased, the three `QuantityToFloat`
caches hold plain `f32`s and are kept -/
def eraseSp (s : SpidS F) : SpidS F := ⟨eraseDi s.int, eraseDi s.drv, s.pro, s.intF, s.drvF⟩

theorem eraseSp_get (s : SpidS F) : Spid.get (eraseSp s) = Spid.get s := rfl
theorem eraseSp_init : eraseSp (Spid.init : SpidS F) = Spid.init := rfl

theorem diffQ_sim (a b : Output (Quantity F)) :
    Sim eraseOut (diffQ true a b) (diffQ false (eraseOut a) (eraseOut b)) := by
  rcases a with e | _ | x
  · exact .ok _
  · rcases b with e' | _ | y <;> exact .ok _
  rcases b with e' | _ | y
  · exact .ok _
  · exact .ok _
  -- only two present values reach the subtraction
  simp only [diffQ, eraseOut, eraseOD]
  exact (sub_sim _ _).elim (fun _ _ => .error _ _) fun v => .ok _
example : diffQ true (.ok (some ⟨4, ⟨7, ⟨1, 0⟩⟩⟩) : Output (Quantity Int)) (.ok (some ⟨3, ⟨2, ⟨1, 0⟩⟩⟩))
    = .ok (.ok (some ⟨4, ⟨5, ⟨1, 0⟩⟩⟩)) := rfl

theorem diffQ_unchecked_never_panics (a b : Output (Quantity F)) : ∃ o, diffQ false a b = .ok o := by
  rcases a with e | _ | x <;> rcases b with e' | _ | y <;> exact ⟨_, rfl⟩

theorem tg_erase (ev : Output (Quantity F)) :
    Stream.timeGetterFromGetter (eraseOut ev) = Stream.timeGetterFromGetter ev := by
  rcases ev with e | _ | d <;> rfl

theorem constantGetter_erase (tg : TimeOutput) (q : Quantity F) :
    eraseOut (Stream.constantGetter tg q) = Stream.constantGetter tg (eraseQ q) := by
  cases tg <;> rfl

theorem noneToValue_erase (x : Output (Quantity F)) (tg : TimeOutput) (q : Quantity F) :
    eraseOut (Stream.noneToValue x tg q) = Stream.noneToValue (eraseOut x) tg (eraseQ q) := by
  rcases x with e | _ | d
  · rfl
  · cases tg <;> rfl
  · rfl

/-- `ProductStream` of two quantity inputs -/
theorem nary_mul_erase (a b : Output (Quantity F)) :
    eraseOut (Stream.nary (Quantity.mul true) [a, b]) = Stream.nary (Quantity.mul false) [eraseOut a, eraseOut b] := by
  rcases a with e | _ | x <;> rcases b with e' | _ | y <;> rfl

/-- `QuantityToFloat` only keeps the value and the time -/
theorem q2f_erase (s : Output F) (x : Output (Quantity F)) : Q2f.step s (eraseOut x) = Q2f.step s x := by
  rcases x with e | _ | d <;> rfl

theorem errorSignal_sim (sp : F) (ev : Output (Quantity F)) :
    Sim eraseOut (Spid.errorSignal true sp ev) (Spid.errorSignal false sp (eraseOut ev)) := by
  have h := diffQ_sim (Stream.constantGetter (Stream.timeGetterFromGetter ev) (⟨sp, MILLIMETER true⟩ : Quantity F)) ev
  rw [constantGetter_erase] at h
  unfold Spid.errorSignal
  rw [tg_erase]
  exact h
example : Spid.errorSignal true (10 : Int) (.ok (some ⟨3, ⟨2, ⟨1, 0⟩⟩⟩)) = .ok (.ok (some ⟨3, ⟨8, ⟨1, 0⟩⟩⟩)) := rfl

theorem spid_step_sim (sp kp ki kd : F) (s : SpidS F) (ev : Output (Quantity F)) :
    Sim (Prod.map eraseSp id) (Spid.step true sp kp ki kd s ev)
      (Spid.step false sp kp ki kd (eraseSp s) (eraseOut ev)) := by
  simp only [Spid.step, eraseSp, tg_erase]
  refine (errorSignal_sim sp ev).elim (fun _ _ => .error _ _) fun err => ?_
  dsimp only
  refine (integral_step_sim s.int err).elim (fun _ _ => .error _ _) fun ri => ?_
  obtain ⟨int', r1⟩ := ri
  dsimp only [Prod.map, id]
  refine (derivative_step_sim s.drv err).elim (fun _ _ => .error _ _) fun rd => ?_
  obtain ⟨drv', r2⟩ := rd
  refine .ok' ?_
  -- the three float caches: gain × signal, converted to a number, does not see the units
  have e1 : ∀ (c : F), (Stream.constantGetter (Stream.timeGetterFromGetter ev) (Quantity.dimensionless false c)
      : Output (Quantity F)) = eraseOut (Stream.constantGetter (Stream.timeGetterFromGetter ev)
        (Quantity.dimensionless true c)) :=
    fun c => (constantGetter_erase _ (Quantity.dimensionless true c)).symm
  have e2 : ∀ x : Output (Quantity F),
      Stream.noneToValue (eraseOut x) (Stream.timeGetterFromGetter ev) (⟨c0, MILLIMETER false⟩ : Quantity F)
        = eraseOut (Stream.noneToValue x (Stream.timeGetterFromGetter ev) ⟨c0, MILLIMETER true⟩) :=
    fun x => (noneToValue_erase x _ (⟨c0, MILLIMETER true⟩ : Quantity F)).symm
  have g1 : Integral.get (eraseDi int') = eraseOut (Integral.get int') := rfl
  have g2 : Derivative.get (eraseDi drv') = eraseOut (Derivative.get drv') := rfl
  simp only [Prod.map, id, eraseSp, e1, g1, g2, e2, ← nary_mul_erase, q2f_erase]

theorem spid_unchecked_never_panics (sp kp ki kd : F) (s : SpidS F) (ev : Output (Quantity F)) :
    ∃ r, Spid.step false sp kp ki kd s ev = .ok r := by
  obtain ⟨err, he⟩ : ∃ o, Spid.errorSignal false sp ev = .ok o := diffQ_unchecked_never_panics _ _
  obtain ⟨ri, hi⟩ := integral_unchecked_never_panics s.int err
  obtain ⟨rd, hd⟩ := derivative_unchecked_never_panics s.drv err
  obtain ⟨i1, i2⟩ := ri
  obtain ⟨d1, d2⟩ := rd
  simp only [Spid.step, he, hi, hd]
  exact ⟨_, rfl⟩

/-- a present input is a position (millimetres) -/
def WdIn (ev : Output (Quantity F)) : Prop := ∀ d, ev = .ok (some d) → d.value.unit = ⟨1, 0⟩
/-- the memory is dimensionally consistent: remembered error samples in mm, the running integral in mm·s -/
def WdSp (s : SpidS F) : Prop :=
  (∀ d, s.int.prev = some d → d.value.unit = ⟨1, 0⟩) ∧
  (∀ d, s.int.value = .ok (some d) → d.value.unit = ⟨1, 1⟩) ∧
  (∀ d, s.drv.prev = some d → d.value.unit = ⟨1, 0⟩)

theorem wdSp_init : WdSp (Spid.init : SpidS F) :=
  ⟨nofun, nofun, nofun⟩

/-! With the units the hypotheses name substituted, every unit test of a step is between closed units and the step computes. -/

theorem errorSignal_checked_wd (sp : F) {ev : Output (Quantity F)} (hev : WdIn ev) :
    ∃ err, Spid.errorSignal true sp ev = .ok err ∧ WdIn err := by
  rcases ev with e | _ | ⟨t, v, u⟩
  · exact ⟨_, rfl, nofun⟩
  · exact ⟨_, rfl, nofun⟩
  obtain rfl : u = ⟨1, 0⟩ := hev _ rfl
  refine ⟨.ok (some ⟨t, ⟨sp - v, ⟨1, 0⟩⟩⟩), ?_, fun d' h => by cases h; rfl⟩
  simp only [Spid.errorSignal, Stream.timeGetterFromGetter, Stream.noneToError, Stream.constantGetter, diffQ]
  -- setpoint and input are both stamped `t`: the difference carries `if t > t then t else t`
  simp only [gt_iff_lt, Int.lt_irrefl, if_false]
  rfl

theorem integral_checked_wd {s : DiS F} {err : Output (Quantity F)}
    (hp : ∀ d, s.prev = some d → d.value.unit = ⟨1, 0⟩) (hv : ∀ d, s.value = .ok (some d) → d.value.unit = ⟨1, 1⟩)
    (herr : WdIn err) :
    ∃ r, Integral.step true s err = .ok r ∧ (∀ d, r.1.prev = some d → d.value.unit = ⟨1, 0⟩) ∧
      (∀ d, r.1.value = .ok (some d) → d.value.unit = ⟨1, 1⟩) := by
  obtain ⟨v, prev⟩ := s
  rcases err with e | _ | ⟨t, ov, ou⟩
  · exact ⟨_, rfl, nofun, nofun⟩
  · exact ⟨_, rfl, nofun, nofun⟩
  obtain rfl : ou = ⟨1, 0⟩ := herr _ rfl
  rcases prev with _ | ⟨tp, pv, pu⟩
  · exact ⟨_, rfl, fun d h => by cases h; rfl, nofun⟩
  obtain rfl : pu = ⟨1, 0⟩ := hp _ rfl
  -- the new area `dt · (p + o) / 2` is in mm·s, as is the running integral it is added to
  rcases v with e | _ | ⟨tr, rv, ru⟩
  · exact ⟨_, rfl, fun d h => by cases h; rfl, fun d h => by cases h; rfl⟩
  · exact ⟨_, rfl, fun d h => by cases h; rfl, fun d h => by cases h; rfl⟩
  · obtain rfl : ru = ⟨1, 1⟩ := hv _ rfl
    exact ⟨_, rfl, fun d h => by cases h; rfl, fun d h => by cases h; rfl⟩

theorem derivative_checked_wd {s : DiS F} {err : Output (Quantity F)}
    (hp : ∀ d, s.prev = some d → d.value.unit = ⟨1, 0⟩) (herr : WdIn err) :
    ∃ r, Derivative.step true s err = .ok r ∧ (∀ d, r.1.prev = some d → d.value.unit = ⟨1, 0⟩) := by
  obtain ⟨v, prev⟩ := s
  rcases err with e | _ | ⟨t, ov, ou⟩
  · exact ⟨_, rfl, nofun⟩
  · exact ⟨_, rfl, nofun⟩
  obtain rfl : ou = ⟨1, 0⟩ := herr _ rfl
  rcases prev with _ | ⟨tp, pv, pu⟩
  · exact ⟨_, rfl, fun d h => by cases h; rfl⟩
  obtain rfl : pu = ⟨1, 0⟩ := hp _ rfl
  exact ⟨_, rfl, fun d h => by cases h; rfl⟩

theorem spid_checked_no_panic (sp kp ki kd : F) {s : SpidS F} {ev : Output (Quantity F)} (hs : WdSp s) (hev : WdIn ev) :
    ∃ s' r, Spid.step true sp kp ki kd s ev = .ok (s', r) ∧ WdSp s' := by
  obtain ⟨err, he, herr⟩ := errorSignal_checked_wd sp hev
  obtain ⟨ri, hi, hi1, hi2⟩ := integral_checked_wd hs.1 hs.2.1 herr
  obtain ⟨rd, hd, hd1⟩ := derivative_checked_wd hs.2.2 herr
  obtain ⟨i1, i2⟩ := ri
  obtain ⟨d1, d2⟩ := rd
  refine ⟨_, _, by simp only [Spid.step, he, hi, hd]; rfl, hi1, hi2, hd1⟩

/-- The assembled controller, whole histories.  From a dimensionally consistent memory (e.g. a new controller), on
any history of inputs whose present samples are positions: the checked run does not panic; the unchecked run on the
erased history does not panic, ends in the erased memory (every value and timestamp equal), returns the same update
values and reads the same output. -/
theorem erase_spid (sp kp ki kd : F) (evs : List (Output (Quantity F))) (s : SpidS F) (hs : WdSp s)
    (hev : ∀ ev ∈ evs, WdIn ev) :
    ∃ s' rs, runT (Spid.step true sp kp ki kd) s evs = .ok (s', rs) ∧
      runT (Spid.step false sp kp ki kd) (eraseSp s) (evs.map eraseOut) = .ok (eraseSp s', rs) ∧
      Spid.get (eraseSp s') = Spid.get s' ∧ WdSp s' := by
  induction evs generalizing s with
  | nil => exact ⟨s, [], rfl, rfl, rfl, hs⟩
  | cons ev evs ih =>
    obtain ⟨s1, r1, h1, hs1⟩ := spid_checked_no_panic sp kp ki kd hs (hev ev (by simp))
    obtain ⟨s2, rs, h2, -, h4, h5⟩ := ih s1 hs1 (fun e he => hev e (by simp [he]))
    have hrun : runT (Spid.step true sp kp ki kd) s (ev :: evs) = .ok (s2, r1 :: rs) := by simp only [runT, h1, h2]
    exact ⟨s2, r1 :: rs, hrun, runT_sim (spid_step_sim sp kp ki kd) s _ _ hrun, h4, h5⟩

/-- the simulation alone (no assumption on the inputs beyond "the checked run did not panic") and totality of the
unchecked run on ANY history -/
theorem erase_spid_sim (sp kp ki kd : F) :
    (∀ (s s' : SpidS F) evs rs, runT (Spid.step true sp kp ki kd) s evs = .ok (s', rs) →
      runT (Spid.step false sp kp ki kd) (eraseSp s) (evs.map eraseOut) = .ok (eraseSp s', rs)) ∧
    (∀ (s : SpidS F) evs, ∃ q, runT (Spid.step false sp kp ki kd) s evs = .ok q) :=
  ⟨fun s _ evs _ => runT_sim (spid_step_sim sp kp ki kd) s evs _,
    fun s evs => runT_total _ (fun s i => spid_unchecked_never_panics sp kp ki kd s i) s evs⟩

/-- non-vacuity: three position samples (so that integral and derivative both run), checked, from a new controller -/
example : ∀ ev ∈ ([.ok (some ⟨1, ⟨3, ⟨1, 0⟩⟩⟩), .ok (some ⟨3, ⟨7, ⟨1, 0⟩⟩⟩), .ok none, .ok (some ⟨4, ⟨5, ⟨1, 0⟩⟩⟩)]
    : List (Output (Quantity Int))), WdIn ev := by
  intro ev h d hd
  simp only [List.mem_cons, List.not_mem_nil, or_false] at h
  rcases h with rfl | rfl | rfl | rfl <;> cases hd <;> rfl
example : ∃ q, runT (Spid.step true (10 : Int) 2 3 4) Spid.init
    [.ok (some ⟨1, ⟨3, ⟨1, 0⟩⟩⟩), .ok (some ⟨3, ⟨7, ⟨1, 0⟩⟩⟩), .ok (some ⟨4, ⟨5, ⟨1, 0⟩⟩⟩)] = .ok q := ⟨_, rfl⟩
example : Spid.step true (10 : Int) 2 3 4 Spid.init (.ok (some ⟨1, ⟨3, ⟨0, 1⟩⟩⟩)) = .error .dim := rfl
example : ∃ q, Spid.step false (10 : Int) 2 3 4 Spid.init (.ok (some ⟨1, ⟨3, ⟨0, 1⟩⟩⟩)) = .ok q := ⟨_, rfl⟩

end Rrtk.Thm.C19
