/-
C04, the assembled-controller clause with dimension checking compiled in (`chk = true`).

The wiring (`Streams/Composed.lean`, `examples/pid.rs`) gives the setpoint the unit millimetre, so the error signal
`setpoint − input` asserts that every present input is in millimetres `⟨1,0⟩`; the integral is then in `mm·s`, the
derivative in `mm/s`, the absent integral/derivative are replaced by `0 mm`, the products with the dimensionless gains
never assert anything, and `QuantityToFloat` drops the units before the sum.  The two facts about one update are C19's
(`Lemmas/C19Controllers.lean`): on a well-dimensioned input and memory the checked update does not panic
(`spid_checked_no_panic`), and a checked update that does not panic computes what the unchecked update computes on the
unit-erased memory and input (`spid_step_sim`).  Here they are lifted to histories, and `pid_eq_composed` is carried over.
-/
import Rrtk.Thm.Lemmas.C04Composed
import Rrtk.Thm.Lemmas.C19Controllers
import Rrtk.Thm.Lemmas.Dim
set_option linter.unusedSectionVars false
namespace Rrtk.Thm.C04
open Rrtk

section S
variable {F : Type} [Add F] [Sub F] [Mul F] [Div F] [Neg F] [LT F] [LE F] [BEq F]
  [DecidableLT F] [DecidableLE F] [FloatLike F]
open Rrtk.Thm.C19 (eraseD eraseOut eraseSp WdIn WdSp)

/-- every present input of the history is in millimetres (the unit the wiring gives the setpoint) -/
def AllMm (evs : List (Output (Quantity F))) : Prop :=
  ∀ d : Datum (Quantity F), (.ok (some d) : Output (Quantity F)) ∈ evs → d.value.unit = ⟨1, 0⟩

theorem allMm_cons (ev : Output (Quantity F)) (rest : List (Output (Quantity F))) :
    AllMm (ev :: rest) ↔ WdIn ev ∧ AllMm rest := by
  constructor
  · exact fun h => ⟨fun d hd => h d (hd ▸ List.mem_cons_self), fun d hd => h d (List.mem_cons_of_mem _ hd)⟩
  · rintro ⟨h1, h2⟩ d hd
    rcases List.mem_cons.1 hd with h | h
    · exact h1 d h.symm
    · exact h2 d h

/-- a present input in any other unit: the subtraction's dimension assertion fires -/
theorem errorSignal_checked_wrong (sp : F) (d : Datum (Quantity F)) (hd : d.value.unit ≠ ⟨1, 0⟩) :
    Spid.errorSignal true sp (.ok (some d)) = .error .dim := by
  rw [errorSignal_present_eq, Quantity.sub_true, if_neg (fun h => hd h.symm)]
  rfl
theorem errorSignal_checked_absent (sp : F) :
    Spid.errorSignal (F := F) true sp (.ok none) = .ok (.error .fromNone) := rfl
theorem errorSignal_checked_error (sp : F) (e : Err) :
    Spid.errorSignal (F := F) true sp (.error e) = .ok (.error e) := rfl

/-- **a present input that is not in millimetres panics** (dimension assertion of `setpoint − input`), from any state -/
theorem spid_step_wrong_unit_panics (sp kp ki kd : F) (s : SpidS F) (d : Datum (Quantity F))
    (hd : d.value.unit ≠ ⟨1, 0⟩) : Spid.step true sp kp ki kd s (.ok (some d)) = .error .dim := by
  simp only [Spid.step, errorSignal_checked_wrong sp d hd]

theorem spid_checked_run_ok (sp kp ki kd : F) (evs : List (Output (Quantity F))) (s : SpidS F) (hs : WdSp s)
    (hu : AllMm evs) : ∃ s', runE (Spid.step true sp kp ki kd) s evs = .ok s' ∧ WdSp s' :=
  runE_inv (Spid.step true sp kp ki kd) WdSp WdIn
    (fun _ _ hs hev => (C19.spid_checked_no_panic sp kp ki kd hs hev).elim fun s' ⟨r, h, hw⟩ => ⟨(s', r), h, hw⟩)
    s hs evs fun _ hev d hd => hu d (hd ▸ hev)

theorem spid_checked_panics (sp kp ki kd : F) (evs : List (Output (Quantity F))) (s : SpidS F) (hs : WdSp s)
    (hu : ¬ AllMm evs) : runE (Spid.step true sp kp ki kd) s evs = .error .dim := by
  induction evs generalizing s with
  | nil => exact absurd (fun d h => by cases h) hu
  | cons ev rest ih =>
    rw [allMm_cons, not_and_or] at hu
    by_cases hev : WdIn ev
    · obtain ⟨s1, r, h1, hs1⟩ := C19.spid_checked_no_panic sp kp ki kd hs hev
      rw [runE_cons, h1]
      exact ih s1 hs1 (hu.resolve_left (not_not_intro hev))
    · obtain ⟨d, hd⟩ := not_forall.1 hev
      obtain ⟨rfl, hd'⟩ := Classical.not_imp.1 hd
      rw [runE_cons, spid_step_wrong_unit_panics sp kp ki kd s d hd']

/-- When the checked assembled controller panics: no law of the scalar is used. -/
theorem spid_checked_run_iff (sp kp ki kd : F) (evs : List (Output (Quantity F))) :
    ((∃ s', runE (Spid.step true sp kp ki kd) Spid.init evs = .ok s') ↔ AllMm evs) ∧
    (¬ AllMm evs → runE (Spid.step true sp kp ki kd) Spid.init evs = .error .dim) := by
  refine ⟨⟨?_, ?_⟩, spid_checked_panics sp kp ki kd evs Spid.init C19.wdSp_init⟩
  · rintro ⟨s', h⟩
    by_contra hu
    rw [spid_checked_panics sp kp ki kd evs Spid.init C19.wdSp_init hu] at h
    cases h
  · intro hu
    obtain ⟨s', h, _⟩ := spid_checked_run_ok sp kp ki kd evs Spid.init C19.wdSp_init hu
    exact ⟨s', h⟩

/-- the PID stream only ever sees the numbers -/
theorem toF_erase (ev : Output (Quantity F)) : toF (eraseOut ev) = toF ev := by
  cases ev with
  | error e => rfl
  | ok o => cases o <;> rfl
theorem runPid_erase (sp kp ki kd : F) (p : PidS F) (evs : List (Output (Quantity F))) :
    runPid sp kp ki kd p (evs.map eraseOut) = runPid sp kp ki kd p evs := by
  simp only [runPid, List.foldl_map, toF_erase]

/-- General form: ANY history that the checked assembled controller survives.  The run is erased to an unchecked one
(`C19.runE_sim`), where `pid_eq_composed` applies; the PID stream only ever saw the numbers. -/
theorem pid_eq_composed_checked_of_ok (hzero : ∀ x : F, c0 + x = x) (hcomm : ∀ x y : F, x + y = y + x)
    (sp kp ki kd : F) (pre : List (Output (Quantity F))) (d : Datum (Quantity F)) (s' : SpidS F)
    (h : runE (Spid.step true sp kp ki kd) Spid.init (pre ++ [.ok (some d)]) = .ok s') :
    Spid.get s' = Pid.get (runPid sp kp ki kd Pid.init (pre ++ [.ok (some d)])) := by
  have he : runE (Spid.step false sp kp ki kd) Spid.init (pre.map eraseOut ++ [.ok (some (eraseD d))]) =
      .ok (eraseSp s') := by
    have := C19.runE_sim (C19.spid_step_sim sp kp ki kd) _ _ s' h
    rwa [List.map_append] at this
  obtain ⟨s2, h2, hout⟩ := pid_eq_composed hzero hcomm sp kp ki kd (pre.map eraseOut) (eraseD d)
  rw [runSpid_eq_runE, he] at h2
  cases h2
  rw [← runPid_erase, List.map_append]
  exact hout

/-- **C04, assembled-controller clause, `chk = true`.**  Tier L: the same two laws of `+` as `pid_eq_composed`.  By
`spid_checked_run_iff` the unit hypothesis is also necessary for the left-hand side to exist. -/
theorem pid_eq_composed_checked (hzero : ∀ x : F, c0 + x = x) (hcomm : ∀ x y : F, x + y = y + x)
    (sp kp ki kd : F) (pre : List (Output (Quantity F))) (d : Datum (Quantity F))
    (hu : AllMm (pre ++ [.ok (some d)])) :
    ∃ s', runE (Spid.step true sp kp ki kd) Spid.init (pre ++ [.ok (some d)]) = .ok s' ∧
      Spid.get s' = Pid.get (runPid sp kp ki kd Pid.init (pre ++ [.ok (some d)])) := by
  obtain ⟨s', h, _⟩ := spid_checked_run_ok sp kp ki kd _ Spid.init C19.wdSp_init hu
  exact ⟨s', h, pid_eq_composed_checked_of_ok hzero hcomm sp kp ki kd pre d s' h⟩

/-- after an absent input the checked assembled controller reports `FromNone`, after an input error that error — as
unchecked (`composed_after_absent_characterised`, `composed_after_error`) -/
theorem composed_checked_after_absent (sp kp ki kd : F) (s : SpidS F) :
    ∃ s', Spid.step true sp kp ki kd s (.ok none) = .ok (s', .error .fromNone) ∧ Spid.get s' = .error .fromNone :=
  ⟨_, rfl, rfl⟩
theorem composed_checked_after_error (sp kp ki kd : F) (s : SpidS F) (e : Err) :
    ∃ s', Spid.step true sp kp ki kd s (.error e) = .ok (s', .error e) ∧ Spid.get s' = .error e :=
  ⟨_, rfl, rfl⟩
end S

/-! ### non-vacuity (toy `Int` scalar of `IntScalar`; times in whole seconds) -/
namespace CheckedExamples
def mm (t v : Int) : Output (Quantity Int) := .ok (some ⟨t * 1000000000, ⟨v, ⟨1, 0⟩⟩⟩)
/-- a history with an absent event and an error, all present inputs in millimetres -/
def pre : List (Output (Quantity Int)) := [mm 0 0, .ok none, mm 2 1, .error (.other 3), mm 3 3, mm 5 4]
def last : Datum (Quantity Int) := ⟨7000000000, ⟨1, ⟨1, 0⟩⟩⟩
example : AllMm (pre ++ [.ok (some last)]) := by
  intro d hd
  simp [pre, mm, last] at hd
  rcases hd with rfl | rfl | rfl | rfl | rfl <;> rfl
/-- the laws of `+` assumed by `pid_eq_composed_checked` hold for the toy scalar -/
example : (∀ x : Int, c0 + x = x) ∧ (∀ x y : Int, x + y = y + x) :=
  ⟨Int.zero_add, Int.add_comm⟩
/-- the checked assembled controller survives that history (hypothesis of `pid_eq_composed_checked_of_ok`) -/
example : ∃ s', runE (Spid.step true 5 1 1 1) Spid.init (pre ++ [.ok (some last)]) = .ok s' := ⟨_, rfl⟩
/-- one input in mm/s: panic with the dimension assertion (hypothesis of `spid_checked_panics`) -/
example : runE (Spid.step true 5 1 1 1) Spid.init [mm 0 0, .ok (some ⟨1000000000, ⟨1, ⟨1, -1⟩⟩⟩), mm 2 1] = .error .dim := rfl
example : ¬ AllMm [mm 0 0, .ok (some ⟨1000000000, ⟨(1 : Int), ⟨1, -1⟩⟩⟩), mm 2 1] := by
  intro h
  have := h ⟨1000000000, ⟨1, ⟨1, -1⟩⟩⟩ (.tail _ (.head _))
  exact absurd this (by decide)
/-- … which the unchecked controller does not notice -/
example : ∃ s', runE (Spid.step false 5 1 1 1) Spid.init [mm 0 0, .ok (some ⟨1000000000, ⟨1, ⟨1, -1⟩⟩⟩), mm 2 1] = .ok s' :=
  ⟨_, rfl⟩
end CheckedExamples

end Rrtk.Thm.C04
