/-
The choice `replace_if_none_or_older_than_option` makes when folded over a list of optional data: the first datum of
maximal time.  `Axle::update` folds it over the command reads of its terminals, `Invert::update` over the read at side 1
and the negated read at side 2, `Latest::get` over its present inputs; the tie variant of a terminal's command read
(`Lemmas/TieVariants.lean`) is the same fold over (partner, own).
-/
import Rrtk.Core
import Rrtk.Thm.Lemmas.Run
namespace Rrtk.Thm.C13
open Rrtk

/-- `maybe_datum.replace_if_none_or_older_than_option(read)` folded over a list of reads, starting from `m0` -/
def newestFrom {α : Type} (m0 : Option (Datum α)) (reads : List (Option (Datum α))) : Option (Datum α) :=
  reads.foldl (fun m r => (Datum.replaceIfNoneOrOlderThanOption m r).1) m0

/-- the fold from `None` -/
def newestOf {α : Type} (reads : List (Option (Datum α))) : Option (Datum α) := newestFrom none reads

theorem replaceOpt_step {α : Type} (m r : Option (Datum α)) :
    (Datum.replaceIfNoneOrOlderThanOption m r).1 =
      match m, r with
      | m, none => m
      | none, some c => some c
      | some d, some c => if d.time ≥ c.time then some d else some c := by
  cases m <;> cases r <;> simp only [Datum.replaceIfNoneOrOlderThanOption, Datum.replaceIfNoneOrOlderThan]
  split <;> rfl

theorem newestOf_snoc {α : Type} (rs : List (Option (Datum α))) (r : Option (Datum α)) :
    newestOf (rs ++ [r]) = (Datum.replaceIfNoneOrOlderThanOption (newestOf rs) r).1 := by
  simp only [newestOf, newestFrom, List.foldl_append, List.foldl_cons, List.foldl_nil]

/-- The fold over a list of reads of any length: nothing iff every read is absent; and IF it is `some d`, then `d` is one
of the reads, unchanged, every read before it strictly older and no read after it newer (the first of maximal time).
The second clause is this implication only: that a read so placed is the result is not stated, and the only converse here
is `newestOf_eq_of_strict_max` (a read strictly newer than every other one is the result).

By induction from the end of the list: the accumulator is then the result for the reads so far, so a new read either
stays behind it (not strictly newer) or replaces it, being strictly newer than it and hence than all reads so far. -/
theorem newestOf_spec {α : Type} (reads : List (Option (Datum α))) :
    (newestOf reads = none ↔ ∀ r ∈ reads, r = none) ∧
    (∀ d, newestOf reads = some d →
      ∃ pre post, reads = pre ++ some d :: post ∧
        (∀ x, some x ∈ pre → x.time < d.time) ∧ (∀ x, some x ∈ post → x.time ≤ d.time)) := by
  induction reads using snoc_induction with
  | nil => exact ⟨Iff.intro (fun _ _ h => nomatch h) (fun _ => rfl), fun d h => nomatch h⟩
  | snoc rs r ih =>
    obtain ⟨ihn, ihs⟩ := ih
    rw [newestOf_snoc, replaceOpt_step]
    cases r with
    | none =>
      refine ⟨ihn.trans ⟨fun h r hr => (List.mem_append.1 hr).elim (h r) (fun e => List.mem_singleton.1 e),
        fun h r hr => h r (List.mem_append_left _ hr)⟩, fun d h => ?_⟩
      obtain ⟨pre, post, e, h1, h2⟩ := ihs d h
      exact ⟨pre, post ++ [none], by simp [e], h1, fun x hx => h2 x (by simpa using hx)⟩
    | some c =>
      cases hm : newestOf rs with
      | none =>
        refine ⟨by simp, fun d h => ?_⟩
        cases h
        exact ⟨rs, [], rfl, fun x hx => (nomatch ihn.1 hm _ hx), fun x hx => nomatch hx⟩
      | some d' =>
        obtain ⟨pre, post, e, h1, h2⟩ := ihs d' hm
        refine ⟨by simp only []; split <;> simp, fun d h => ?_⟩
        simp only [] at h
        split at h <;> cases h
        · -- the accumulator stays: `c` joins the reads after it
          rename_i hge
          refine ⟨pre, post ++ [some c], by simp [e], h1, fun x hx => ?_⟩
          rcases List.mem_append.1 hx with hx | hx
          · exact h2 x hx
          · cases List.mem_singleton.1 hx; exact hge
        · -- `c` replaces it
          rename_i hlt
          refine ⟨rs, [], rfl, fun x hx => ?_, fun x hx => nomatch hx⟩
          rw [e] at hx
          rcases List.mem_append.1 hx with hx | hx
          · have := h1 x hx; omega
          · rcases List.mem_cons.1 hx with hx | hx
            · cases hx; omega
            · have := h2 x hx; omega

theorem newestOf_max {α : Type} (reads : List (Option (Datum α))) (d : Datum α) (h : newestOf reads = some d) :
    some d ∈ reads ∧ ∀ x, some x ∈ reads → x.time ≤ d.time := by
  obtain ⟨pre, post, e, h1, h2⟩ := (newestOf_spec reads).2 d h
  subst e
  refine ⟨by simp, fun x hx => ?_⟩
  rcases List.mem_append.1 hx with hx | hx
  · have := h1 x hx; omega
  · rcases List.mem_cons.1 hx with hx | hx
    · cases Option.some.inj hx; exact Int.le_refl _
    · exact h2 x hx

/-- with distinct timestamps (as the property quantifies) the chosen datum is the newest read: every other read is strictly
older -/
theorem newestOf_unique_of_distinct {α : Type} (reads : List (Option (Datum α))) (d : Datum α)
    (h : newestOf reads = some d)
    (hdist : ∀ x y, some x ∈ reads → some y ∈ reads → x.time = y.time → x = y) :
    ∀ x, some x ∈ reads → x ≠ d → x.time < d.time := by
  intro x hx hne
  obtain ⟨hd, hmax⟩ := newestOf_max reads d h
  have := hmax x hx
  have : x.time ≠ d.time := fun e => hne (hdist x d hx hd e)
  omega

theorem newestOf_eq_of_strict_max {α : Type} (reads : List (Option (Datum α))) (c : Datum α) (hc : some c ∈ reads)
    (hall : ∀ x, some x ∈ reads → x = c ∨ x.time < c.time) : newestOf reads = some c := by
  cases h : newestOf reads with
  | none => exact nomatch (newestOf_spec reads).1.1 h _ hc
  | some d =>
    obtain ⟨hd, hmax⟩ := newestOf_max reads d h
    rcases hall d hd with e | e
    · rw [e]
    · have := hmax c hc; omega

end Rrtk.Thm.C13
