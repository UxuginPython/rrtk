/-
Error bounds for the binary32 scalar type `SF` (`Lemmas/SoftScalar.lean`: finite binary32 numbers, `+ − * /` the exact
rational result followed by `rne32`), all from the definition of `rne32` via `Lemmas/SoftFloat.lean`.

  `u = 2^-24` (unit roundoff)            `η = 2^-150` (half the smallest subnormal)

One rounding costs `u·|x| + η` (`rne32_err`), the `η` only below `2^-126`.  `+` and `−` never pay it: a sum of two binary32
numbers that is below `2^-126` is a multiple of `2^-149` of fewer than 24 bits, hence a binary32 number and computed
exactly (`add_exact_of_small`); `*` and `/` do.  Rounding never leaves an interval whose end points are binary32 numbers
(`rne32_between`).  Errors compose by the lemmas of `Lemmas/RelErr.lean`; `foldl_add_err` is the forward error bound of
recursive summation.  On the grid of the ulp: rounding a number close to a binary32 number `c` gives a number within one ulp
of `c` (`rne32_near`).  The last section composes such steps into the budget of a whole computation (`near_round`, `sum_near`,
`mean_near`).
-/
import Rrtk.Thm.Lemmas.SoftScalar
import Rrtk.Thm.Lemmas.RelErr
namespace Rrtk.Thm.RoundingBounds
open Rrtk Rrtk.Soft Rrtk.Thm.SoftFloat Rrtk.Thm.SoftScalar Rrtk.Thm.C18.Soft

/-- unit roundoff of binary32, `2^-24`; a plain `def`, so that lemmas stated with `1 / 2 ^ 24` (`rel_N`, `RoundsOn`) apply where `u` is
wanted, by unfolding -/
def u : ℚ := 1 / 2 ^ 24
/-- half the smallest positive subnormal of binary32, `2^-150`: the absolute rounding error below `2^-126` -/
def η : ℚ := 1 / 2 ^ 150

theorem u_nonneg : 0 ≤ u := by unfold u; positivity
theorem η_nonneg : 0 ≤ η := by unfold η; positivity
theorem u_lt_one : u < 1 := by unfold u; norm_num
theorem u_eq_zpow : u = (2:ℚ) ^ (-24:ℤ) := by unfold u; norm_num
theorem η_eq_zpow : η = (2:ℚ) ^ (-150:ℤ) := by unfold η; norm_num
theorem η_eq_u_mul : η = u * (2:ℚ) ^ (-126:ℤ) := by
  rw [u_eq_zpow, η_eq_zpow, ← zpow_add₀ (by norm_num)]; norm_num

theorem one_le_one_add_u : 1 ≤ 1 + u := le_add_of_nonneg_right u_nonneg
theorem one_le_pow (n : ℕ) : 1 ≤ (1 + u) ^ n := one_le_pow₀ one_le_one_add_u
theorem pow_sub_one_nonneg (n : ℕ) : 0 ≤ (1 + u) ^ n - 1 := sub_nonneg.2 (one_le_pow n)
theorem pow_mono {m n : ℕ} (h : m ≤ n) : (1 + u) ^ m ≤ (1 + u) ^ n := pow_le_pow_right₀ one_le_one_add_u h

theorem rne32_err_normal (x : ℚ) (h : (2:ℚ) ^ (-126:ℤ) ≤ |x|) : |rne32 x - x| ≤ u * |x| := by
  have := rne32_rel x h
  rwa [div_eq_mul_one_div, mul_comm] at this

theorem rne32_err (x : ℚ) : |rne32 x - x| ≤ u * |x| + η := by
  by_cases h : (2:ℚ) ^ (-126:ℤ) ≤ |x|
  · linarith only [rne32_err_normal x h, η_nonneg]
  · have := rne32_abs_subnormal x (not_le.1 h)
    rw [← η_eq_zpow] at this
    linarith only [this, mul_nonneg u_nonneg (abs_nonneg x)]

theorem rne32_one : rne32 1 = 1 := by
  have h := (c1 : SF).rep
  unfold Rep at h; rwa [c1_val] at h

theorem rne32_err_rep (x : ℚ) (h : Rep x) : |rne32 x - x| = 0 := by
  rw [h]; simp

theorem rne32_le_rne32 {x y : ℚ} (h : x ≤ y) : rne32 x ≤ rne32 y := rne32_mono x y h

theorem rne32_ge_of_rep (lo : SF) (x : ℚ) (h : lo.val ≤ x) : lo.val ≤ rne32 x := by
  calc lo.val = rne32 lo.val := lo.rep.symm
    _ ≤ rne32 x := rne32_mono _ _ h

theorem rne32_le_of_rep (hi : SF) (x : ℚ) (h : x ≤ hi.val) : rne32 x ≤ hi.val := by
  calc rne32 x ≤ rne32 hi.val := rne32_mono _ _ h
    _ = hi.val := hi.rep

theorem rne32_between (lo hi : SF) (x : ℚ) (h1 : lo.val ≤ x) (h2 : x ≤ hi.val) :
    lo.val ≤ rne32 x ∧ rne32 x ≤ hi.val :=
  ⟨rne32_ge_of_rep lo x h1, rne32_le_of_rep hi x h2⟩

theorem add_between (lo hi a b : SF) (h1 : lo.val ≤ a.val + b.val) (h2 : a.val + b.val ≤ hi.val) :
    lo ≤ a + b ∧ a + b ≤ hi := rne32_between lo hi _ h1 h2
theorem sub_between (lo hi a b : SF) (h1 : lo.val ≤ a.val - b.val) (h2 : a.val - b.val ≤ hi.val) :
    lo ≤ a - b ∧ a - b ≤ hi := rne32_between lo hi _ h1 h2
theorem mul_between (lo hi a b : SF) (h1 : lo.val ≤ a.val * b.val) (h2 : a.val * b.val ≤ hi.val) :
    lo ≤ a * b ∧ a * b ≤ hi := rne32_between lo hi _ h1 h2
theorem div_between (lo hi a b : SF) (h1 : lo.val ≤ a.val / b.val) (h2 : a.val / b.val ≤ hi.val) :
    lo ≤ a / b ∧ a / b ≤ hi := rne32_between lo hi _ h1 h2

theorem add_exact_of_small (a b : SF) (h : |a.val + b.val| < (2:ℚ) ^ (-126:ℤ)) :
    (a + b).val = a.val + b.val := by
  rw [add_val]
  exact rne32_of_onGrid ((rep_onGrid a.rep (Or.inl le_rfl)).add (rep_onGrid b.rep (Or.inl le_rfl))) le_rfl
    (le_trans h.le ((zpow_le_iff _ _).2 (by norm_num)))

theorem add_err (a b : SF) : |(a + b).val - (a.val + b.val)| ≤ u * |a.val + b.val| := by
  by_cases h : (2:ℚ) ^ (-126:ℤ) ≤ |a.val + b.val|
  · rw [add_val]; exact rne32_err_normal _ h
  · rw [add_exact_of_small a b (not_le.1 h)]
    simp only [sub_self, abs_zero]
    exact mul_nonneg u_nonneg (abs_nonneg _)

theorem sub_err (a b : SF) : |(a - b).val - (a.val - b.val)| ≤ u * |a.val - b.val| := by
  have h := add_err a (-b)
  have e : (a + -b).val = (a - b).val := by rw [← sub_eq_add_neg']
  rw [e, neg_val, ← sub_eq_add_neg] at h
  exact h

/-- the `η`: a product can fall between subnormals -/
theorem mul_err (a b : SF) : |(a * b).val - a.val * b.val| ≤ u * |a.val * b.val| + η := by
  rw [mul_val]; exact rne32_err _

/-- no condition on `b`: `x / 0 = 0` in `ℚ` and in `SF` -/
theorem div_err (a b : SF) : |(a / b).val - a.val / b.val| ≤ u * |a.val / b.val| + η := by
  rw [div_val]; exact rne32_err _

theorem mul_err_normal (a b : SF) (h : (2:ℚ) ^ (-126:ℤ) ≤ |a.val * b.val|) :
    |(a * b).val - a.val * b.val| ≤ u * |a.val * b.val| := by
  rw [mul_val]; exact rne32_err_normal _ h

theorem abs_div_le' (a b : SF) : |(a / b).val| ≤ (1 + u) * |a.val / b.val| + η := by
  linarith only [div_err a b, abs_sub_abs_le_abs_sub (a / b).val (a.val / b.val)]

/-- nanoseconds to seconds, `n as f32 / 1e9`: both roundings are in the normal range for every integer `n` -/
theorem ofInt_div_e9_err (n : Int) :
    |rne32 (rne32 (n : ℚ) / 1000000000) - (n : ℚ) / 1000000000| ≤ ((1 + u) ^ 2 - 1) * |(n : ℚ) / 1000000000| :=
  two_step _ u_nonneg (rel_N _ (inR_int n)) (rel_N _ (inR_int_div n))

def sumVal (ts : List SF) : ℚ := (ts.map (fun t => t.val)).sum
def sumAbs (ts : List SF) : ℚ := (ts.map (fun t => |t.val|)).sum

@[simp] theorem sumVal_nil : sumVal [] = 0 := rfl
@[simp] theorem sumAbs_nil : sumAbs [] = 0 := rfl
@[simp] theorem sumVal_cons (t : SF) (ts : List SF) : sumVal (t :: ts) = t.val + sumVal ts := by
  simp [sumVal]
@[simp] theorem sumAbs_cons (t : SF) (ts : List SF) : sumAbs (t :: ts) = |t.val| + sumAbs ts := by
  simp [sumAbs]
theorem sumAbs_nonneg (ts : List SF) : 0 ≤ sumAbs ts := by
  induction ts with
  | nil => simp
  | cons t ts ih => rw [sumAbs_cons]; exact add_nonneg (abs_nonneg _) ih
theorem abs_sumVal_le (ts : List SF) : |sumVal ts| ≤ sumAbs ts := by
  induction ts with
  | nil => simp
  | cons t ts ih =>
    rw [sumVal_cons, sumAbs_cons]
    exact (abs_add_le _ _).trans (add_le_add_right ih _)

/-- forward error of recursive summation, `acc := acc + tᵢ` with every `+` rounded to binary32 -/
theorem foldl_add_err (ts : List SF) (a : SF) :
    |(ts.foldl (fun acc t => acc + t) a).val - (a.val + sumVal ts)|
      ≤ ((1 + u) ^ ts.length - 1) * (|a.val| + sumAbs ts) := by
  induction ts generalizing a with
  | nil => simp
  | cons t ts ih =>
    rw [List.foldl_cons, List.length_cons, sumVal_cons, sumAbs_cons, pow_succ, ← add_assoc, ← add_assoc]
    exact fold_step u_nonneg (one_le_pow _) (sumAbs_nonneg ts) (abs_add_le _ _) (add_err a t) (ih (a + t))

/-- rounding `s` near a grid point `c`: `rne32 s − c` is a whole number of grid steps, so it is at most `n` of them once the
distance `|s − c|` plus the rounding error `h` is strictly below `n + 1` -/
theorem near_step {c s h : ℚ} {g : ℤ} (n : ℕ) (hc : OnGrid g c) (hr : OnGrid g (rne32 s)) (herr : |rne32 s - s| ≤ h)
    (hsc : |s - c| + h < (n + 1) * (2:ℚ) ^ g) : |rne32 s - c| ≤ n * (2:ℚ) ^ g :=
  (hr.sub hc).abs_le n (by linarith only [abs_sub_le (rne32 s) s c, herr, hsc])

/-- less than half an ulp above a power of two rounds to it -/
theorem rne32_eq_zpow (s : ℚ) (g : ℤ) (hg : -150 ≤ g) (h1 : (2:ℚ) ^ (g + 24) ≤ s) (h2 : s < 2 ^ (g + 24) + 2 ^ g) :
    rne32 s = 2 ^ (g + 24) := by
  -- `s` lies in the binade above `2^(g+24)`, where the ulp is `2^(g+1)`
  have hs : |s| = s := abs_of_nonneg (le_trans (by positivity) h1)
  have e1 : (2:ℚ) ^ (g + 1) = 2 * 2 ^ g := zpow_succ2 g
  have e2 : (2:ℚ) ^ (g + 1 + 24) = 2 * 2 ^ (g + 24) := by
    rw [show g + 1 + 24 = g + 24 + 1 by ring]; exact zpow_succ2 _
  have h3 : (2:ℚ) ^ g ≤ 2 ^ (g + 24) := (zpow_le_iff _ _).2 (by omega)
  have hr := rne32_onGrid s (g + 1) (Or.inr (by rwa [hs, show g + 1 + 23 = g + 24 by ring]))
  have herr := rne32_err_ulp s (g + 1) (by omega) (by rw [hs, e2]; linarith only [h2, h3])
  -- the result and `2^(g+24)` are grid points less than a step apart
  have hd : |s - 2 ^ (g + 24)| = s - 2 ^ (g + 24) := abs_of_nonneg (sub_nonneg.2 h1)
  exact hr.eq_of_abs_sub_lt (onGrid_zpow (by omega : g + 1 ≤ g + 24))
    (by linarith only [abs_sub_le (rne32 s) s (2 ^ (g + 24)), herr, hd, h2, e1])

/-- rounding next to a binary32 number: `s ≥ 0` within `3/2` ulp of a normal binary32 number `c` (`5/4` ulp when
`s` has dropped into the binade below, where the numbers are twice as dense) rounds to within one ulp of `c`.
In each case the ulp of `s` gives the grid and the rounding error (`rne32_onGrid`, `rne32_err_ulp`), `near_step` the rest. -/
theorem rne32_near (c s : ℚ) (e : ℤ) (he : -126 ≤ e) (hc : Rep c) (hce : (2:ℚ) ^ e ≤ c) (hce' : c < (2:ℚ) ^ (e + 1))
    (hs0 : 0 ≤ s) (h32 : |s - c| < 3 / 2 * (2:ℚ) ^ (e - 23))
    (h54 : -125 ≤ e → s < (2:ℚ) ^ e → |s - c| < 5 / 4 * (2:ℚ) ^ (e - 23)) :
    |rne32 s - c| ≤ (2:ℚ) ^ (e - 23) := by
  have hc0 : 0 ≤ c := le_trans (by positivity) hce
  have hcG : OnGrid (e - 23) c := rep_onGrid hc (Or.inr (by rwa [abs_of_nonneg hc0, sub_add_cancel]))
  have hs : |s| = s := abs_of_nonneg hs0
  have hk : e - 23 + 24 = e + 1 := by ring
  obtain ⟨h32l, h32r⟩ := abs_lt.1 h32
  rcases le_or_gt s ((2:ℚ) ^ (e + 1)) with hle | hgt
  · by_cases hg : e - 23 ≤ -149 ∨ (2:ℚ) ^ (e - 23 + 23) ≤ |s|
    · -- the ulp of `s` is that of `c`: same binade, or both at the bottom of the format
      have := near_step 1 hcG (rne32_onGrid s (e - 23) hg)
        (rne32_err_ulp s (e - 23) (by omega) (by rwa [hs, hk]))
        (by push_cast; linarith only [h32])
      rwa [Nat.cast_one, one_mul] at this
    · -- one binade down: grid `U/2`, rounding error `U/4`
      rw [not_or, not_le, not_le, hs, sub_add_cancel] at hg
      obtain ⟨h125, hlow⟩ := hg
      have eU : (2:ℚ) ^ (e - 23) = 2 * 2 ^ (e - 24) := by
        rw [zpow_eq_mul 1 (by omega : e - 23 = e - 24 + (1:ℕ))]; norm_num
      have e0 : (2:ℚ) ^ e = 16777216 * 2 ^ (e - 24) := by
        rw [zpow_eq_mul 24 (by omega : e = e - 24 + (24:ℕ))]; norm_num
      have hs1 : (2:ℚ) ^ (e - 24 + 23) ≤ |s| := by
        rw [hs, zpow_eq_mul 23 (by omega : e - 24 + 23 = e - 24 + (23:ℕ))]; norm_num
        linarith only [h32l, hce, e0, eU, two_zpow_pos (e - 24)]
      have hr := rne32_onGrid s (e - 24) (Or.inr hs1)
      have herr := rne32_err_ulp s (e - 24) (by omega) (by rw [hs, show e - 24 + 24 = e by ring]; exact hlow.le)
      have := near_step 2 (hcG.mono (by omega)) hr herr (by
        push_cast; linarith only [h54 (by omega) hlow, eU])
      rwa [Nat.cast_ofNat, ← eU] at this
  · -- one binade up: `c` is a grid point below `2^(e+1)`, so `c + U ≤ 2^(e+1)`, and `s < 2^(e+1) + U/2` rounds to `2^(e+1)`
    have hT : OnGrid (e - 23) ((2:ℚ) ^ (e + 1)) := onGrid_zpow (by omega)
    have hcU := hcG.add_le_of_lt hT hce'
    have hU : (0:ℚ) < 2 ^ (e - 23) := by positivity
    have hr := rne32_eq_zpow s (e - 23) (by omega) (by rw [hk]; exact hgt.le) (by
      rw [hk]; linarith only [h32r, hcU, hU])
    rw [hk] at hr
    have := (hT.sub hcG).abs_le 1 (by
      rw [abs_of_pos (by linarith only [hce'])]; push_cast; linarith only [h32r, hgt, hU])
    rw [hr]; rwa [Nat.cast_one, one_mul] at this

/-- `add_err` is attained up to the factor `2^24/(2^24+1)`: `2^24 + 1` rounds to `2^24`, error `1 = u·2^24` -/
example : |(x2p24 + c1).val - (x2p24.val + (c1 : SF).val)| = u * 16777216 := by decide +kernel

/-- the `η` of `mul_err` is needed: `2^-149 · 0.5` is rounded to `0`, error `2^-150 = η`, while `u·|exact| = 2^-174` -/
example : |(xMinSub * chalf).val - xMinSub.val * (chalf : SF).val| = η := by decide +kernel

/-- the sandwich at concrete end points: whatever lies in `[1.5, 2^24]` rounds into `[1.5, 2^24]` -/
example : x1_5.val ≤ rne32 (16777215 + 2 / 3) ∧ rne32 (16777215 + 2 / 3) ≤ x2p24.val :=
  rne32_between x1_5 x2p24 _ (by rw [x1_5_val]; norm_num) (by rw [x2p24_val]; norm_num)

/-- `add_exact_of_small` at a concrete subnormal sum: `2^-149 + 2^-149` -/
example : |xMinSub.val + xMinSub.val| < (2:ℚ) ^ (-126:ℤ) := by decide +kernel

/-- the fold bound at a concrete list: `((2^24 + 1) + 1)` in binary32 is `2^24`, the exact sum `2^24 + 2`; the bound
`((1+u)^2 − 1)·(2^24 + 2) ≈ 2.0000003` holds with almost no slack -/
example : |([c1, c1].foldl (fun acc t => acc + t) x2p24).val - (x2p24.val + sumVal [c1, c1])| = 2 := by
  decide +kernel

/-! ## Error budgets, composed step by step

In the terms of `Lemmas/RelErr.lean` (`y` approximates `x` with factor `R`, magnitude `m ≥ |x|` and slack `d`): an exact sum of
approximations, or quotient by a constant, keeps the factor (`near_add`, `near_div`; an exact product multiplies the two factors:
`relerr_mul`), one rounding multiplies it by `1 + u` (`near_of_round`, `near_round`, `near_round_add`); termwise approximations of a
list add up (`sum_near`), also under an accumulation that has a factor of its own (`acc_near`).  What is bounded in the end is a number
within `δ` of an interval, `lo − δ ≤ x ∧ x ≤ hi + δ` (`within_mono`, `within_of_near`); for a weighted mean whose weights sum to
`1` only up to `ε` the two defects multiply (`mean_near`). -/

/-- the first rounding: `r` is the exact `x` rounded (`e = η` for `* /`, `e = 0` for `+ −`).  The factor `R = 1 + u` is left
unsimplified in `(R − 1)·m`, the shape the other rules take. -/
theorem near_of_round {m e x r : ℚ} (hx : |x| ≤ m) (hr : |r - x| ≤ u * |x| + e) : |r - x| ≤ (1 + u - 1) * m + e := by
  rw [add_sub_cancel_left]; linarith only [hr, mul_le_mul_of_nonneg_left hx u_nonneg]

/-- one more rounding: `r` is the approximation `y` rounded -/
theorem near_round {R d m e x y r : ℚ} (hx : |x| ≤ m) (h : |y - x| ≤ (R - 1) * m + d) (hr : |r - y| ≤ u * |y| + e) :
    |r - x| ≤ (R * (1 + u) - 1) * m + ((1 + u) * d + e) :=
  approx_trans one_le_one_add_u hx h (by rwa [add_sub_cancel_left])

/-- `near_round` when the rounding is that of a sum `a + b`, which has no `η` -/
theorem near_round_add {R d m x : ℚ} {a b : SF} (hx : |x| ≤ m) (h : |a.val + b.val - x| ≤ (R - 1) * m + d) :
    |(a + b).val - x| ≤ (R * (1 + u) - 1) * m + (1 + u) * d := by
  have := near_round hx h ((add_err a b).trans_eq (add_zero _).symm)
  rwa [add_zero] at this

theorem relerr_round_add (R d x : ℚ) (a b : SF) (h : |a.val + b.val - x| ≤ (R - 1) * |x| + d) :
    |(a + b).val - x| ≤ (R * (1 + u) - 1) * |x| + (1 + u) * d :=
  near_round_add le_rfl h

theorem near_add {R d₁ d₂ m₁ m₂ x₁ x₂ y₁ y₂ : ℚ} (h₁ : |y₁ - x₁| ≤ (R - 1) * m₁ + d₁)
    (h₂ : |y₂ - x₂| ≤ (R - 1) * m₂ + d₂) : |y₁ + y₂ - (x₁ + x₂)| ≤ (R - 1) * (m₁ + m₂) + (d₁ + d₂) := by
  rw [add_sub_add_comm]
  linarith only [abs_add_le (y₁ - x₁) (y₂ - x₂), h₁, h₂]

theorem near_div {R d m x y c : ℚ} (hc : 0 < c) (h : |y - x| ≤ (R - 1) * m + d) :
    |y / c - x / c| ≤ (R - 1) * (m / c) + d / c := by
  rw [← sub_div, abs_div, abs_of_pos hc, mul_div_assoc', ← add_div]
  exact div_le_div_of_nonneg_right h hc.le

theorem abs_le_of_between {A lo hi x : ℚ} (hlo : |lo| ≤ A) (hhi : |hi| ≤ A) (h1 : lo ≤ x) (h2 : x ≤ hi) : |x| ≤ A :=
  (abs_le_max_abs_abs h1 h2).trans (max_le hlo hhi)

theorem abs_mul_le_of_nonneg {A x w : ℚ} (hx : |x| ≤ A) (hw : 0 ≤ w) : |x * w| ≤ A * w := by
  rw [abs_mul, abs_of_nonneg hw]; exact mul_le_mul_of_nonneg_right hx hw

theorem within_mono {lo hi x δ δ' : ℚ} (h : lo - δ ≤ x ∧ x ≤ hi + δ) (hδ : δ ≤ δ') : lo - δ' ≤ x ∧ x ≤ hi + δ' :=
  ⟨by linarith only [h.1, hδ], by linarith only [h.2, hδ]⟩

theorem within_of_near {lo hi x y ε δ : ℚ} (h1 : lo ≤ x) (h2 : x ≤ hi) (hy : |y - x| ≤ ε) (hδ : ε ≤ δ) :
    lo - δ ≤ y ∧ y ≤ hi + δ := by
  obtain ⟨y1, y2⟩ := abs_le.1 hy
  exact ⟨by linarith only [h1, y1, hδ], by linarith only [h2, y2, hδ]⟩

/-- A weighted mean computed with rounding.  `X` combines values in `[lo, hi]` (magnitudes at most `A`) with non-negative
weights of sum `S`, so `X ∈ [lo·S, hi·S]`; the weights are normalised only up to `ε`; `r` approximates `X` with factor `R`
against the magnitude `A·S`.  The two defects multiply: `r` is within `((1+ε)·R − 1)·A + d` of `[lo, hi]`. -/
theorem mean_near {A lo hi S X ε R d r : ℚ} (hlo : |lo| ≤ A) (hhi : |hi| ≤ A) (hS : |S - 1| ≤ ε) (hR : 1 ≤ R)
    (h1 : lo * S ≤ X) (h2 : X ≤ hi * S) (hr : |r - X| ≤ (R - 1) * (A * S) + d) :
    lo - (((1 + ε) * R - 1) * A + d) ≤ r ∧ r ≤ hi + (((1 + ε) * R - 1) * A + d) := by
  have hA : 0 ≤ A := (abs_nonneg _).trans hlo
  -- `X` itself is within `A·ε` of `[lo, hi]`, and `A·S ≤ A·(1 + ε)`
  have a : |lo * (S - 1)| ≤ A * ε := by rw [abs_mul]; exact mul_le_mul hlo hS (abs_nonneg _) hA
  have b : |hi * (S - 1)| ≤ A * ε := by rw [abs_mul]; exact mul_le_mul hhi hS (abs_nonneg _) hA
  have c : (R - 1) * (A * S) ≤ (R - 1) * (A * (1 + ε)) :=
    mul_le_mul_of_nonneg_left (mul_le_mul_of_nonneg_left (by linarith only [(abs_le.1 hS).2]) hA) (sub_nonneg.2 hR)
  obtain ⟨r1, r2⟩ := abs_le.1 hr
  constructor
  · linarith only [h1, r1, c, neg_abs_le (lo * (S - 1)), a]
  · linarith only [h2, r2, c, le_abs_self (hi * (S - 1)), b]

/-- binary32 numbers `ys` that approximate the rationals `xs` term by term, summed exactly; the second bound is the
magnitude a summation of the `ys` is measured against -/
theorem sum_near {R d : ℚ} {ys : List SF} {xs : List ℚ}
    (h : List.Forall₂ (fun (y : SF) (x : ℚ) => |y.val - x| ≤ (R - 1) * |x| + d) ys xs) :
    |sumVal ys - xs.sum| ≤ (R - 1) * (xs.map (fun x => |x|)).sum + xs.length * d ∧
    sumAbs ys ≤ R * (xs.map (fun x => |x|)).sum + xs.length * d := by
  induction h with
  | nil => simp
  | @cons y x ys xs hyx _ ih =>
    simp only [sumVal_cons, sumAbs_cons, List.sum_cons, List.map_cons, List.length_cons]
    push_cast
    rw [add_sub_add_comm]
    constructor
    · linarith only [abs_add_le (y.val - x) (sumVal ys - xs.sum), ih.1, hyx]
    · linarith only [abs_sub_abs_le_abs_sub y.val x, ih.2, hyx]

/-- … and accumulated by a summation `acc` that has a factor `P` of its own -/
theorem acc_near {P R d acc : ℚ} {ys : List SF} {xs : List ℚ} (hP : 1 ≤ P)
    (hacc : |acc - sumVal ys| ≤ (P - 1) * sumAbs ys)
    (h : List.Forall₂ (fun (y : SF) (x : ℚ) => |y.val - x| ≤ (R - 1) * |x| + d) ys xs) :
    |acc - xs.sum| ≤ (P * R - 1) * (xs.map (fun x => |x|)).sum + xs.length * P * d := by
  obtain ⟨h1, h2⟩ := sum_near h
  have b := mul_le_mul_of_nonneg_left h2 (sub_nonneg.2 hP)
  linarith only [abs_sub_le acc (sumVal ys) xs.sum, hacc, h1, b]

end Rrtk.Thm.RoundingBounds
