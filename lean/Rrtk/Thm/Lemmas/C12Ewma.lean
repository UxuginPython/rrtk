/-
C12, EWMA part, tier S: which formula an update applies (with a held value; on the first sample), what error and
absent events do, and that no update panics — the invariant `EwmaInv` makes the `expect` on `update_time`
unreachable.  Rests on the model and the Mathlib-free layers `Lemmas/Run.lean`, `Lemmas/Dim.lean` only, so a file that
only wants "the EWMA cannot panic" can import it without Mathlib.  The letter B in the docstrings is the EWMA tier-S clause
of the list in the header of `Thm/C12.lean`.
-/
import Rrtk.Streams.Stateful
import Rrtk.Thm.Lemmas.Run
import Rrtk.Thm.Lemmas.Dim
set_option linter.unusedSectionVars false
namespace Rrtk.Thm.C12
open Rrtk

/-- `Rrtk.runE` of `Lemmas/Run.lean` under the name the C12 statements use; `runE_eq` joins the two -/
def runE {S I : Type} (step : S → I → Except Panic (S × UpdRet)) : S → List I → Except Panic S
  | s, [] => .ok s
  | s, i :: is =>
    match step s i with
    | .error p => .error p
    | .ok r => runE step r.1 is

/-- the lemmas of `Lemmas/Run.lean`, and the C05 theorems about the same streams, apply through this equation -/
theorem runE_eq {S I : Type} (step : S → I → Except Panic (S × UpdRet)) (s : S) (evs : List I) :
    runE step s evs = Rrtk.runE step s evs := by
  induction evs generalizing s with
  | nil => rfl
  | cons e es ih =>
    rw [runE, Rrtk.runE_cons]
    cases step s e with
    | error p => rfl
    | ok r => exact ih r.1

section S
variable {F : Type} [Add F] [Sub F] [Mul F] [Div F] [Neg F] [LT F] [LE F] [BEq F]
  [DecidableLT F] [DecidableLE F] [FloatLike F] {T : Type}

/-- `λ = 1 − (1 − smoothing)^Δt`, `Δt` given in nanoseconds and converted like the code does -/
def ewmaLambda (smoothing : F) (dtNs : Int) : F := c1 - FloatLike.powf (c1 - smoothing) (secs dtNs)

/-- what a present sample `o` does to a previous value `pv` that is `dtNs` old -/
def ewmaNext (scale : T → F → T) (add : T → T → Except Panic T) (smoothing : F) (pv : T) (dtNs : Int)
    (o : Datum T) : Except Panic (EwmaS T × UpdRet) :=
  match add (scale pv (c1 - ewmaLambda smoothing dtNs)) (scale o.value (ewmaLambda smoothing dtNs)) with
  | .error p => .error p
  | .ok v => .ok (⟨.ok (some ⟨o.time, v⟩), some o.time⟩, .ok ())

/-- **B, formula**: with a previous value `prev` recorded at `tp`, the new value is
`add (scale prev (1 − L)) (scale new L)`, `L = 1 − powf (1 − smoothing) (secs (o.time − tp))`, stamped `o.time`. -/
theorem ewma_formula (scale : T → F → T) (add : T → T → Except Panic T) (smoothing : F)
    (s : EwmaS T) (o prev : Datum T) (tp : Int) (hv : s.value = .ok (some prev)) (ht : s.updateTime = some tp) :
    Ewma.step scale add smoothing s (.ok (some o)) = ewmaNext scale add smoothing prev.value (o.time - tp) o := by
  obtain ⟨v, t⟩ := s
  cases hv
  cases ht
  rfl

/-- **B, first sample**: when no value is held (initially, after an error, after error-then-absent) the same
formula is applied with `prev = o` and `Δt = 0` -/
theorem ewma_first_sample (scale : T → F → T) (add : T → T → Except Panic T) (smoothing : F)
    (s : EwmaS T) (o : Datum T) (hv : ∀ v, s.value ≠ .ok (some v)) :
    Ewma.step scale add smoothing s (.ok (some o)) = ewmaNext scale add smoothing o.value 0 o := by
  obtain ⟨v, t⟩ := s
  match v, hv with
  | .ok (some v), hv => exact absurd rfl (hv v)
  | .ok none, _ | .error _, _ => simp only [Ewma.step, ewmaNext, ewmaLambda, Int.sub_self]; rfl

/-- the three ways of holding no value -/
theorem ewma_no_value_cases (scale : T → F → T) (add : T → T → Except Panic T) (smoothing : F) (e : Err)
    (s : EwmaS T) :
    (∀ v, (Ewma.init : EwmaS T).value ≠ .ok (some v)) ∧
    (∀ s1 r, Ewma.step scale add smoothing s (.error e) = .ok (s1, r) → ∀ v, s1.value ≠ .ok (some v)) ∧
    (∀ s1 r s2 r2, Ewma.step scale add smoothing s (.error e) = .ok (s1, r) →
      Ewma.step scale add smoothing s1 (.ok none) = .ok (s2, r2) → ∀ v, s2.value ≠ .ok (some v)) := by
  refine ⟨fun v h => (by cases h), fun s1 r h v hv => ?_, fun s1 r s2 r2 h h2 v hv => ?_⟩
  · cases h; cases hv
  · cases h; cases h2; cases hv

/-- error event: cached and returned, `update_time` cleared -/
theorem ewma_error_event (scale : T → F → T) (add : T → T → Except Panic T) (smoothing : F)
    (s : EwmaS T) (e : Err) :
    Ewma.step scale add smoothing s (.error e) = .ok (⟨.error e, none⟩, .error e) ∧
    Ewma.get (⟨.error e, none⟩ : EwmaS T) = .error e := ⟨rfl, rfl⟩

/-- absent event: `Ok(())`; nothing changes except that a cached error becomes `Ok(None)` -/
theorem ewma_absent_event (scale : T → F → T) (add : T → T → Except Panic T) (smoothing : F) (s : EwmaS T) :
    Ewma.step scale add smoothing s (.ok none) =
      .ok (match s.value with | .error _ => ⟨.ok none, none⟩ | .ok _ => s, .ok ()) := by
  obtain ⟨v, t⟩ := s
  cases v <;> rfl

/-- the invariant that makes `.expect("update_time must be Some if value is")` unreachable -/
def EwmaInv (s : EwmaS T) : Prop := ∀ v, s.value = .ok (some v) → s.updateTime = some v.time

/-- one update preserves the invariant and never panics (`P`: a class containing the samples, closed under
`scale`, on which `add` is total and closed; for f32 everything) -/
theorem ewma_step_ok (scale : T → F → T) (add : T → T → Except Panic T) (smoothing : F) (P : T → Prop)
    (hs : ∀ v w, P v → P (scale v w)) (ha : ∀ a b, P a → P b → ∃ c, add a b = .ok c ∧ P c)
    (s : EwmaS T) (inp : Output T) (hinv : EwmaInv s ∧ ∀ v, s.value = .ok (some v) → P v.value)
    (hin : ∀ d, inp = .ok (some d) → P d.value) :
    ∃ r, Ewma.step scale add smoothing s inp = .ok r ∧
      (EwmaInv r.1 ∧ ∀ v, r.1.value = .ok (some v) → P v.value) := by
  have next : ∀ pv dt (o : Datum T), P pv → P o.value →
      ∃ r, ewmaNext scale add smoothing pv dt o = .ok r ∧
        (EwmaInv r.1 ∧ ∀ v, r.1.value = .ok (some v) → P v.value) := fun pv dt o hpv ho => by
    obtain ⟨c, hc, pc⟩ := ha _ _ (hs pv (c1 - ewmaLambda smoothing dt) hpv) (hs o.value (ewmaLambda smoothing dt) ho)
    exact ⟨_, by rw [ewmaNext, hc], fun v h => by cases h; rfl, fun v h => by cases h; exact pc⟩
  match inp, hin with
  | .error e, _ => exact ⟨_, rfl, fun v h => (by cases h), fun v h => (by cases h)⟩
  | .ok none, _ =>
    rw [ewma_absent_event]
    obtain ⟨v, t⟩ := s
    cases v with
    | error e => exact ⟨_, rfl, fun v h => (by cases h), fun v h => (by cases h)⟩
    | ok v => exact ⟨_, rfl, hinv⟩
  | .ok (some o), hin =>
    by_cases hv : ∃ prev, s.value = .ok (some prev)
    · obtain ⟨prev, hv⟩ := hv
      rw [ewma_formula scale add smoothing s o prev prev.time hv (hinv.1 prev hv)]
      exact next _ _ o (hinv.2 prev hv) (hin o rfl)
    · rw [ewma_first_sample scale add smoothing s o (fun v h => hv ⟨v, h⟩)]
      exact next _ _ o (hin o rfl) (hin o rfl)

/-- **B, no panic, every history**: from the initial state (or any state satisfying the invariant) no EWMA
update panics, whatever the events and timestamps (monotone or not); the invariant holds at the end, and a value held
then is in `P` (for quantities: has the unit of the samples). -/
theorem ewma_no_panic_closed (scale : T → F → T) (add : T → T → Except Panic T) (smoothing : F) (P : T → Prop)
    (hs : ∀ v w, P v → P (scale v w)) (ha : ∀ a b, P a → P b → ∃ c, add a b = .ok c ∧ P c)
    (evs : List (Output T)) (hin : ∀ d, Except.ok (some d) ∈ evs → P d.value)
    (s : EwmaS T) (hinv : EwmaInv s) (hsv : ∀ v, s.value = .ok (some v) → P v.value) :
    ∃ s', runE (Ewma.step scale add smoothing) s evs = .ok s' ∧ EwmaInv s' ∧
      ∀ v, s'.value = .ok (some v) → P v.value := by
  obtain ⟨s', h, hi⟩ := runE_inv _ _ _ (ewma_step_ok scale add smoothing P hs ha) s ⟨hinv, hsv⟩ evs
    (fun i hi d hd => hin d (hd ▸ hi))
  exact ⟨s', (runE_eq _ _ _).trans h, hi⟩

theorem ewma_init_inv : EwmaInv (Ewma.init : EwmaS T) := fun v h => by cases h

theorem ewma_no_panic_f32 (smoothing : F) (evs : List (Output F)) :
    ∃ s', runE (Ewma.step scaleF addF smoothing) Ewma.init evs = .ok s' := by
  obtain ⟨s', h, _⟩ := ewma_no_panic_closed scaleF addF smoothing (fun _ => True) (fun _ _ _ => trivial)
    (fun a b _ _ => ⟨a + b, rfl, trivial⟩) evs (fun _ _ => trivial) Ewma.init ewma_init_inv (fun _ _ => trivial)
  exact ⟨s', h⟩

theorem scaleQdl_unit (q : Quantity F) (x : F) : (scaleQdl true q x).unit = q.unit := by
  show DUnit.mul true q.unit ⟨0, 0⟩ = q.unit
  simp only [DUnit.mul_true, Int.add_zero]

/-- B, no panic, Quantity instantiation: all samples carry the same unit (`chk` arbitrary) -/
theorem ewma_no_panic_quantity (chk : Bool) (smoothing : F) (u : DUnit)
    (evs : List (Output (Quantity F))) (hin : ∀ d, Except.ok (some d) ∈ evs → d.value.unit = u) :
    ∃ s', runE (Ewma.step (scaleQdl chk) (Quantity.add chk) smoothing) Ewma.init evs = .ok s' := by
  obtain ⟨s', h, _⟩ := ewma_no_panic_closed (scaleQdl chk) (Quantity.add chk) smoothing
    (fun q => chk = true → q.unit = u)
    (fun v w hv hc => by subst hc; rw [scaleQdl_unit]; exact hv rfl)
    (fun a b pa pb => ⟨_, Quantity.add_of_units (fun hc => (pa hc).trans (pb hc).symm), pa⟩)
    evs (fun d hd _ => hin d hd) Ewma.init ewma_init_inv (fun _ h => by cases h)
  exact ⟨s', h⟩

end S

end Rrtk.Thm.C12
