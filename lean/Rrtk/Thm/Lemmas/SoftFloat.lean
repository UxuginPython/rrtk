/-
Facts about the binary32 rounding model `Rrtk.Soft.rne32` (`Rrtk/SoftFloat.lean`), proved from its definition over `ℚ`.

`rnePos x` rounds `x` onto the grid `2^ue·ℕ` for `ue = ulpExp x` (`onto ue`: monotone, fixes grid points, moves by at most
half a step), and `ulpExp x` is determined by the binade of `x` (`ulpExp_le_iff`, `le_ulpExp_iff`; for `x` itself:
`ulpExp_spec`).  Read off once, this is `rne32_onGrid` (a lower bound on `|x|` tells on which grid `2^g·ℤ` the result lies)
and `rne32_err_ulp` (an upper bound tells that it moved by at most `2^g/2`); the error bounds `rne32_rel`,
`rne32_abs_subnormal` are corollaries.  The exponent is unbounded upward in the model, so no bound carries an overflow
condition.

The last section shows that the roundings in `n as f32 / 1e9 * 1e9` never underflow, for every integer `n`: for `rne32`
this discharges the range condition that `Lemmas/C18Rounding.lean` assumes of an abstract rounding function.
-/
import Rrtk.SoftFloat
import Mathlib.Tactic.Ring
import Mathlib.Tactic.Linarith
import Mathlib.Tactic.Positivity
import Mathlib.Algebra.Order.Field.Power
namespace Rrtk.Thm.SoftFloat
open Rrtk.Soft

/-- with a literal `n`, `norm_num` evaluates the `2^n` on the right -/
theorem zpow_eq_mul {a b : ℤ} (n : ℕ) (h : a = b + n) : (2:ℚ) ^ a = 2 ^ n * 2 ^ b := by
  rw [h, zpow_add₀ two_ne_zero, zpow_natCast, mul_comm]

theorem pow2_eq (k : ℤ) : pow2 k = (2:ℚ)^k := by
  unfold pow2
  split
  · rw [Nat.cast_pow, Nat.cast_ofNat, ← zpow_natCast]; congr 1; omega
  · rw [Nat.cast_pow, Nat.cast_ofNat, one_div, ← zpow_natCast, ← zpow_neg]; congr 1; omega

theorem pow2_pos (k : ℤ) : 0 < pow2 k := by rw [pow2_eq]; positivity

theorem two_zpow_pos (k : ℤ) : (0:ℚ) < 2 ^ k := by positivity

theorem zpow_le_iff (a b : ℤ) : (2:ℚ)^a ≤ 2^b ↔ a ≤ b := zpow_le_zpow_iff_right₀ (by norm_num)
theorem zpow_lt_iff (a b : ℤ) : (2:ℚ)^a < 2^b ↔ a < b := zpow_lt_zpow_iff_right₀ (by norm_num)

theorem zpow_succ2 (a : ℤ) : (2:ℚ)^(a+1) = 2 * 2^a := by
  rw [zpow_eq_mul 1 (by norm_num : a + 1 = a + (1:ℕ)), pow_one]

theorem zpow_split (e ue : ℤ) (h : ue ≤ e) : (2:ℚ)^e = ((2 ^ (e - ue).toNat : ℕ) : ℚ) * (2:ℚ)^ue := by
  rw [zpow_eq_mul (e - ue).toNat (by omega : e = ue + ((e - ue).toNat : ℕ))]; push_cast; rfl

theorem two_pow_24 : (2:ℚ)^(24:ℤ) = 16777216 := by norm_num

def OnGrid (g : ℤ) (x : ℚ) : Prop := ∃ j : ℤ, x = j * (2:ℚ) ^ g

theorem OnGrid.mono {g g' : ℤ} {x : ℚ} (h : g' ≤ g) : OnGrid g x → OnGrid g' x := by
  rintro ⟨j, rfl⟩
  exact ⟨j * ((2 ^ (g - g').toNat : ℕ) : ℤ), by rw [zpow_split g g' h]; push_cast; ring⟩

theorem OnGrid.add {g : ℤ} {x y : ℚ} : OnGrid g x → OnGrid g y → OnGrid g (x + y) := by
  rintro ⟨j, rfl⟩ ⟨k, rfl⟩; exact ⟨j + k, by push_cast; ring⟩

theorem OnGrid.sub {g : ℤ} {x y : ℚ} : OnGrid g x → OnGrid g y → OnGrid g (x - y) := by
  rintro ⟨j, rfl⟩ ⟨k, rfl⟩; exact ⟨j - k, by push_cast; ring⟩

theorem OnGrid.neg {g : ℤ} {x : ℚ} : OnGrid g x → OnGrid g (-x) := by
  rintro ⟨j, rfl⟩; exact ⟨-j, by push_cast; ring⟩

theorem onGrid_zero (g : ℤ) : OnGrid g 0 := ⟨0, by simp⟩

theorem onGrid_zpow {g k : ℤ} (h : g ≤ k) : OnGrid g ((2:ℚ) ^ k) := OnGrid.mono h ⟨1, by simp⟩

theorem OnGrid.abs_le {g : ℤ} {x : ℚ} (hx : OnGrid g x) (n : ℕ) (h : |x| < (n + 1) * (2:ℚ) ^ g) :
    |x| ≤ n * (2:ℚ) ^ g := by
  obtain ⟨j, rfl⟩ := hx
  have hG : (0:ℚ) < 2 ^ g := by positivity
  rw [abs_mul, abs_of_pos hG] at h ⊢
  have h1 : |(j:ℚ)| < (n:ℚ) + 1 := lt_of_mul_lt_mul_right h hG.le
  have h2 : |j| < (n:ℤ) + 1 := by exact_mod_cast h1
  have h3 : |j| ≤ (n:ℤ) := by omega
  exact mul_le_mul_of_nonneg_right (by exact_mod_cast h3) hG.le

theorem OnGrid.eq_of_abs_sub_lt {g : ℤ} {x y : ℚ} (hx : OnGrid g x) (hy : OnGrid g y) (h : |x - y| < (2:ℚ) ^ g) : x = y := by
  have := (hx.sub hy).abs_le 0 (by rwa [Nat.cast_zero, zero_add, one_mul])
  rwa [Nat.cast_zero, zero_mul, abs_nonpos_iff, sub_eq_zero] at this

/-- distinct grid points are at least a step apart -/
theorem OnGrid.add_le_of_lt {g : ℤ} {x y : ℚ} (hx : OnGrid g x) (hy : OnGrid g y) (h : x < y) : x + (2:ℚ) ^ g ≤ y := by
  by_contra hlt
  exact h.ne' (hy.eq_of_abs_sub_lt hx (by rw [abs_of_pos (sub_pos.2 h)]; linarith only [hlt]))

theorem log2_spec (p : ℕ) (hp : p ≠ 0) :
    (2:ℚ)^(Nat.log2 p : ℤ) ≤ p ∧ (p:ℚ) < (2:ℚ)^((Nat.log2 p : ℤ) + 1) := by
  constructor
  · rw [zpow_natCast]; exact_mod_cast Nat.log2_self_le hp
  · rw [show ((Nat.log2 p : ℤ) + 1) = ((Nat.log2 p + 1 : ℕ) : ℤ) by push_cast; rfl, zpow_natCast]
    exact_mod_cast (Nat.lt_log2_self (n := p))

theorem ilog2_spec (p q : ℕ) (hp : 0 < p) (hq : 0 < q) :
    (2:ℚ)^(ilog2 p q) ≤ (p:ℚ)/q ∧ (p:ℚ)/q < (2:ℚ)^(ilog2 p q + 1) := by
  have hqQ : (0:ℚ) < q := by exact_mod_cast hq
  obtain ⟨a1, a2⟩ := log2_spec p (by omega)
  obtain ⟨b1, b2⟩ := log2_spec q (by omega)
  unfold ilog2
  generalize (Nat.log2 p : ℤ) = a at *
  generalize (Nat.log2 q : ℤ) = b at *
  -- `2^a ≤ p < 2^(a+1)` and `2^b ≤ q < 2^(b+1)` give `2^(a−b−1) < p/q < 2^(a−b+1)`
  have lo : (2:ℚ)^(a - b - 1) < (p:ℚ)/q := by
    rw [lt_div_iff₀ hqQ]
    calc (2:ℚ)^(a - b - 1) * q < 2^(a - b - 1) * 2^(b+1) := mul_lt_mul_of_pos_left b2 (two_zpow_pos _)
      _ = 2^a := by rw [← zpow_add₀ two_ne_zero]; congr 1; ring
      _ ≤ p := a1
  have hi : (p:ℚ)/q < (2:ℚ)^(a - b + 1) := by
    rw [div_lt_iff₀ hqQ]
    calc (p:ℚ) < 2^(a+1) := a2
      _ = 2^(a - b + 1) * 2^b := by rw [← zpow_add₀ two_ne_zero]; congr 1; ring
      _ ≤ 2^(a - b + 1) * q := mul_le_mul_of_nonneg_left b1 (two_zpow_pos _).le
  -- the test decides `2^(a−b) ≤ p/q`: it is that inequality with the denominators cleared (`pow2`)
  have test : (if 0 ≤ a - b then q * 2 ^ (a - b).toNat ≤ p else q ≤ p * 2 ^ (-(a - b)).toNat)
      ↔ (2:ℚ)^(a - b) ≤ (p:ℚ)/q := by
    rw [le_div_iff₀ hqQ, ← pow2_eq, pow2]
    split
    · rw [mul_comm]; exact_mod_cast Iff.rfl
    · rw [one_div, inv_mul_le_iff₀ (by positivity), mul_comm]; exact_mod_cast Iff.rfl
  simp only []
  by_cases hc : (2:ℚ)^(a - b) ≤ (p:ℚ)/q
  · rw [if_pos (test.2 hc)]
    exact ⟨hc, hi⟩
  · rw [if_neg (fun h => hc (test.1 h))]
    exact ⟨lo.le, by rw [sub_add_cancel]; exact not_le.1 hc⟩

/-- the body of `roundHalfEven` over `ℕ`: the rounded quotient `n` of `a / d` satisfies `|2·d·n − 2·a| ≤ d` -/
theorem rhe_nat (a d : ℕ) (hd : 0 < d) (n : ℕ)
    (hn : n = (if 2 * (a % d) < d then a / d else if d < 2 * (a % d) then a / d + 1
      else if a / d % 2 = 0 then a / d else a / d + 1)) :
    2 * (d * n) ≤ 2 * a + d ∧ 2 * a ≤ 2 * (d * n) + d := by
  have h1 := Nat.div_add_mod a d
  have h2 := Nat.mod_lt a hd
  generalize a / d = q at *
  generalize a % d = m at *
  subst h1
  have h3 : d * (q + 1) = d * q + d := by ring
  -- in every branch `n` is `q` or `q + 1` and the branch condition compares `2 * m` with `d`: linear in `d * q`, `d`, `m`
  split_ifs at hn <;> subst hn <;> omega

theorem toNat_num_cast (r : ℚ) (hr : 0 ≤ r) : ((r.num.toNat : ℕ) : ℚ) = (r.num : ℚ) := by
  have : 0 ≤ r.num := Rat.num_nonneg.2 hr
  have e : ((r.num.toNat : ℕ) : ℤ) = r.num := Int.toNat_of_nonneg this
  exact_mod_cast e

theorem roundHalfEven_spec (r : ℚ) (hr : 0 ≤ r) : |(roundHalfEven r : ℚ) - r| ≤ 1/2 := by
  obtain ⟨h1, h2⟩ := rhe_nat r.num.toNat r.den r.den_pos (roundHalfEven r) rfl
  have hd : (0:ℚ) < r.den := by exact_mod_cast r.den_pos
  have e : r * r.den = (r.num.toNat : ℕ) := by rw [toNat_num_cast r hr, Rat.mul_den_eq_num]
  have h1' : (2:ℚ) * (r.den * roundHalfEven r) ≤ 2 * (r.num.toNat : ℕ) + r.den := by exact_mod_cast h1
  have h2' : (2:ℚ) * (r.num.toNat : ℕ) ≤ 2 * (r.den * roundHalfEven r) + r.den := by exact_mod_cast h2
  -- the claim multiplied by the denominator
  refine le_of_mul_le_mul_right ?_ hd
  rw [← abs_of_pos hd, ← abs_mul, abs_of_pos hd, sub_mul, e, abs_le]
  exact ⟨by linarith only [h2'], by linarith only [h1']⟩

theorem roundHalfEven_mono (r s : ℚ) (hr : 0 ≤ r) (hrs : r ≤ s) : roundHalfEven r ≤ roundHalfEven s := by
  rcases eq_or_lt_of_le hrs with h | h
  · rw [h]
  · have h1 := (abs_le.1 (roundHalfEven_spec r hr)).2
    have h2 := (abs_le.1 (roundHalfEven_spec s (le_trans hr hrs))).1
    have : (roundHalfEven r : ℚ) < (roundHalfEven s : ℚ) + 1 := by linarith only [h, h1, h2]
    have : roundHalfEven r < roundHalfEven s + 1 := by exact_mod_cast this
    omega

theorem roundHalfEven_natCast (n : ℕ) : roundHalfEven (n : ℚ) = n := by
  have h := lt_of_le_of_lt (roundHalfEven_spec (n:ℚ) (by positivity)) (by norm_num : (1:ℚ)/2 < 1)
  have h' : |(roundHalfEven (n:ℚ) : ℤ) - n| < 1 := by exact_mod_cast h
  have := Int.abs_lt_one_iff.1 h'
  omega

/-- `⌊log₂ x⌋` as computed by the model for a positive rational -/
def lg (x : ℚ) : ℤ := ilog2 x.num.toNat x.den

theorem lg_spec (x : ℚ) (hx : 0 < x) : (2:ℚ)^(lg x) ≤ x ∧ x < (2:ℚ)^(lg x + 1) := by
  have hn : 0 < x.num := Rat.num_pos.2 hx
  have h := ilog2_spec x.num.toNat x.den (by omega) x.den_pos
  rw [toNat_num_cast x hx.le, Rat.num_div_den] at h
  exact h

theorem lg_ge_iff (x : ℚ) (hx : 0 < x) (k : ℤ) : k ≤ lg x ↔ (2:ℚ)^k ≤ x := by
  obtain ⟨h1, h2⟩ := lg_spec x hx
  constructor
  · intro h; exact le_trans ((zpow_le_iff _ _).2 h) h1
  · intro h
    have : (2:ℚ)^k < 2^(lg x + 1) := lt_of_le_of_lt h h2
    rw [zpow_lt_iff] at this; omega

theorem lg_lt_iff (x : ℚ) (hx : 0 < x) (k : ℤ) : lg x < k ↔ x < (2:ℚ)^k := by
  rw [← not_le, lg_ge_iff x hx, not_le]

theorem ulpExp_eq (x : ℚ) : ulpExp x = max (lg x) (-126) - 23 := rfl

theorem ulpExp_ge (x : ℚ) : -149 ≤ ulpExp x := by rw [ulpExp_eq]; omega

/-- the ulp exponent is at most `g` iff `x` lies below the top `2^(g+24)` of the binade whose ulp is `2^g` (and `g ≥ −149`: no
ulp is finer) -/
theorem ulpExp_le_iff {x : ℚ} (hx : 0 < x) (g : ℤ) : ulpExp x ≤ g ↔ -149 ≤ g ∧ x < (2:ℚ) ^ (g + 24) := by
  rw [← lg_lt_iff x hx, ulpExp_eq]; omega

/-- … and at least `g` iff `x` has reached the bottom `2^(g+23)` of that binade (or `g` is at most the subnormal ulp) -/
theorem le_ulpExp_iff {x : ℚ} (hx : 0 < x) (g : ℤ) : g ≤ ulpExp x ↔ g ≤ -149 ∨ (2:ℚ) ^ (g + 23) ≤ x := by
  rw [← lg_ge_iff x hx, ulpExp_eq]; omega

/-- `x` lies in its own binade, the one whose ulp is `2^(ulpExp x)` -/
theorem ulpExp_spec {x : ℚ} (hx : 0 < x) :
    (ulpExp x ≤ -149 ∨ (2:ℚ) ^ (ulpExp x + 23) ≤ x) ∧ x < (2:ℚ) ^ (ulpExp x + 24) :=
  ⟨(le_ulpExp_iff hx _).1 le_rfl, ((ulpExp_le_iff hx _).1 le_rfl).2⟩

/-- rounding a non-negative rational onto the grid `2^ue·ℕ`; `rnePos x` is this for `ue = ulpExp x` -/
def onto (ue : ℤ) (x : ℚ) : ℚ := (roundHalfEven (x / (2:ℚ) ^ ue) : ℚ) * (2:ℚ) ^ ue

theorem rnePos_eq (x : ℚ) : rnePos x = onto (ulpExp x) x := by
  unfold rnePos onto; simp only [pow2_eq]

theorem onto_onGrid (ue : ℤ) (x : ℚ) : OnGrid ue (onto ue x) :=
  ⟨roundHalfEven (x / (2:ℚ) ^ ue), by unfold onto; push_cast; rfl⟩

theorem onto_err (ue : ℤ) (x : ℚ) (hx : 0 ≤ x) : |onto ue x - x| ≤ (2:ℚ) ^ ue / 2 := by
  have hp : (0:ℚ) < 2 ^ ue := by positivity
  have h := mul_le_mul_of_nonneg_right (roundHalfEven_spec (x / (2:ℚ) ^ ue) (by positivity)) hp.le
  have e : onto ue x - x = ((roundHalfEven (x / (2:ℚ) ^ ue) : ℚ) - x / (2:ℚ) ^ ue) * (2:ℚ) ^ ue := by
    unfold onto; rw [sub_mul, div_mul_cancel₀ _ hp.ne']
  rw [e, abs_mul, abs_of_pos hp]
  exact h.trans_eq (one_div_mul_eq_div _ _)

theorem onto_mono {ue : ℤ} {x y : ℚ} (hx : 0 ≤ x) (hxy : x ≤ y) : onto ue x ≤ onto ue y := by
  have hp : (0:ℚ) < 2 ^ ue := by positivity
  have h := roundHalfEven_mono _ _ (by positivity) (div_le_div_of_nonneg_right hxy hp.le)
  exact mul_le_mul_of_nonneg_right (by exact_mod_cast h) hp.le

theorem onto_grid (ue : ℤ) (K : ℕ) : onto ue (K * (2:ℚ) ^ ue) = K * (2:ℚ) ^ ue := by
  have hp : (0:ℚ) < 2 ^ ue := by positivity
  unfold onto
  rw [mul_div_assoc, div_self hp.ne', mul_one, roundHalfEven_natCast]

theorem onto_zpow {ue k : ℤ} (h : ue ≤ k) : onto ue ((2:ℚ) ^ k) = (2:ℚ) ^ k := by
  rw [zpow_split k ue h]; exact onto_grid ue _

theorem rnePos_nonneg (x : ℚ) : 0 ≤ rnePos x := by rw [rnePos_eq]; unfold onto; positivity

theorem rnePos_err (x : ℚ) (hx : 0 < x) : |rnePos x - x| ≤ (2:ℚ)^(ulpExp x) / 2 := by
  rw [rnePos_eq]; exact onto_err _ x hx.le

theorem rnePos_le_top (x : ℚ) (hx : 0 < x) : rnePos x ≤ (2:ℚ) ^ (ulpExp x + 24) := by
  rw [rnePos_eq, ← onto_zpow (by omega : ulpExp x ≤ ulpExp x + 24)]
  exact onto_mono hx.le (ulpExp_spec hx).2.le

theorem rnePos_ge_bot (x : ℚ) (hx : 0 < x) (h : -149 < ulpExp x) : (2:ℚ) ^ (ulpExp x + 23) ≤ rnePos x := by
  rw [rnePos_eq, ← onto_zpow (by omega : ulpExp x ≤ ulpExp x + 23)]
  exact onto_mono (by positivity) ((ulpExp_spec hx).1.resolve_left (by omega))

theorem rnePos_mono (x y : ℚ) (hx : 0 < x) (hxy : x ≤ y) : rnePos x ≤ rnePos y := by
  -- on one grid by `onto_mono`; across grids through the power of two between them
  have hy : 0 < y := lt_of_lt_of_le hx hxy
  have hle : ulpExp x ≤ ulpExp y :=
    (le_ulpExp_iff hy _).2 ((ulpExp_spec hx).1.imp id fun h => le_trans h hxy)
  rcases eq_or_lt_of_le hle with he | hlt
  · rw [rnePos_eq, rnePos_eq, he]; exact onto_mono hx.le hxy
  · have := ulpExp_ge x
    calc rnePos x ≤ (2:ℚ) ^ (ulpExp x + 24) := rnePos_le_top x hx
      _ ≤ (2:ℚ) ^ (ulpExp y + 23) := (zpow_le_iff _ _).2 (by omega)
      _ ≤ rnePos y := rnePos_ge_bot y hy (by omega)

theorem rne32_zero : rne32 0 = 0 := by simp [rne32]

theorem rne32_pos (x : ℚ) (hx : 0 < x) : rne32 x = rnePos x := by
  unfold rne32; rw [if_neg hx.ne', if_pos hx]

theorem rne32_neg' (x : ℚ) (hx : x < 0) : rne32 x = - rnePos (-x) := by
  unfold rne32; rw [if_neg hx.ne, if_neg (not_lt.2 hx.le)]

theorem rne32_neg (x : ℚ) : rne32 (-x) = - rne32 x := by
  rcases lt_trichotomy x 0 with h | h | h
  · rw [rne32_neg' x h, rne32_pos (-x) (neg_pos.2 h), neg_neg]
  · subst h; simp [rne32_zero]
  · rw [rne32_pos x h, rne32_neg' (-x) (neg_lt_zero.2 h), neg_neg]

/-- `rne32` is the odd extension of `rnePos`, as a rule of proof for facts about an argument and its rounding that survive
negating both -/
@[elab_as_elim]
theorem rne32_sign_cases {P : ℚ → ℚ → Prop} (zero : P 0 0) (pos : ∀ y, 0 < y → P y (rnePos y))
    (neg : ∀ y r, P y r → P (-y) (-r)) (x : ℚ) : P x (rne32 x) := by
  rcases lt_trichotomy x 0 with h | rfl | h
  · have := neg _ _ (pos (-x) (neg_pos.2 h))
    rwa [neg_neg, ← rne32_neg' x h] at this
  · rw [rne32_zero]; exact zero
  · rw [rne32_pos x h]; exact pos x h

theorem rne32_nonneg (x : ℚ) (hx : 0 ≤ x) : 0 ≤ rne32 x := by
  rcases eq_or_lt_of_le hx with h | h
  · rw [← h, rne32_zero]
  · rw [rne32_pos x h]; exact rnePos_nonneg x

theorem rne32_nonpos (x : ℚ) (hx : x ≤ 0) : rne32 x ≤ 0 := by
  have := rne32_nonneg (-x) (neg_nonneg.2 hx)
  rw [rne32_neg] at this; exact neg_nonneg.1 this

theorem rne32_mono (x y : ℚ) (h : x ≤ y) : rne32 x ≤ rne32 y := by
  rcases lt_trichotomy x 0 with hx | hx | hx
  · rcases lt_or_ge y 0 with hy | hy
    · rw [rne32_neg' x hx, rne32_neg' y hy]
      exact neg_le_neg (rnePos_mono (-y) (-x) (neg_pos.2 hy) (neg_le_neg h))
    · exact le_trans (rne32_nonpos x hx.le) (rne32_nonneg y hy)
  · subst hx; rw [rne32_zero]; exact rne32_nonneg y h
  · rw [rne32_pos x hx, rne32_pos y (lt_of_lt_of_le hx h)]
    exact rnePos_mono x y hx h

theorem rne32_abs (x : ℚ) : |rne32 x| = rne32 |x| := by
  rcases le_total 0 x with h | h
  · rw [abs_of_nonneg h, abs_of_nonneg (rne32_nonneg x h)]
  · rw [abs_of_nonpos h, abs_of_nonpos (rne32_nonpos x h), rne32_neg]

theorem rne32_err_abs (x : ℚ) : |rne32 x - x| = |rne32 (|x|) - (|x|)| := by
  rcases le_total 0 x with h | h
  · rw [abs_of_nonneg h]
  · rw [abs_of_nonpos h, rne32_neg, ← abs_neg]; congr 1; ring

theorem rnePos_of_representable (m : ℕ) (e : ℤ) (hm0 : 0 < m) (hm : m < 2^24) (he : -149 ≤ e) :
    rnePos (m * (2:ℚ)^e) = m * (2:ℚ)^e := by
  have hx : (0:ℚ) < m * (2:ℚ)^e := by positivity
  have hu : ulpExp (m * (2:ℚ)^e) ≤ e := (ulpExp_le_iff hx e).2 ⟨he, by
    rw [zpow_eq_mul 24 (by norm_num : e + 24 = e + (24:ℕ))]
    exact mul_lt_mul_of_pos_right (by exact_mod_cast hm) (by positivity)⟩
  -- `m·2^e` is a point of the finer grid `2^ue`
  rw [rnePos_eq]
  generalize ulpExp (m * (2:ℚ)^e) = ue at hu
  rw [zpow_split e ue hu, ← mul_assoc, ← Nat.cast_mul]; exact onto_grid _ _

theorem rne32_of_representable (m : ℤ) (e : ℤ) (hm : |m| < 2^24) (he : -149 ≤ e) :
    rne32 (m * (2:ℚ)^e) = m * (2:ℚ)^e := by
  induction m using Int.negInduction with
  | nat k =>
    rw [Nat.abs_cast] at hm
    rcases Nat.eq_zero_or_pos k with rfl | hk0
    · simp [rne32_zero]
    · have : (0:ℚ) < k := by exact_mod_cast hk0
      rw [Int.cast_natCast, rne32_pos _ (by positivity), rnePos_of_representable k e hk0 (by exact_mod_cast hm) he]
  | neg ih k =>
    rw [abs_neg] at hm
    rw [Int.cast_neg, neg_mul, rne32_neg, ih k hm]

/-- `10^9 = 1953125 · 2^9` and `1953125 < 2^24` -/
theorem rne32_e9 : rne32 1000000000 = 1000000000 := by
  have h := rne32_of_representable 1953125 9 (by norm_num) (by norm_num)
  have e : ((1953125 : ℤ) : ℚ) * (2:ℚ)^(9:ℤ) = 1000000000 := by norm_num
  rw [e] at h; exact h

theorem rne32_two_zpow (k : ℤ) (hk : -149 ≤ k) : rne32 ((2:ℚ)^k) = (2:ℚ)^k := by
  have h := rne32_of_representable 1 k (by norm_num) hk
  simpa using h

/-- a multiple of `2^g` (`g ≥ −149`) of at most 24 bits is a binary32 number, the top `±2^(g+24)` of the binade included -/
theorem rne32_of_onGrid {x : ℚ} {g : ℤ} (hx : OnGrid g x) (hg : -149 ≤ g) (h : |x| ≤ (2:ℚ) ^ (g + 24)) : rne32 x = x := by
  obtain ⟨j, rfl⟩ := hx
  have hp : (0:ℚ) < 2 ^ g := by positivity
  have e24 : (2:ℚ) ^ (g + 24) = ((2 ^ 24 : ℤ) : ℚ) * 2 ^ g := by
    rw [zpow_eq_mul 24 (by norm_num : g + 24 = g + (24:ℕ))]; norm_num
  rw [abs_mul, abs_of_pos hp, e24] at h
  have hj : |j| ≤ 2 ^ 24 := by exact_mod_cast le_of_mul_le_mul_right h hp
  rcases lt_or_eq_of_le hj with h1 | h1
  · exact rne32_of_representable j g h1 hg
  · -- `|j| = 2^24`: the value is `±2^(g+24)`
    rcases (abs_eq (by norm_num)).1 h1 with rfl | rfl
    · rw [← e24]; exact rne32_two_zpow _ (by omega)
    · rw [Int.cast_neg, neg_mul, rne32_neg, ← e24, rne32_two_zpow _ (by omega)]

theorem rne32_intCast_small (n : ℤ) (h : |n| ≤ 2^24) : rne32 n = n :=
  rne32_of_onGrid (g := 0) ⟨n, by rw [zpow_zero, mul_one]⟩ (by norm_num)
    (by rw [zero_add, two_pow_24]; exact_mod_cast h)

theorem rnePos_representable (x : ℚ) (hx : 0 < x) :
    ∃ (m : ℕ) (e : ℤ), m < 2^24 ∧ -149 ≤ e ∧ rnePos x = m * (2:ℚ)^e := by
  have hue := ulpExp_ge x
  obtain ⟨j, hj⟩ : ∃ N : ℕ, rnePos x = N * (2:ℚ) ^ ulpExp x := ⟨_, rnePos_eq x⟩
  -- the significand is at most `2^24`, since `rnePos x ≤ 2^(ue+24)`
  have hN : j ≤ 16777216 := by
    have h := rnePos_le_top x hx
    rw [hj, zpow_eq_mul 24 (by norm_num : ulpExp x + 24 = ulpExp x + (24:ℕ))] at h
    exact_mod_cast le_of_mul_le_mul_right h (by positivity)
  rcases lt_or_eq_of_le hN with h | h
  · exact ⟨j, ulpExp x, by norm_num; exact h, hue, hj⟩
  · refine ⟨8388608, ulpExp x + 1, by norm_num, by omega, ?_⟩
    rw [hj, h, zpow_succ2]; push_cast; ring

theorem rne32_representable (x : ℚ) : ∃ m e : ℤ, |m| < 2 ^ 24 ∧ -149 ≤ e ∧ rne32 x = m * (2:ℚ) ^ e := by
  refine rne32_sign_cases ⟨0, 0, by norm_num, by norm_num, by simp⟩ (fun y hy => ?_) ?_ x
  · obtain ⟨m, e, hm, he, hr⟩ := rnePos_representable y hy
    exact ⟨m, e, by rw [Nat.abs_cast]; exact_mod_cast hm, he, by rw [hr]; push_cast; rfl⟩
  · rintro _ _ ⟨m, e, hm, he, rfl⟩
    exact ⟨-m, e, by rwa [abs_neg], he, by push_cast; ring⟩

theorem rne32_idem (x : ℚ) : rne32 (rne32 x) = rne32 x := by
  obtain ⟨m, e, hm, he, h⟩ := rne32_representable x
  rw [h]; exact rne32_of_representable m e hm he

/-- where a rounding lands: if `|x|` has reached the binade whose ulp is `2^g`, `rne32 x` is a multiple of `2^g` -/
theorem rne32_onGrid (x : ℚ) (g : ℤ) (hlo : g ≤ -149 ∨ (2:ℚ) ^ (g + 23) ≤ |x|) : OnGrid g (rne32 x) := by
  revert hlo
  refine rne32_sign_cases (fun _ => onGrid_zero g) (fun y hy h => ?_) (fun y r ih h => ?_) x
  · -- `rnePos y` lies on the grid of the ulp of `y`, which is at least as fine
    rw [abs_of_pos hy] at h
    rw [rnePos_eq]; exact (onto_onGrid _ _).mono ((le_ulpExp_iff hy g).2 h)
  · rw [abs_neg] at h; exact (ih h).neg

/-- how far a rounding moves: up to the top of the binade whose ulp is `2^g`, at most half of it -/
theorem rne32_err_ulp (x : ℚ) (g : ℤ) (hg : -149 ≤ g) (hhi : |x| ≤ (2:ℚ) ^ (g + 24)) :
    |rne32 x - x| ≤ (2:ℚ) ^ g / 2 := by
  have hp : (0:ℚ) ≤ 2 ^ g / 2 := by positivity
  rw [rne32_err_abs]
  rcases eq_or_lt_of_le (abs_nonneg x) with h0 | hpos
  · rw [← h0, rne32_zero, sub_self, abs_zero]; exact hp
  · rcases eq_or_lt_of_le hhi with he | hlt
    · rw [he, rne32_two_zpow _ (by omega), sub_self, abs_zero]; exact hp
    · rw [rne32_pos _ hpos]
      exact le_trans (rnePos_err _ hpos)
        (div_le_div_of_nonneg_right ((zpow_le_iff _ _).2 ((ulpExp_le_iff hpos g).2 ⟨hg, hlt⟩)) (by norm_num))

/-- rounding does not cross a power of two -/
theorem abs_rne32_le_zpow {x : ℚ} (k : ℤ) (hk : -149 ≤ k) (h : |x| ≤ (2:ℚ) ^ k) : |rne32 x| ≤ (2:ℚ) ^ k := by
  rw [rne32_abs, ← rne32_two_zpow k hk]; exact rne32_mono _ _ h

theorem zpow_le_abs_rne32 {x : ℚ} (k : ℤ) (hk : -149 ≤ k) (h : (2:ℚ) ^ k ≤ |x|) : (2:ℚ) ^ k ≤ |rne32 x| := by
  rw [rne32_abs, ← rne32_two_zpow k hk]; exact rne32_mono _ _ h

/-- normal range: the ulp is `2^(lg |x| − 23) ≤ |x|·2^-23` -/
theorem rne32_rel (x : ℚ) (h : (2:ℚ)^(-126:ℤ) ≤ |x|) : |rne32 x - x| ≤ |x| / 2^24 := by
  have hp : (0:ℚ) < |x| := lt_of_lt_of_le (by positivity) h
  obtain ⟨l1, l2⟩ := lg_spec |x| hp
  have h1 := rne32_err_ulp x (lg |x| - 23) (by have := (lg_ge_iff |x| hp _).2 h; omega)
    (by rw [show lg |x| - 23 + 24 = lg |x| + 1 by ring]; exact l2.le)
  have e : (2:ℚ) ^ (lg |x| - 23) / 2 = 2 ^ lg |x| / 2 ^ 24 := by
    rw [zpow_sub₀ two_ne_zero]; norm_num; ring
  rw [e] at h1
  exact le_trans h1 (div_le_div_of_nonneg_right l1 (by norm_num))

/-- below the normal range the ulp is `2^-149` -/
theorem rne32_abs_subnormal (x : ℚ) (h : |x| < (2:ℚ)^(-126:ℤ)) : |rne32 x - x| ≤ (2:ℚ)^(-150:ℤ) := by
  rw [show (-150:ℤ) = -149 - 1 by norm_num, zpow_sub_one₀ two_ne_zero, ← div_eq_mul_inv]
  exact rne32_err_ulp x (-149) le_rfl (le_trans h.le ((zpow_le_iff _ _).2 (by norm_num)))

theorem overflows_iff (x : ℚ) : overflows x = true ↔ (2:ℚ)^(128:ℤ) ≤ |rne32 x| := by
  unfold overflows
  rw [decide_eq_true_iff, pow2_eq]
  by_cases h : 0 ≤ rne32 x
  · rw [if_pos h, abs_of_nonneg h]
  · rw [if_neg h, abs_of_neg (not_le.1 h)]

example : rne32 (1/3) = 11184811 / 33554432 := by decide +kernel
example : rne32 1000000001 = 1000000000 := by decide +kernel
example : rne32 16777217 = 16777216 := by decide +kernel      -- tie to even
example : rne32 16777219 = 16777220 := by decide +kernel      -- tie to even (up)
example : rne32 ((2:ℚ)^(-150:ℤ)) = 0 := by decide +kernel

example : (2:ℚ)^(-126:ℤ) ≤ |(1/3 : ℚ)| := by decide +kernel
example : |((2:ℚ)^(-130:ℤ))| < (2:ℚ)^(-126:ℤ) := by decide +kernel
example : |(1953125 : ℤ)| < 2^24 ∧ (-149 : ℤ) ≤ 9 := by decide
example : |(-16777216 : ℤ)| ≤ 2^24 := by decide

end Rrtk.Thm.SoftFloat

/-! `n as f32`, `… / 1e9` and `… * 1e9` of an integer number `n` of nanoseconds never reach the subnormal range, so the error
of each of these roundings is purely relative. -/
namespace Rrtk.Thm.C18.Soft
open Rrtk.Soft Rrtk.Thm.SoftFloat

/-- no underflow: the exact result is 0 or at least the smallest normal number in magnitude -/
def InR (x : ℚ) : Prop := x = 0 ∨ (2:ℚ)^(-126:ℤ) ≤ |x|

theorem rel_N (x : ℚ) (hx : InR x) : |rne32 x - x| ≤ 1 / 2 ^ 24 * |x| := by
  rcases hx with h | h
  · subst h; simp [rne32_zero]
  · rw [one_div_mul_eq_div]; exact rne32_rel x h

theorem inR_of_zpow_le {x : ℚ} (k : ℤ) (hk : -126 ≤ k) (h : (2:ℚ) ^ k ≤ |x|) : InR x :=
  Or.inr (le_trans ((zpow_le_iff _ _).2 hk) h)

theorem inR_int (t : ℤ) : InR (t:ℚ) := by
  by_cases ht : t = 0
  · subst ht; left; simp
  · exact inR_of_zpow_le 0 (by norm_num) (by rw [zpow_zero]; exact_mod_cast Int.one_le_abs ht)

/-- a nonzero integer is at least `1` in magnitude, so is its rounding (rounding does not cross a power of two), and
`10^-9 ≥ 2^-30` -/
theorem zpow_le_abs_rne32_int_div (t : ℤ) (ht : t ≠ 0) : (2:ℚ) ^ (-30:ℤ) ≤ |rne32 (t:ℚ) / 1000000000| := by
  have h1 : (2:ℚ) ^ (0:ℤ) ≤ |rne32 (t:ℚ)| :=
    zpow_le_abs_rne32 0 (by norm_num) (by rw [zpow_zero]; exact_mod_cast Int.one_le_abs ht)
  rw [abs_div, abs_of_pos (by norm_num : (0:ℚ) < 1000000000)]
  exact le_trans (by norm_num) (div_le_div_of_nonneg_right h1 (by norm_num))

theorem inR_int_div (t : ℤ) : InR (rne32 (t:ℚ) / 1000000000) := by
  by_cases ht : t = 0
  · subst ht; left; simp [rne32_zero]
  · exact inR_of_zpow_le (-30) (by norm_num) (zpow_le_abs_rne32_int_div t ht)

/-- the third rounding of the round trip: `|y| ≥ 2^-30` rounds to `|rne32 y| ≥ 2^-30`, and `2^-30·10^9 > 1/2` -/
theorem inR_int_div_mul (t : ℤ) : InR (rne32 (rne32 (t:ℚ) / 1000000000) * 1000000000) := by
  by_cases ht : t = 0
  · subst ht; left; simp [rne32_zero]
  · have h := zpow_le_abs_rne32 (-30) (by norm_num) (zpow_le_abs_rne32_int_div t ht)
    refine inR_of_zpow_le (-1) (by norm_num) ?_
    rw [abs_mul, abs_of_pos (by norm_num : (0:ℚ) < 1000000000)]
    exact le_trans (by norm_num) (mul_le_mul_of_nonneg_right h (by norm_num))

end Rrtk.Thm.C18.Soft

