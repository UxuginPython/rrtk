/-
C17, the invariant of the heap machine, preserved by every statement.

`HInvA` (the machine WITH raw aliases, `Rrtk/RefAlias.lean`): every handle points at an allocated cell it is typed for (of the
cell's kind, or the raw pointer INTO that kind: `Typed`), and every cell is `CellOK` for the number of COUNTED handles to it
(`cntC`): raw aliases own nothing.  A statement changes at most one cell and the table by one handle, so preservation is
`hinvA_table_congr` where the heap is untouched, the frame rule `hinvA_frame` where one cell changes, and the arithmetic of
that cell (`CellOK.inc`, `CellOK.dec`, `CellOK.fresh`).
`HInv` (the machine without raw aliases, `Rrtk/RefHeap.lean`) is `HInvA` on the states where every handle is of its cell's
kind (`hinv_iff`), and the statements of that machine stay among those states (`proper_exec`).
Tier S (no scalar).
-/
import Rrtk.Thm.Lemmas.C17HeapOps
namespace Rrtk.Thm.C17
open Rrtk

/-- what the invariants ask of a cell, `n` being the number of handles that own a share of it: a live counted cell's
strong count is `n`, and is at least 1; a freed cell has no owner; a cell of a raw-pointer kind (a static) is never freed -/
def CellOK (c : HCell) (n : Nat) : Prop :=
  (c.kind.counted = true → c.freed = false → c.strong = n ∧ 1 ≤ c.strong) ∧
  (c.freed = true → n = 0) ∧
  (c.kind.counted = false → c.freed = false)

theorem CellOK.inc {c : HCell} {n : Nat} (h : CellOK c n) (hf : c.freed = false) :
    CellOK { c with strong := c.strong + 1 } (n + 1) :=
  ⟨fun hk _ => ⟨congrArg (· + 1) (h.1 hk hf).1, Nat.le_add_left ..⟩,
    fun hf' => absurd (hf'.symm.trans hf) (by decide), h.2.2⟩

theorem CellOK.live {c : HCell} {n : Nat} (h : CellOK c n) (hn : 1 ≤ n) : c.freed = false :=
  Bool.eq_false_iff.2 fun hf => by have := h.2.1 hf; omega

/-- the drop glue of an owner: the cell is freed exactly when that was the last one -/
theorem CellOK.dec {c : HCell} {n : Nat} (h : CellOK c (n + 1)) (hk : c.kind.counted = true) (hf : c.freed = false) :
    CellOK { c with strong := c.strong - 1, freed := c.strong - 1 == 0 } n := by
  have hs : c.strong - 1 = n := by rw [(h.1 hk hf).1]; rfl
  exact ⟨fun _ hf' => ⟨hs, Nat.pos_of_ne_zero (ne_of_beq_false hf')⟩, fun hf' => hs.symm.trans (eq_of_beq hf'),
    fun hk' => absurd (hk.symm.trans hk') (by decide)⟩

theorem CellOK.freed_iff {c : HCell} {n : Nat} (h : CellOK c n) (hk : c.kind.counted = true) : c.freed = true ↔ n = 0 := by
  refine ⟨h.2.1, fun hn => ?_⟩
  cases hf : c.freed with
  | true => rfl
  | false =>
    obtain ⟨h1, h2⟩ := h.1 hk hf
    omega

theorem CellOK.fresh (k : RefVariant) (v : Int) :
    CellOK ⟨k, v, false, if k.counted then 1 else 0⟩ (if k.counted then 1 else 0) := by
  refine ⟨fun hk _ => ⟨rfl, ?_⟩, fun hf => Bool.noConfusion hf, fun _ => rfl⟩
  show 1 ≤ (if k.counted = true then 1 else 0)
  rw [if_pos hk]; exact Nat.le_refl 1

/-- a handle of variant `v` may point at a cell of kind `k`: it is of that kind, or it is the raw pointer INTO that kind -/
def Typed (k v : RefVariant) : Prop := v = k ∨ v = k.rawOf

theorem rawOf_not_counted (v : RefVariant) : v.rawOf.counted = false := by cases v <;> rfl

theorem rawOf_raw (v : RefVariant) (hv : v.counted = false) : v.rawOf = v := by
  cases v <;> first | rfl | cases hv

theorem typed_counted (k v : RefVariant) (ht : Typed k v) (hv : v.counted = true) : k = v := by
  rcases ht with h | h
  · exact h.symm
  · rw [h, rawOf_not_counted] at hv; cases hv

theorem typed_rawOf (k v : RefVariant) (ht : Typed k v) : Typed k v.rawOf := by
  rcases ht with h | h
  · subst h; exact Or.inr rfl
  · subst h; exact Or.inr (rawOf_raw _ (rawOf_not_counted k))

/-- (1) every live handle points at an allocated cell it is typed for; (2) every cell is `CellOK` for the
number of live COUNTED handles to it, written out clause by clause as `counted_cell_live_while_any_counted_handle'` states them
(`HInvA.cell` folds it back for the preservation proofs) -/
def HInvA (s : RState) : Prop :=
  (∀ h, some h ∈ s.table → ∃ c, s.heap[h.addr]? = some c ∧ Typed c.kind h.variant) ∧
  (∀ a c, s.heap[a]? = some c →
    (c.kind.counted = true → c.freed = false → c.strong = cntC a s.table ∧ 1 ≤ c.strong) ∧
    (c.freed = true → cntC a s.table = 0) ∧
    (c.kind.counted = false → c.freed = false))

theorem HInvA.cell {s : RState} (hI : HInvA s) {a : Nat} {c : HCell} (hc : s.heap[a]? = some c) :
    CellOK c (cntC a s.table) := hI.2 a c hc

theorem hinvA_empty : HInvA RState.empty :=
  ⟨fun h hm => by simp [RState.empty] at hm, fun a c hc => by simp [RState.empty] at hc⟩

/-- frame rule: the cell at `a` is replaced by one of the same kind, handles are only added / removed at `a` -/
theorem hinvA_frame (s s' : RState) (a : Nat) (c c' : HCell) (hI : HInvA s) (hc : s.heap[a]? = some c)
    (hk : c'.kind = c.kind)
    (hheap : ∀ b : Nat, s'.heap[b]? = if b = a then some c' else s.heap[b]?)
    (htyp : ∀ h, some h ∈ s'.table → some h ∈ s.table ∨ (h.addr = a ∧ Typed c.kind h.variant))
    (hcnt : ∀ b, b ≠ a → cntC b s'.table = cntC b s.table)
    (hok : CellOK c' (cntC a s'.table)) : HInvA s' := by
  obtain ⟨t1, t2⟩ := hI
  refine ⟨?_, ?_⟩
  · intro h hm
    rw [hheap]
    rcases htyp h hm with hm0 | ⟨ha, ht⟩
    · obtain ⟨c0, hc0, hk0⟩ := t1 h hm0
      by_cases hb : h.addr = a
      · refine ⟨c', by simp [hb], ?_⟩
        rw [hb, hc] at hc0
        simp only [Option.some.injEq] at hc0
        rw [hk, hc0]; exact hk0
      · exact ⟨c0, by simp only [hb, if_false]; exact hc0, hk0⟩
    · exact ⟨c', by simp [ha], by rw [hk]; exact ht⟩
  · intro b cb hcb
    rw [hheap] at hcb
    by_cases hb : b = a
    · subst hb
      simp only [if_true, Option.some.injEq] at hcb
      subst hcb
      exact hok
    · simp only [hb, if_false] at hcb
      rw [hcnt b hb]
      exact t2 b cb hcb

/-- `HInvA` sees the table only through where its handles point, what they are typed for, and `cntC` -/
theorem hinvA_table_congr (hp : Heap) (t t' : List (Option RHandle)) (hI : HInvA ⟨hp, t⟩)
    (hm : ∀ h, some h ∈ t' → ∃ g, some g ∈ t ∧ h.addr = g.addr ∧ ∀ k, Typed k g.variant → Typed k h.variant)
    (hc : ∀ a, cntC a t' = cntC a t) : HInvA ⟨hp, t'⟩ := by
  refine ⟨fun h hh => ?_, fun a c hca => ?_⟩
  · obtain ⟨g, hg, ha, ht⟩ := hm h hh
    obtain ⟨c, hc, hty⟩ := hI.1 g hg
    exact ⟨c, ha ▸ hc, ht _ hty⟩
  · show CellOK c (cntC a t')
    rw [hc a]; exact hI.cell hca

theorem hinvA_push_raw (s : RState) (h h' : RHandle) (hI : HInvA s) (hm : some h ∈ s.table)
    (hk : h'.variant.counted = false) (ha : h'.addr = h.addr) (ht : ∀ k, Typed k h.variant → Typed k h'.variant) :
    HInvA ⟨s.heap, s.table ++ [some h']⟩ := by
  refine hinvA_table_congr s.heap s.table _ hI (fun g hg => ?_) fun b => ?_
  · rcases List.mem_append.1 hg with hg | hg
    · exact ⟨g, hg, rfl, fun _ ht => ht⟩
    · obtain rfl : g = h' := by simpa using hg
      exact ⟨h, hm, ha, ht⟩
  · rw [cntC_append, wC_raw _ _ hk]; rfl

theorem hinvA_push_counted (s : RState) (h h' : RHandle) (c : HCell) (hI : HInvA s) (hm : some h ∈ s.table)
    (hk : h.variant.counted = true) (hcell : s.heap.cell h.addr = .ok c) (ha : h'.addr = h.addr)
    (hv : h'.variant = h.variant) :
    HInvA ⟨s.heap.set h.addr { c with strong := c.strong + 1 }, s.table ++ [some h']⟩ := by
  obtain ⟨hc, hfr⟩ := cell_ok.1 hcell
  obtain ⟨c0, hc0, hty⟩ := hI.1 h hm
  obtain rfl : c = c0 := Option.some.inj (hc.symm.trans hc0)
  have hw : wC h.addr h' = 1 := ha ▸ wC_self h' (hv ▸ hk)
  refine hinvA_frame s _ h.addr c { c with strong := c.strong + 1 } hI hc rfl (get_set _ _ _ (cell_lt _ _ _ hcell))
    (fun g hg => ?_) (fun b hb => ?_) ?_
  · refine (List.mem_append.1 hg).imp_right fun hg => ?_
    obtain rfl : g = h' := by simpa using hg
    exact ⟨ha, .inl (hv ▸ (typed_counted _ _ hty hk).symm)⟩
  · show cntC b (s.table ++ [some h']) = _
    rw [cntC_append, wC_ne _ _ (ha ▸ fun e => hb e.symm)]; rfl
  · show CellOK _ (cntC h.addr (s.table ++ [some h']))
    rw [cntC_append, hw]; exact (hI.cell hc).inc hfr

theorem hinvA_move (s : RState) (i : Nat) (h h' : RHandle) (hI : HInvA s) (hi : s.table.getD i none = some h)
    (ha : h'.addr = h.addr) (hv : h'.variant = h.variant) :
    HInvA ⟨s.heap, s.table.set i none ++ [some h']⟩ := by
  refine hinvA_table_congr s.heap s.table _ hI (fun g hg => ?_) fun b => ?_
  · rcases List.mem_append.1 hg with hg | hg
    · exact ⟨g, mem_unset _ _ _ hg, rfl, fun _ ht => ht⟩
    · obtain rfl : g = h' := by simpa using hg
      exact ⟨h, mem_of_getD hi, ha, fun _ ht => hv ▸ ht⟩
  · have hw : wC b h' = wC b h := by simp only [wC, ha, hv]
    rw [cntC_append, hw]
    exact cntC_set_none b s.table i h hi

theorem hinvA_write_cell (s : RState) (a : Nat) (c : HCell) (v : Int) (hI : HInvA s) (hcell : s.heap.cell a = .ok c) :
    HInvA ⟨s.heap.set a { c with value := v }, s.table⟩ :=
  have hc := (cell_ok.1 hcell).1
  hinvA_frame s _ a c { c with value := v } hI hc rfl (get_set _ _ _ (cell_lt _ _ _ hcell))
    (fun _ hg => Or.inl hg) (fun _ _ => rfl) (show CellOK c _ from hI.cell hc)

theorem hinvA_unset_raw (s : RState) (i : Nat) (h : RHandle) (hI : HInvA s) (hi : s.table.getD i none = some h)
    (hk : h.variant.counted = false) : HInvA ⟨s.heap, s.table.set i none⟩ := by
  refine hinvA_table_congr s.heap s.table _ hI (fun g hg => ⟨g, mem_unset _ _ _ hg, rfl, fun _ ht => ht⟩) fun a => ?_
  have := cntC_set_none a s.table i h hi
  rwa [wC_raw _ _ hk] at this

theorem hinvA_unset_counted (s : RState) (i : Nat) (h : RHandle) (c : HCell) (hI : HInvA s)
    (hi : s.table.getD i none = some h) (hk : h.variant.counted = true) (hcell : s.heap.cell h.addr = .ok c) :
    HInvA ⟨s.heap.set h.addr { c with strong := c.strong - 1, freed := c.strong - 1 == 0 }, s.table.set i none⟩ := by
  obtain ⟨hc, hfr⟩ := cell_ok.1 hcell
  obtain ⟨c0, hc0, hty⟩ := hI.1 h (mem_of_getD hi)
  obtain rfl : c = c0 := Option.some.inj (hc.symm.trans hc0)
  have hkc : c.kind.counted = true := typed_counted _ _ hty hk ▸ hk
  have hdec : ∀ b, cntC b (s.table.set i none) + wC b h = cntC b s.table := fun b => cntC_set_none b s.table i h hi
  refine hinvA_frame s _ h.addr c { c with strong := c.strong - 1, freed := c.strong - 1 == 0 } hI hc rfl
    (get_set _ _ _ (cell_lt _ _ _ hcell)) (fun g hg => .inl (mem_unset _ _ _ hg)) (fun b hb => ?_) ?_
  · have := hdec b
    rwa [wC_ne _ _ (fun e => hb e.symm)] at this
  · refine CellOK.dec ?_ hkc hfr
    rw [← wC_self h hk, hdec]; exact hI.cell hc

theorem hinvA_alloc (s : RState) (k : RefVariant) (v : Int) (hI : HInvA s) : HInvA (s.alloc k v) := by
  have hlt : ∀ h, some h ∈ s.table → h.addr < s.heap.length := fun h hm =>
    let ⟨_, hc, _⟩ := hI.1 h hm
    (List.getElem?_eq_some_iff.1 hc).1
  have hnew : wC s.heap.length (s.heap.alloc k v).2 = if k.counted then 1 else 0 := by
    show (if s.heap.length = s.heap.length ∧ k.counted = true then 1 else 0) = _
    simp only [true_and]
  refine ⟨fun h hm => ?_, fun b cb hcb => ?_⟩
  · rcases List.mem_append.1 hm with hm | hm
    · obtain ⟨c, hc, hk⟩ := hI.1 h hm
      exact ⟨c, (List.getElem?_append_left (hlt h hm)).trans hc, hk⟩
    · obtain rfl : h = (s.heap.alloc k v).2 := by simpa using hm
      exact ⟨_, List.getElem?_concat_length, .inl rfl⟩
  · show CellOK cb (cntC b (s.table ++ [some (s.heap.alloc k v).2]))
    rw [cntC_append]
    by_cases hb : b < s.heap.length
    · rw [wC_ne _ _ (show s.heap.length ≠ b by omega)]
      exact hI.cell ((List.getElem?_append_left hb).symm.trans hcb)
    · -- no handle points beyond the old heap, so the fresh cell is counted by its first handle alone
      obtain rfl : b = s.heap.length := by
        have := (List.getElem?_eq_some_iff.1 hcb).1
        simp only [RState.alloc, Heap.alloc, List.length_append, List.length_singleton] at this
        omega
      obtain rfl : _ = cb := Option.some.inj (List.getElem?_concat_length.symm.trans hcb)
      rw [cntC_zero_of_forall _ _ fun h hm => Nat.ne_of_lt (hlt h hm), hnew, Nat.zero_add]
      exact CellOK.fresh k v

/-! ### `Clone` and drop glue, whatever the variant -/

/-- `Clone` of a live handle; the clone (or anything with its address and variant) is pushed -/
theorem hinvA_heap_clone (s : RState) (h h' h'' : RHandle) (hp' : Heap) (hI : HInvA s) (hm : some h ∈ s.table)
    (hc : s.heap.clone h = .ok (hp', h')) (ha : h''.addr = h.addr) (hv : h''.variant = h.variant) :
    HInvA ⟨hp', s.table ++ [some h'']⟩ := by
  obtain ⟨rfl, ⟨hk, rfl⟩ | ⟨hk, c, hcell, rfl⟩⟩ := heap_clone_cases hc
  · exact hinvA_push_raw s h' h'' hI hm (by rw [hv]; exact hk) ha (fun k ht => by rw [hv]; exact ht)
  · exact hinvA_push_counted s h' h'' c hI hm hk hcell ha hv

theorem hinvA_heap_drop (s : RState) (i : Nat) (h : RHandle) (hp' : Heap) (hI : HInvA s)
    (hi : s.table.getD i none = some h) (hd : s.heap.drop h = .ok hp') : HInvA ⟨hp', s.table.set i none⟩ := by
  obtain ⟨hk, rfl⟩ | ⟨hk, c, hcell, rfl⟩ := heap_drop_cases hd
  · exact hinvA_unset_raw s i h hI hi hk
  · exact hinvA_unset_counted s i h c hI hi hk hcell

/-! ### every statement preserves `HInvA` -/

theorem hinvA_toDynCloneWith (hasArm : RefVariant → Bool) (s s' : RState) (i : Nat) (hI : HInvA s)
    (he : s.toDynCloneWith hasArm i = .ok s') : HInvA s' := by
  obtain ⟨h, hp, hi, hcl, _, rfl⟩ := toDynCloneWith_ok he
  exact hinvA_heap_clone s h h _ hp hI (mem_of_getD hi) hcl rfl rfl

theorem hinvA_toDynMoveWith (hasArm : RefVariant → Bool) (s s' : RState) (i : Nat) (hI : HInvA s)
    (he : s.toDynMoveWith hasArm i = .ok s') : HInvA s' := by
  obtain ⟨h, hi, _, rfl⟩ := toDynMoveWith_ok he
  exact hinvA_move s i h _ hI hi rfl rfl

/-- the raw handle is not counted, the heap is unchanged -/
theorem hinvA_rawAlias (s s' : RState) (i : Nat) (hI : HInvA s) (he : s.rawAlias i = .ok s') : HInvA s' := by
  obtain ⟨h, _, hi, _, rfl⟩ := rawAlias_ok he
  exact hinvA_push_raw s h _ hI (mem_of_getD hi) (rawOf_not_counted _) rfl (fun k ht => typed_rawOf k _ ht)

/-- whatever `i`, `j` (also `i = j`), whatever the old and the source handle are (counted or raw, same address or not) -/
theorem hinvA_cloneFrom (s s' : RState) (i j : Nat) (hI : HInvA s) (he : s.cloneFrom i j = .ok s') : HInvA s' := by
  obtain ⟨old, src, hp, hi, hj, hcl, hd, htab⟩ := cloneFrom_ok he
  have hlt := getD_lt hi
  -- after the clone: the new value sits in a temporary (an extra slot)
  have h1 : HInvA ⟨hp, s.table ++ [some src]⟩ :=
    hinvA_heap_clone s src src src hp hI (mem_of_getD hj) hcl rfl rfl
  have hi1 : (s.table ++ [some src]).getD i none = some old := by
    rw [List.getD_eq_getElem?_getD, List.getElem?_append_left hlt, ← List.getD_eq_getElem?_getD]; exact hi
  -- the old value is dropped
  have h2 := hinvA_heap_drop ⟨hp, s.table ++ [some src]⟩ i old s'.heap h1 hi1 hd
  have hset : (s.table ++ [some src]).set i none = s.table.set i none ++ [some src] := List.set_append_left _ _ hlt
  -- the temporary is moved into the slot
  have : s' = ⟨s'.heap, s.table.set i (some src)⟩ := by cases s'; simp only at htab; rw [htab]
  rw [this]
  refine hinvA_table_congr s'.heap _ _ h2 (fun g hg => ⟨g, ?_, rfl, fun _ ht => ht⟩) fun a => ?_
  · show some g ∈ (s.table ++ [some src]).set i none
    rw [hset]
    rcases mem_set_some _ _ _ _ hg with hg | hg
    · exact List.mem_append_left _ hg
    · subst hg; simp
  · show cntC a (s.table.set i (some src)) = cntC a ((s.table ++ [some src]).set i none)
    rw [hset, cntC_append]
    have e1 := cntC_set_some a s.table i old src hi
    have e2 := cntC_set_none a s.table i old hi
    omega

theorem hinvA_hexec (feats : List String) (s s' : RState) (op : HOp) (hI : HInvA s) (he : hexec feats s op = .ok s') :
    HInvA s' := by
  cases op with
  | alloc k v => obtain rfl : s.alloc k v = s' := Except.ok.inj he; exact hinvA_alloc s k v hI
  | clone i =>
    obtain ⟨h, hp, hi, hcl, rfl⟩ := clone_ok he
    exact hinvA_heap_clone s h h h hp hI (mem_of_getD hi) hcl rfl rfl
  | toDynClone i => exact hinvA_toDynCloneWith (toDynHasArm feats) s s' i hI he
  | toDynMove i => exact hinvA_toDynMoveWith (toDynHasArm feats) s s' i hI he
  | read i => exact hexec_read he ▸ hI
  | write i v =>
    obtain ⟨h, c, _, hc, rfl⟩ := write_ok he
    exact hinvA_write_cell s h.addr c v hI hc
  | drop i =>
    obtain ⟨h, hp, hi, hd, rfl⟩ := drop_ok he
    exact hinvA_heap_drop s i h hp hI hi hd

/-- under `HInvA` a COUNTED handle can be dereferenced: its cell is allocated, of its kind, and not freed -/
theorem live_cell_counted (s : RState) (hI : HInvA s) (h : RHandle) (hm : some h ∈ s.table)
    (hk : h.variant.counted = true) : ∃ c, s.heap.cell h.addr = .ok c ∧ c.kind = h.variant :=
  let ⟨c, hc, hty⟩ := hI.1 h hm
  ⟨c, cell_ok.2 ⟨hc, (hI.cell hc).live (cntC_pos s.table h hm hk)⟩, typed_counted _ _ hty hk⟩

/-! ### the machine without raw aliases: `HInv` -/

/-- (1) every live handle points at an allocated cell of its own kind; (2) every cell is `CellOK` for the
number of live handles to it, written out as `counted_cell_live_while_any_handle` states the clauses (`HInv.cell` folds it back) -/
def HInv (s : RState) : Prop :=
  (∀ h, some h ∈ s.table → ∃ c, s.heap[h.addr]? = some c ∧ c.kind = h.variant) ∧
  (∀ a c, s.heap[a]? = some c →
    (c.kind.counted = true → c.freed = false → c.strong = cnt a s.table ∧ 1 ≤ c.strong) ∧
    (c.freed = true → cnt a s.table = 0) ∧
    (c.kind.counted = false → c.freed = false))

theorem HInv.cell {s : RState} (hI : HInv s) {a : Nat} {c : HCell} (hc : s.heap[a]? = some c) :
    CellOK c (cnt a s.table) := hI.2 a c hc

/-- every handle is of the kind of its cell (no raw alias into an `Rc` / `Arc` object): the first half of `HInv` -/
def Proper (s : RState) : Prop := ∀ h, some h ∈ s.table → ∃ c, s.heap[h.addr]? = some c ∧ c.kind = h.variant

/-- `HInv` is `HInvA` on the states without a raw alias: where every handle to a counted cell is counted, `cnt` and
`cntC` agree -/
theorem hinv_iff (s : RState) : HInv s ↔ HInvA s ∧ Proper s := by
  have heq : Proper s → ∀ a c, s.heap[a]? = some c → c.kind.counted = true → cntC a s.table = cnt a s.table :=
    fun hP a c hc hk => cntC_eq_cnt a s.table fun g hg ha => by
      obtain ⟨c0, hc0, hk0⟩ := hP g hg
      rw [ha, hc] at hc0; cases hc0; exact hk0 ▸ hk
  constructor
  · intro hI
    refine ⟨⟨fun h hm => let ⟨c, hc, hk⟩ := hI.1 h hm; ⟨c, hc, Or.inl hk.symm⟩, fun a c hc => ?_⟩, hI.1⟩
    obtain ⟨p1, p2, p3⟩ := hI.2 a c hc
    exact ⟨fun hk hf => heq hI.1 a c hc hk ▸ p1 hk hf, fun hf => Nat.le_zero.1 (p2 hf ▸ cntC_le_cnt a s.table), p3⟩
  · rintro ⟨hA, hP⟩
    refine ⟨hP, fun a c hc => ?_⟩
    obtain ⟨p1, p2, p3⟩ := hA.2 a c hc
    refine ⟨fun hk hf => heq hP a c hc hk ▸ p1 hk hf, fun hf => ?_, p3⟩
    cases hk : c.kind.counted with
    | false => rw [p3 hk] at hf; cases hf
    | true => exact heq hP a c hc hk ▸ p2 hf

theorem proper_of_frame (s s' : RState) (hP : Proper s)
    (hk : ∀ (a : Nat) (c : HCell), s.heap[a]? = some c → ∃ c', s'.heap[a]? = some c' ∧ c'.kind = c.kind)
    (ht : Inherits s'.table s.table) : Proper s' := by
  intro g hg
  obtain ⟨g0, hg0, ha, hv⟩ := ht.mem hg
  obtain ⟨c, hc, hkc⟩ := hP g0 hg0
  obtain ⟨c', hc', hkc'⟩ := hk _ c hc
  exact ⟨c', ha ▸ hc', by rw [hkc', hkc, hv]⟩

theorem proper_exec (feats : List String) (s s' : RState) (op : HOp) (hP : Proper s)
    (he : hexec feats s op = .ok s') : Proper s' := by
  have hk : ∀ (a : Nat) (c : HCell), s.heap[a]? = some c → ∃ c', s'.heap[a]? = some c' ∧ c'.kind = c.kind :=
    fun a c hc => let ⟨c', h1, h2, _⟩ := exec_frame feats s s' op he hc; ⟨c', h1, h2⟩
  cases op with
  | alloc k v =>
    obtain rfl : s.alloc k v = s' := Except.ok.inj he
    intro g hg
    rcases List.mem_append.1 hg with hg | hg
    · obtain ⟨c, hc, hkc⟩ := hP g hg
      obtain ⟨c', hc', hkc'⟩ := hk _ c hc
      exact ⟨c', hc', hkc'.trans hkc⟩
    · obtain rfl : g = (s.heap.alloc k v).2 := by simpa using hg
      exact ⟨_, List.getElem?_concat_length, rfl⟩
  | _ => exact proper_of_frame s s' hP hk (exec_upd feats s s' _ (fun _ _ h => HOp.noConfusion h) he).2

theorem hinv_exec (feats : List String) (s s' : RState) (op : HOp) (hI : HInv s) (he : hexec feats s op = .ok s') :
    HInv s' :=
  let ⟨hA, hP⟩ := (hinv_iff s).1 hI
  (hinv_iff s').2 ⟨hinvA_hexec feats s s' op hA he, proper_exec feats s s' op hP he⟩

theorem hinv_run (feats : List String) (s s' : RState) (ops : List HOp) (hI : HInv s)
    (hr : hrun feats s ops = .ok s') : HInv s' := by
  induction ops generalizing s with
  | nil => obtain rfl : s = s' := Except.ok.inj hr; exact hI
  | cons op rest ih =>
    cases he : hexec feats s op with
    | error e => rw [hrun_cons_err rest he] at hr; cases hr
    | ok s1 => rw [hrun_cons_ok rest he] at hr; exact ih s1 (hinv_exec feats s s1 op hI he) hr

theorem hinv_empty : HInv RState.empty :=
  ⟨fun h hm => by simp [RState.empty] at hm, fun a c hc => by simp [RState.empty] at hc⟩

/-- a heap + handle table produced by SOME program (any statements, any order, any caller features) from nothing -/
def Reachable (s : RState) : Prop := ∃ feats ops, hrun feats RState.empty ops = .ok s

theorem hinv_reachable (s : RState) (hr : Reachable s) : HInv s := by
  obtain ⟨feats, ops, h⟩ := hr
  exact hinv_run feats _ s ops hinv_empty h

/-- under `HInv` EVERY handle can be dereferenced -/
theorem live_cell (s : RState) (hI : HInv s) (h : RHandle) (hm : some h ∈ s.table) :
    ∃ c, s.heap.cell h.addr = .ok c ∧ c.kind = h.variant :=
  let ⟨c, hc, hk⟩ := hI.1 h hm
  ⟨c, cell_ok.2 ⟨hc, (hI.cell hc).live (cnt_pos s.table h hm)⟩, hk⟩

end Rrtk.Thm.C17
