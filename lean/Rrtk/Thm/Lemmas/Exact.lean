/-
Tier R: exact arithmetic.  `F` is a linear ordered field, `+ - * /` are the field operations, and of the four `FloatLike`
operations two are pinned down: `ofInt` is the canonical cast and `absF` the absolute value.  `toInt` and `powf` are left
open; a theorem that needs a fact about them takes it as a hypothesis (C07: the stored times are exact; C12: `powf` maps
`[0,1] × [0,∞)` into `[0,1]`).  Theorems in this tier say the crate's *formulas* are right; they say nothing about binary32
rounding.  `Rat` is an instance, so the hypotheses are satisfiable.
The import list of this file is the Mathlib prelude of the tier-R files (`ring`, `linarith`, `positivity`, `norm_num` and the
ordered-field lemmas): they import this module.  `field_simp` is not in it: the files cancel by hand (`mul_div_cancel_right₀`,
`div_mul_cancel₀`, `mul_div_cancel₀` with the hypothesis `≠ 0` at hand) and leave the rest to `ring`.  The `Quantity`
operators are inverted with `Lemmas/Dim.lean` (`Quantity.sub_ok`, `add_ok`, …), which a tier-R file imports beside this one.
In a `simp only` use the `c*_eq` (they give numerals) or `ExactScalar.ofInt_eq` (it gives a cast), not both: the constants are
reducible, `ofInt_eq` fires first and the `c*_eq` are then reported unused.
-/
import Mathlib.Tactic.Ring
import Mathlib.Tactic.Linarith
import Mathlib.Tactic.Positivity
import Rrtk.Streams.Stateful
namespace Rrtk

/-- the scalar operations are the exact field operations -/
class ExactScalar (F : Type) [Field F] [LinearOrder F] [IsStrictOrderedRing F] [FloatLike F] : Prop where
  ofInt_eq : ∀ n : Int, (FloatLike.ofInt n : F) = (n : F)
  absF_eq : ∀ x : F, FloatLike.absF x = |x|

/-- nanoseconds as seconds: what `f32::from(Quantity::from(Time(t)))` is in exact arithmetic.  Statements about time
steps are made with `sec`, so that their algebra is about variables and not about quotients by `10⁹`. -/
def sec {F : Type} [Field F] (t : Int) : F := (t : F) / 1000000000
theorem sec_zero {F : Type} [Field F] : (sec 0 : F) = 0 := by rw [sec, Int.cast_zero, zero_div]
theorem sec_add {F : Type} [Field F] (a b : Int) : (sec (a + b) : F) = sec a + sec b := by
  rw [sec, Int.cast_add, add_div]; rfl
theorem sec_sub {F : Type} [Field F] (a b : Int) : (sec (a - b) : F) = sec a - sec b := by
  rw [sec, Int.cast_sub, sub_div]; rfl
/-- `sec_sub` as it is met in statements that spell a time step as the quotient -/
theorem cast_sub_div_e9 {F : Type} [Field F] (s t : Int) : ((s - t : Int) : F) / 1000000000 = sec s - (sec t : F) :=
  sec_sub s t

section
variable {F : Type} [Field F] [LinearOrder F] [IsStrictOrderedRing F] [FloatLike F] [ExactScalar F]

@[simp] theorem c0_eq : (c0 : F) = 0 := by simp [c0, ExactScalar.ofInt_eq]
@[simp] theorem c1_eq : (c1 : F) = 1 := by simp [c1, ExactScalar.ofInt_eq]
@[simp] theorem c2_eq : (c2 : F) = 2 := by simp [c2, ExactScalar.ofInt_eq]
@[simp] theorem c3_eq : (c3 : F) = 3 := by simp [c3, ExactScalar.ofInt_eq]
@[simp] theorem cm1_eq : (cm1 : F) = -1 := by simp [cm1, ExactScalar.ofInt_eq]
@[simp] theorem c1e9_eq : (c1e9 : F) = 1000000000 := by simp [c1e9, ExactScalar.ofInt_eq]
@[simp] theorem chalf_eq : (chalf : F) = 1 / 2 := by simp [chalf, ExactScalar.ofInt_eq]
omit [FloatLike F] [ExactScalar F] in
theorem c1e9_pos : (0 : F) < 1000000000 := by norm_num

theorem secs_eq (t : Int) : (secs t : F) = sec t := by
  simp only [secs, ExactScalar.ofInt_eq, Int.cast_ofNat, sec]
theorem ofTime_value (chk : Bool) (s t : Int) : (Quantity.ofTime chk (s - t) : Quantity F).value = sec s - sec t :=
  (secs_eq (s - t)).trans (sec_sub s t)
end

section
variable {F : Type} [Field F] [LinearOrder F] [IsStrictOrderedRing F]
theorem sec_inj {s t : Int} (h : (sec s : F) = sec t) : s = t := by
  have h9 : (1000000000 : F) ≠ 0 := by norm_num
  exact_mod_cast (div_left_inj' h9).1 h
theorem sec_mono {a b : Int} (h : a ≤ b) : (sec a : F) ≤ sec b :=
  div_le_div_of_nonneg_right (Int.cast_le.2 h) c1e9_pos.le
theorem sec_pos {n : Int} (h : 0 < n) : (0 : F) < sec n := div_pos (Int.cast_pos.2 h) c1e9_pos
end

/-- non-vacuity: the rationals are an exact scalar -/
instance : FloatLike ℚ := ⟨fun n => (n : ℚ), fun q => q.num / q.den, fun _ _ => 1, fun x => |x|⟩
instance : ExactScalar ℚ := ⟨fun _ => rfl, fun _ => rfl⟩

end Rrtk
