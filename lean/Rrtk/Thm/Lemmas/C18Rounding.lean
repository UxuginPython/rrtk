/-
C18, accuracy clauses: "Converting a Time to a Quantity gives seconds equal to nanoseconds/1e9 correctly rounded to
within two f32 ulps and monotone in the time; converting a Quantity in seconds back yields value*1e9 to within one f32
rounding and 1 ns of truncation, so the round trip is within |t|*2^-22 + 1 ns."

Lean's `Float32` is opaque to the kernel, so nothing is proved about it directly.  Instead the generic model functions of
`Rrtk/Dim.lean` (`Quantity.ofTime`, `Time.tryOfQuantity` — the very definitions that are compared bit-for-bit with the
crate at `F = Float32`) are instantiated at the scalar type `RQ rn`: rationals whose four arithmetic operations and
`n as f32` are the exact rational result followed by a rounding function `rn : ℚ → ℚ`.  `x as i64` is truncation toward
zero followed by saturation to the i64 range (`satI64 ∘ trunc`), Rust's semantics of the cast for non-NaN operands (no NaN
can arise: all operands here are finite).  Division by zero never occurs (`c1e9 ≠ 0`).

Every clause is proved once, for a rounding function that meets the contract on a set `N` of exact results
(`RoundsOn rn u N`: relative error `u ≤ 2^-24` on `N`, monotone, `1e9` fixed), with the membership of the exact results
concerned as side conditions.  `RoundingSpec rn u` is the case `N = ` everything; binary32 rounding does NOT meet it
(`rne32_not_RoundingSpec`), so what is to be used of a concrete rounding is `RoundsOn`.

RANGE CAVEAT (for an abstract `rn` an argument about IEEE-754, not a Lean theorem).  Real binary32
round-to-nearest meets `RoundingSpec.rel` with `u = 2^-24` only where the exact result `x` is 0 or lies in the normal range
`2^-126 ≤ |x| < 2^128 - 2^103` (no underflow to subnormals, no overflow to infinity); `mono`, `zero`, `e9` hold without
any range condition.  For every `t : i64` the exact results are in range:
  * `t as f32`           : `t = 0` or `1 ≤ |t| ≤ 2^63`;
  * `(t as f32) / 1e9`   : `0` or `10^-9 ≤ |·| ≤ 2^63/10^9 < 2^34`, and `10^-9 > 2^-30 ≫ 2^-126`;
  * `v * 1e9` (round trip, `v` the value above): `0` or `|·| ≤ 2^63 (1+u)^2 < 2^64`, `≥ (1-u)^2 > 2^-1`.
For an ARBITRARY quantity (`quantity_to_time_bound`) the caveat is a genuine side condition on `value * 1e9`, of which the
theorem's hypothesis `|rn (x·10^9)| < 2^63` covers only the upper end.
The caveat is discharged in Lean for the kernel-transparent rounding `Rrtk.Soft.rne32` (`Rrtk/SoftFloat.lean`): it meets the
contract on `N = ` "no underflow", the side conditions hold for every integer time, no intermediate result reaches `2^128`,
and the subnormal case of `quantity_to_time_bound` is proved too (`Rrtk/Thm/Lemmas/C18Soft.lean`, the `*_binary32` theorems).
-/
import Mathlib.Data.Rat.Floor
import Rrtk.Thm.Lemmas.Dim
import Rrtk.Thm.Lemmas.RelErr
namespace Rrtk.Thm.C18
open Rrtk Rrtk.Thm.RoundingBounds

/-- The contract of IEEE-754 round-to-nearest (binary32, normal range) used by the accuracy theorems. -/
structure RoundingSpec (rn : ℚ → ℚ) (u : ℚ) : Prop where
  u_pos : 0 < u
  /-- unit roundoff of binary32 -/
  u_small : u ≤ 1 / 2 ^ 24
  /-- relative error (normal range; see the range caveat in the header) -/
  rel : ∀ x, |rn x - x| ≤ u * |x|
  mono : ∀ x y, x ≤ y → rn x ≤ rn y
  zero : rn 0 = 0
  /-- `1e9` is exactly representable -/
  e9 : rn 1000000000 = 1000000000

/-- Rationals with rounded arithmetic: the scalar type at which the generic model is instantiated. -/
structure RQ (rn : ℚ → ℚ) where
  val : ℚ

/-- truncation toward zero (`as i64` before saturation) -/
def trunc (x : ℚ) : Int := if 0 ≤ x then ⌊x⌋ else -⌊-x⌋
/-- saturation to the `i64` range (`as i64` on out-of-range operands) -/
def satI64 (n : Int) : Int := max (-9223372036854775808) (min n 9223372036854775807)

section instances
variable {rn : ℚ → ℚ}
instance : Add (RQ rn) := ⟨fun a b => ⟨rn (a.val + b.val)⟩⟩
instance : Sub (RQ rn) := ⟨fun a b => ⟨rn (a.val - b.val)⟩⟩
instance : Mul (RQ rn) := ⟨fun a b => ⟨rn (a.val * b.val)⟩⟩
instance : Div (RQ rn) := ⟨fun a b => ⟨rn (a.val / b.val)⟩⟩
instance : Neg (RQ rn) := ⟨fun a => ⟨-a.val⟩⟩
instance : LT (RQ rn) := ⟨fun a b => a.val < b.val⟩
instance : LE (RQ rn) := ⟨fun a b => a.val ≤ b.val⟩
instance : BEq (RQ rn) := ⟨fun a b => decide (a.val = b.val)⟩
instance : DecidableLT (RQ rn) := fun a b => inferInstanceAs (Decidable (a.val < b.val))
instance : DecidableLE (RQ rn) := fun a b => inferInstanceAs (Decidable (a.val ≤ b.val))
/-- `n as f32` rounds; `x as i64` truncates toward zero and saturates; `abs` is exact; `powf` is not used here. -/
instance : FloatLike (RQ rn) :=
  ⟨fun n => ⟨rn (n : ℚ)⟩, fun x => satI64 (trunc x.val), fun x _ => x, fun x => ⟨|x.val|⟩⟩

theorem RQ.mul_val (a b : RQ rn) : (a * b).val = rn (a.val * b.val) := rfl
theorem RQ.div_val (a b : RQ rn) : (a / b).val = rn (a.val / b.val) := rfl
theorem RQ.ofInt_val (n : Int) : (FloatLike.ofInt n : RQ rn).val = rn (n : ℚ) := rfl
end instances

namespace Rounding

theorem trunc_err (x : ℚ) : |((trunc x : Int) : ℚ) - x| < 1 := by
  unfold trunc
  split
  · have h1 := Int.floor_le x
    have h2 := Int.lt_floor_add_one x
    exact abs_lt.2 ⟨by linarith only [h2], by linarith only [h1]⟩
  · have h1 := Int.floor_le (-x)
    have h2 := Int.lt_floor_add_one (-x)
    push_cast
    exact abs_lt.2 ⟨by linarith only [h1], by linarith only [h2]⟩

theorem abs_trunc_sub_lt (r x : ℚ) : |((trunc r : Int) : ℚ) - x| < |r - x| + 1 := by
  linarith only [trunc_err r, abs_sub_le ((trunc r : Int) : ℚ) r x]

theorem abs_trunc_le (y : ℚ) : |((trunc y : Int) : ℚ)| ≤ |y| := by
  unfold trunc
  split
  · rename_i h
    rw [abs_of_nonneg h, abs_of_nonneg (by exact_mod_cast Int.floor_nonneg.2 h)]; exact Int.floor_le y
  · rename_i h
    have h' : 0 ≤ -y := neg_nonneg.2 (not_le.1 h).le
    push_cast
    rw [abs_neg, abs_of_neg (not_le.1 h), abs_of_nonneg (by exact_mod_cast Int.floor_nonneg.2 h')]
    exact Int.floor_le (-y)

theorem trunc_inI64 (y : ℚ) (hy : |y| < 2 ^ 63) : inI64 (trunc y) := by
  have h : |trunc y| < 2 ^ 63 := by exact_mod_cast lt_of_le_of_lt (abs_trunc_le y) hy
  rw [abs_lt] at h
  unfold inI64; omega

theorem trunc_eq_zero (x : ℚ) (h : |x| < 1) : trunc x = 0 :=
  Int.abs_lt_one_iff.1 (by exact_mod_cast lt_of_le_of_lt (abs_trunc_le x) h)

theorem satI64_of_inI64 (n : Int) (h : inI64 n) : satI64 n = n := by
  unfold satI64; unfold inI64 at h; omega

/-- saturating toward a range that contains `t` never moves a value away from `t` -/
theorem satI64_contract (n t : Int) (ht : inI64 t) : |((satI64 n : Int) : ℚ) - t| ≤ |(n : ℚ) - t| := by
  have key : |satI64 n - t| ≤ |n - t| := by
    unfold satI64; unfold inI64 at ht
    rcases le_total t n with h | h
    · rw [abs_of_nonneg (by omega), abs_of_nonneg (by omega)]; omega
    · rw [abs_of_nonpos (by omega), abs_of_nonpos (by omega)]; omega
  exact_mod_cast key

/-- `as i64` of a number `r` that approximates the `i64` value `t`: truncation costs less than 1, saturation nothing -/
theorem abs_toInt_sub_lt (r : ℚ) (t : Int) (ht : inI64 t) : |((satI64 (trunc r) : Int) : ℚ) - t| < |r - t| + 1 :=
  lt_of_le_of_lt (satI64_contract (trunc r) t ht) (abs_trunc_sub_lt r t)

theorem trunc_mono (x y : ℚ) (h : x ≤ y) : trunc x ≤ trunc y := by
  unfold trunc
  split <;> split
  · exact Int.floor_le_floor h
  · rename_i h1 h2; exact absurd (le_trans h1 h) h2
  · rename_i h1 h2
    have a1 : (0:ℤ) ≤ ⌊-x⌋ := Int.floor_nonneg.2 (neg_nonneg.2 (not_le.1 h1).le)
    have a2 : (0:ℤ) ≤ ⌊y⌋ := Int.floor_nonneg.2 h2
    omega
  · have := Int.floor_le_floor (neg_le_neg h)
    omega

theorem satI64_mono (m n : Int) (h : m ≤ n) : satI64 m ≤ satI64 n := by unfold satI64; omega

theorem trunc_zero : trunc 0 = 0 := by simp [trunc]
theorem satI64_zero : satI64 0 = 0 := by decide

theorem abs_div_e9 (x : ℚ) : |x / 1000000000| = |x| / 1000000000 := by
  rw [abs_div, abs_of_pos (by norm_num : (0 : ℚ) < 1000000000)]

theorem abs_mul_e9 (x : ℚ) : |x * 1000000000| = |x| * 1000000000 := by
  rw [abs_mul, abs_of_pos (by norm_num : (0 : ℚ) < 1000000000)]

/-- up to three roundings; for longer chains there is `one_add_pow_le`, whose factor `2` is too coarse to give this constant at `k = 3` -/
theorem pow_le_const {u : ℚ} (h0 : 0 ≤ u) (hs : u ≤ 1 / 2 ^ 24) (k : ℕ) (hk : k ≤ 3) : (1 + u) ^ k - 1 ≤ 1 / 2 ^ 22 := by
  -- monotone in `u` and `k`: put `u = 2^-24`, `k = 3` and compute
  have h1 : (1 + u) ^ k ≤ (1 + 1 / 2 ^ 24) ^ k := pow_le_pow_left₀ (by linarith only [h0]) (by linarith only [hs]) k
  have h2 : ((1:ℚ) + 1 / 2 ^ 24) ^ k ≤ (1 + 1 / 2 ^ 24) ^ 3 := pow_le_pow_right₀ (by norm_num) hk
  have h3 : ((1:ℚ) + 1 / 2 ^ 24) ^ 3 ≤ 1 + 1 / 2 ^ 22 := by norm_num
  linarith only [h1, h2, h3]

end Rounding
open Rounding

/-- The contract with its range made explicit: `rn` has relative error `u ≤ 2^-24` on the set `N` of exact results, is
monotone and fixes `1e9`. -/
structure RoundsOn (rn : ℚ → ℚ) (u : ℚ) (N : ℚ → Prop) : Prop where
  u_nonneg : 0 ≤ u
  u_small : u ≤ 1 / 2 ^ 24
  rel : ∀ x, N x → |rn x - x| ≤ u * |x|
  mono : ∀ x y, x ≤ y → rn x ≤ rn y
  e9 : rn 1000000000 = 1000000000

variable {rn : ℚ → ℚ} {u : ℚ} {N : ℚ → Prop}

theorem RoundingSpec.roundsOn (h : RoundingSpec rn u) : RoundsOn rn u fun _ => True :=
  ⟨h.u_pos.le, h.u_small, fun x _ => h.rel x, h.mono, h.e9⟩

theorem RoundsOn.c1e9_val (h : RoundsOn rn u N) : (c1e9 : RQ rn).val = 1000000000 := by
  rw [RQ.ofInt_val, show (((1000000000 : Int) : ℚ)) = 1000000000 by norm_num, h.e9]

/-- `Quantity::from(Time(t))`, for either setting of unit checking -/
theorem ofTime_val (h : RoundsOn rn u N) (chk : Bool) (t : Int) :
    ((Quantity.ofTime chk t : Quantity (RQ rn)).value).val = rn (rn (t : ℚ) / 1000000000) := by
  rw [Quantity.ofTime, RQ.div_val, RQ.ofInt_val, h.c1e9_val]

/-- "within two f32 ulps": two roundings against the exact number of seconds -/
theorem ofTime_two_ulps (h : RoundsOn rn u N) (chk : Bool) (t : Int) (h1 : N t) (h2 : N (rn t / 1000000000)) :
    |((Quantity.ofTime chk t : Quantity (RQ rn)).value).val - (t : ℚ) / 1000000000|
      ≤ ((1 + u) ^ 2 - 1) * |(t : ℚ) / 1000000000| := by
  rw [ofTime_val h]; exact two_step _ h.u_nonneg (h.rel _ h1) (h.rel _ h2)

theorem ofTime_two_ulps_const (h : RoundsOn rn u N) (chk : Bool) (t : Int) (h1 : N t) (h2 : N (rn t / 1000000000)) :
    |((Quantity.ofTime chk t : Quantity (RQ rn)).value).val - (t : ℚ) / 1000000000|
      ≤ |(t : ℚ) / 1000000000| / 2 ^ 22 :=
  calc _ ≤ ((1 + u) ^ 2 - 1) * |(t : ℚ) / 1000000000| := ofTime_two_ulps h chk t h1 h2
    _ ≤ 1 / 2 ^ 22 * |(t : ℚ) / 1000000000| :=
      mul_le_mul_of_nonneg_right (pow_le_const h.u_nonneg h.u_small 2 (by norm_num)) (abs_nonneg _)
    _ = _ := by ring

theorem ofTime_mono (h : RoundsOn rn u N) (chk : Bool) (t t' : Int) (hle : t ≤ t') :
    ((Quantity.ofTime chk t : Quantity (RQ rn)).value).val
      ≤ ((Quantity.ofTime chk t' : Quantity (RQ rn)).value).val := by
  rw [ofTime_val h, ofTime_val h]
  exact h.mono _ _ (div_le_div_of_nonneg_right (h.mono _ _ (by exact_mod_cast hle)) (by norm_num))

theorem time_to_quantity_unit (t : Int) : (Quantity.ofTime true t : Quantity (RQ rn)).unit = ⟨0, 1⟩ := rfl

/-- `Time::try_from` of a quantity (in seconds, if units are checked) is `(value * 1e9) as i64` -/
theorem toTime_val (h : RoundsOn rn u N) (chk : Bool) (q : Quantity (RQ rn)) (hq : chk = true → q.unit = ⟨0, 1⟩) :
    Time.tryOfQuantity chk q = some (satI64 (trunc (rn (q.value.val * 1000000000)))) := by
  have hv : (q.value * (c1e9 : RQ rn)).val = rn (q.value.val * 1000000000) := by rw [RQ.mul_val, h.c1e9_val]
  rw [← hv]
  cases chk
  · exact Time.tryOfQuantity_false q
  · rw [Time.tryOfQuantity_true, if_pos (hq rfl)]; rfl

/-- one rounding plus less than 1 ns of truncation, when the rounded product is in the i64 range (otherwise `as i64`
saturates and no such bound can hold) -/
theorem toTime_bound_on (h : RoundsOn rn u N) (q : Quantity (RQ rn)) (hq : q.unit = ⟨0, 1⟩)
    (hr : |rn (q.value.val * 1000000000)| < 2 ^ 63) (hN : N (q.value.val * 1000000000)) :
    ∃ n : Int, Time.tryOfQuantity true q = some n ∧
      |(n : ℚ) - q.value.val * 1000000000| < u * |q.value.val * 1000000000| + 1 := by
  refine ⟨_, toTime_val h true q (fun _ => hq), ?_⟩
  rw [satI64_of_inI64 _ (trunc_inI64 _ hr)]
  exact (abs_trunc_sub_lt _ _).trans_le (add_le_add_left (h.rel _ hN) 1)

theorem roundtrip_val (h : RoundsOn rn u N) (t : Int) :
    Time.tryOfQuantity true (Quantity.ofTime true t : Quantity (RQ rn))
      = some (satI64 (trunc (rn (rn (rn (t : ℚ) / 1000000000) * 1000000000)))) := by
  rw [toTime_val h true _ (fun _ => time_to_quantity_unit t), ofTime_val h]

theorem three_roundings_on (h : RoundsOn rn u N) (t : Int) (h1 : N t) (h2 : N (rn t / 1000000000))
    (h3 : N (rn (rn t / 1000000000) * 1000000000)) :
    |rn (rn (rn (t : ℚ) / 1000000000) * 1000000000) - t| ≤ |(t : ℚ)| * ((1 + u) ^ 3 - 1) := by
  rw [mul_comm |(t : ℚ)|]
  exact three_step (by norm_num) h.u_nonneg (h.rel _ h1) (h.rel _ h2) (h.rel _ h3)

/-- `inI64 t` is the type invariant of `Time(i64)`; saturation of the final cast can only help (`satI64_contract`) -/
theorem roundtrip_on (h : RoundsOn rn u N) (t : Int) (ht : inI64 t) (h1 : N t) (h2 : N (rn t / 1000000000))
    (h3 : N (rn (rn t / 1000000000) * 1000000000)) :
    ∃ t' : Int, Time.tryOfQuantity true (Quantity.ofTime true t : Quantity (RQ rn)) = some t' ∧
      |(t' : ℚ) - t| ≤ |(t : ℚ)| * ((1 + u) ^ 3 - 1) + 1 :=
  ⟨_, roundtrip_val h t,
    (abs_toInt_sub_lt _ t ht).le.trans (add_le_add_left (three_roundings_on h t h1 h2 h3) 1)⟩

theorem roundtrip_on_const (h : RoundsOn rn u N) (t : Int) (ht : inI64 t) (h1 : N t) (h2 : N (rn t / 1000000000))
    (h3 : N (rn (rn t / 1000000000) * 1000000000)) :
    ∃ t' : Int, Time.tryOfQuantity true (Quantity.ofTime true t : Quantity (RQ rn)) = some t' ∧
      |(t' : ℚ) - t| ≤ |(t : ℚ)| / 2 ^ 22 + 1 := by
  obtain ⟨t', e, hb⟩ := roundtrip_on h t ht h1 h2 h3
  refine ⟨t', e, hb.trans (add_le_add_left ?_ 1)⟩
  rw [div_eq_mul_one_div]
  exact mul_le_mul_of_nonneg_left (pow_le_const h.u_nonneg h.u_small 3 le_rfl) (abs_nonneg _)

/-- the value is within two roundings of the exact number of seconds `t / 10^9` -/
theorem time_to_quantity_two_ulps (h : RoundingSpec rn u) (chk : Bool) (t : Int) :
    |((Quantity.ofTime chk t : Quantity (RQ rn)).value).val - (t : ℚ) / 1000000000|
      ≤ (2 * u + u ^ 2) * |(t : ℚ) / 1000000000| := by
  rw [show 2 * u + u ^ 2 = (1 + u) ^ 2 - 1 by ring]
  exact ofTime_two_ulps h.roundsOn chk t trivial trivial

/-- with the constant of binary32: relative error at most `2^-22` (`2u + u² ≤ 2^-23 + 2^-48`) -/
theorem time_to_quantity_two_ulps_const (h : RoundingSpec rn u) (chk : Bool) (t : Int) :
    |((Quantity.ofTime chk t : Quantity (RQ rn)).value).val - (t : ℚ) / 1000000000|
      ≤ |(t : ℚ) / 1000000000| / 2 ^ 22 :=
  ofTime_two_ulps_const h.roundsOn chk t trivial trivial

theorem time_to_quantity_mono (h : RoundingSpec rn u) (chk : Bool) (t t' : Int) (hle : t ≤ t') :
    ((Quantity.ofTime chk t : Quantity (RQ rn)).value).val
      ≤ ((Quantity.ofTime chk t' : Quantity (RQ rn)).value).val :=
  ofTime_mono h.roundsOn chk t t' hle

/-- in the model's own order on the scalar type -/
theorem time_to_quantity_mono_le (h : RoundingSpec rn u) (chk : Bool) (t t' : Int) (hle : t ≤ t') :
    (Quantity.ofTime chk t : Quantity (RQ rn)).value ≤ (Quantity.ofTime chk t' : Quantity (RQ rn)).value :=
  time_to_quantity_mono h chk t t' hle

/-- the back-conversion in the literal form of the property's statement -/
theorem quantity_to_time_value_mk (h : RoundingSpec rn u) (x : ℚ) :
    Time.tryOfQuantity true (⟨⟨x⟩, ⟨0, 1⟩⟩ : Quantity (RQ rn)) = some (satI64 (trunc (rn (x * 1000000000)))) :=
  toTime_val h.roundsOn true _ (fun _ => rfl)

theorem quantity_to_time_none (q : Quantity (RQ rn)) (hq : q.unit ≠ ⟨0, 1⟩) :
    Time.tryOfQuantity true q = none := by
  rw [Time.tryOfQuantity_true, if_neg hq]

/-- with unit checking compiled out every quantity converts, by the same expression -/
theorem quantity_to_time_value_unchecked (h : RoundingSpec rn u) (q : Quantity (RQ rn)) :
    Time.tryOfQuantity false q = some (satI64 (trunc (rn (q.value.val * 1000000000)))) :=
  toTime_val h.roundsOn false q (fun hc => absurd hc (by decide))

theorem quantity_to_time_bound (h : RoundingSpec rn u) (q : Quantity (RQ rn)) (hq : q.unit = ⟨0, 1⟩)
    (hr : |rn (q.value.val * 1000000000)| < 2 ^ 63) :
    ∃ n : Int, Time.tryOfQuantity true q = some n ∧
      |(n : ℚ) - q.value.val * 1000000000| ≤ u * |q.value.val * 1000000000| + 1 := by
  obtain ⟨n, h1, h3⟩ := toTime_bound_on h.roundsOn q hq hr trivial
  exact ⟨n, h1, h3.le⟩

/-- `Time → Quantity → Time` returns a time within `|t|·((1+u)³ − 1) + 1 ns` of the original, for every i64 `t` -/
theorem roundtrip_bound (h : RoundingSpec rn u) (t : Int) (ht : inI64 t) :
    ∃ t' : Int, Time.tryOfQuantity true (Quantity.ofTime true t : Quantity (RQ rn)) = some t' ∧
      |(t' : ℚ) - t| ≤ |(t : ℚ)| * ((1 + u) ^ 3 - 1) + 1 :=
  roundtrip_on h.roundsOn t ht trivial trivial trivial

/-- with the constant of binary32: within `|t| / 2^22 + 1 ns` (`3u + 3u² + u³ < 2^-22` for `u ≤ 2^-24`) -/
theorem roundtrip_bound_const (h : RoundingSpec rn u) (t : Int) (ht : inI64 t) :
    ∃ t' : Int, Time.tryOfQuantity true (Quantity.ofTime true t : Quantity (RQ rn)) = some t' ∧
      |(t' : ℚ) - t| ≤ |(t : ℚ)| / 2 ^ 22 + 1 :=
  roundtrip_on_const h.roundsOn t ht trivial trivial trivial

/-- without the i64 invariant but with the rounded product in range (no saturation): same bound for any integer -/
theorem roundtrip_bound_nosat (h : RoundingSpec rn u) (t : Int)
    (hr : |rn (rn (rn (t : ℚ) / 1000000000) * 1000000000)| < 2 ^ 63) :
    ∃ t' : Int, Time.tryOfQuantity true (Quantity.ofTime true t : Quantity (RQ rn)) = some t' ∧
      |(t' : ℚ) - t| < |(t : ℚ)| * ((1 + u) ^ 3 - 1) + 1 := by
  refine ⟨_, roundtrip_val h.roundsOn t, ?_⟩
  rw [satI64_of_inI64 _ (trunc_inI64 _ hr)]
  exact (abs_trunc_sub_lt _ _).trans_le (add_le_add_left (three_roundings_on h.roundsOn t trivial trivial trivial) 1)

/-- exact arithmetic meets the contract (so every theorem above has a model) -/
theorem roundingSpec_id : RoundingSpec (fun x => x) (1 / 2 ^ 24) where
  u_pos := by norm_num
  u_small := le_refl _
  rel := fun x => by simp
  mono := fun _ _ h => h
  zero := rfl
  e9 := rfl

example : RoundingSpec (fun x => x) (1 / 2 ^ 24) := roundingSpec_id

/-- A rounding function that is NOT the identity also meets the contract: round the interval `(1, 1 + 2^-24]` down
to `1` (what binary32 round-to-nearest-even does there: the neighbours of that interval are `1` and `1 + 2^-23`, and
the tie `1 + 2^-24` goes to the even significand `1`). -/
def rnToy (x : ℚ) : ℚ := if 1 < x ∧ x ≤ 1 + 1 / 2 ^ 24 then 1 else x

theorem roundingSpec_toy : RoundingSpec rnToy (1 / 2 ^ 24) where
  u_pos := by norm_num
  u_small := le_refl _
  rel := fun x => by
    unfold rnToy
    split
    · rename_i hx
      rw [abs_sub_comm, abs_of_pos (sub_pos.2 hx.1), abs_of_pos (lt_trans one_pos hx.1)]
      calc x - 1 ≤ 1 / 2 ^ 24 * 1 := by linarith only [hx.2]
        _ ≤ 1 / 2 ^ 24 * x := mul_le_mul_of_nonneg_left hx.1.le (by norm_num)
    · simp
  mono := fun x y hxy => by
    unfold rnToy
    split <;> split
    · exact le_refl _
    · rename_i hx _
      exact (lt_of_lt_of_le hx.1 hxy).le
    · rename_i hx hy
      exact le_of_not_gt fun h => hx ⟨h, le_trans hxy hy.2⟩
    · exact hxy
  zero := by decide +kernel
  e9 := by decide +kernel

example : rnToy (1 + 1 / 2 ^ 25) = 1 := by decide +kernel

/-- concrete numbers: 1.5 s.  `Time(1_500_000_000)` converts to the value `3/2`, and back to `1_500_000_000`. -/
example : ((Quantity.ofTime true 1500000000 : Quantity (RQ (fun x => x))).value).val = 3 / 2 := by decide +kernel
example : Time.tryOfQuantity true (Quantity.ofTime true 1500000000 : Quantity (RQ (fun x => x)))
    = some 1500000000 := by decide +kernel
/-- hypotheses of the theorems are satisfiable by non-trivial data -/
example : (1500000000 : Int) ≤ 1500000001 ∧ inI64 1500000000 := by decide
example : |(fun x : ℚ => x) ((3 / 2 : ℚ) * 1000000000)| < 2 ^ 63 := by decide +kernel
example : (⟨⟨3 / 2⟩, ⟨0, 1⟩⟩ : Quantity (RQ (fun x => x))).unit = ⟨0, 1⟩ := rfl
example : (⟨⟨3 / 2⟩, ⟨1, 0⟩⟩ : Quantity (RQ (fun x => x))).unit ≠ ⟨0, 1⟩ := by decide
/-- truncation is toward zero, and the cast saturates -/
example : trunc (7 / 2) = 3 ∧ trunc (-7 / 2) = -3 := by decide +kernel
example : satI64 (2 ^ 63) = 2 ^ 63 - 1 ∧ satI64 (-(2 ^ 64)) = -(2 ^ 63) := by decide
/-- the range hypothesis of `quantity_to_time_bound` is necessary: `1e10 s` saturates to `i64::MAX` ns, off by ≈ 7.8e17 -/
example : Time.tryOfQuantity true (⟨⟨10000000000⟩, ⟨0, 1⟩⟩ : Quantity (RQ (fun x => x)))
    = some 9223372036854775807 := by decide +kernel
/-- with the toy rounding the converted value of 1 ns-over-1 s is rounded: `(10^9 + 1) ns ↦ 1 s` exactly -/
example : ((Quantity.ofTime true 1000000001 : Quantity (RQ rnToy)).value).val = 1 := by decide +kernel

end Rrtk.Thm.C18
