/-
C18, accuracy clauses for the concrete binary32 rounding `Rrtk.Soft.rne32` — no rounding hypothesis left.

The generic model functions of `Rrtk/Dim.lean` are instantiated at `RQ Rrtk.Soft.rne32`: rationals whose operations are the
exact result followed by the kernel-transparent round-to-nearest-even of `Rrtk/SoftFloat.lean` (compared bit-for-bit with
hardware `f32`).  `rne32` meets the contract `RoundsOn` of `C18Rounding.lean` on the set `InR` of exact results that do not
underflow (`rne32_roundsOn`), so every clause is the general one with its side conditions proved from the integrality of
the time (`inR_int`, `inR_int_div`, `inR_int_div_mul` in `Lemmas/SoftFloat.lean`): every rounding in
`Time → Quantity → Time` acts on `0` or on a number of magnitude `≥ 2^-126`.  This discharges the RANGE CAVEAT of
`C18Rounding.lean` at its lower end; `roundtrip_finite_binary32` discharges the upper end (every intermediate value is
`< 2^128`, so the unbounded-exponent `rne32` is what binary32 hardware returns, for every `t : i64`).  For an arbitrary
quantity (`quantity_to_time_bound_binary32`) a product in the subnormal range rounds to less than 1, and the result is 0.

To build on the `_binary32` clauses open `Rrtk.Soft` (`rne32`), `Rrtk.Thm.SoftFloat` (its lemmas), `Rrtk.Thm.C18.Soft` (`InR`,
`inR_*`), `Rrtk.Thm.RoundingBounds` (how errors compose) and `Rrtk.Thm.C18.Rounding` (`trunc`, `satI64`); in the `open` line
below, the bare `Soft` stands for both namespaces of that name.  `RoundsOn` fixes no number but `1e9`; that `rne32` fixes every
integer up to `2^24` in magnitude is `rne32_intCast_small` (`Lemmas/SoftFloat.lean`).
-/
import Rrtk.Thm.Lemmas.C18Rounding
import Rrtk.Thm.Lemmas.SoftFloat
namespace Rrtk.Thm.C18
open Rrtk Rrtk.Soft Rrtk.Thm.SoftFloat Rrtk.Thm.RoundingBounds Rounding Soft

/-- every result rounded by `rne32`, any rational an operand: the clauses of `C18Rounding.lean` speak of a rounding function, so their
binary32 reading is at `RQ`; `SF` (`SoftScalar.lean`), whose values are the binary32 numbers themselves, serves the other properties -/
abbrev Q32 := RQ rne32

theorem rne32_roundsOn : RoundsOn rne32 (1 / 2 ^ 24) InR :=
  ⟨by norm_num, le_refl _, rel_N, rne32_mono, rne32_e9⟩

theorem time_to_quantity_value_binary32 (chk : Bool) (t : Int) :
    ((Quantity.ofTime chk t : Quantity Q32).value).val = rne32 (rne32 (t : ℚ) / 1000000000) :=
  ofTime_val rne32_roundsOn chk t

/-- For every `i64` time the binary32 value is within two roundings — relative error `2^-22` — of the exact number of
seconds `t / 10^9`.  No rounding hypothesis: both roundings act on `0` or on a number `≥ 10^-9 ≫ 2^-126`. -/
theorem time_to_quantity_two_ulps_binary32 (chk : Bool) (t : Int) (_ht : inI64 t) :
    |((Quantity.ofTime chk t : Quantity Q32).value).val - (t : ℚ) / 1000000000|
      ≤ |(t : ℚ) / 1000000000| / 2 ^ 22 :=
  ofTime_two_ulps_const rne32_roundsOn chk t (inR_int t) (inR_int_div t)

/-- half a unit in the last place per rounding; the total is below two units in the last place of the result -/
theorem time_to_quantity_two_ulps_binary32_sharp (chk : Bool) (t : Int) (_ht : inI64 t) :
    |((Quantity.ofTime chk t : Quantity Q32).value).val - (t : ℚ) / 1000000000|
      ≤ (2 * (1 / 2 ^ 24) + (1 / 2 ^ 24) ^ 2) * |(t : ℚ) / 1000000000| := by
  rw [show 2 * ((1:ℚ) / 2 ^ 24) + (1 / 2 ^ 24) ^ 2 = (1 + 1 / 2 ^ 24) ^ 2 - 1 by ring]
  exact ofTime_two_ulps rne32_roundsOn chk t (inR_int t) (inR_int_div t)

/-- … and below the `2^-22` of `time_to_quantity_two_ulps_binary32` -/
theorem sharp_lt_two_pow : 2 * ((1:ℚ) / 2 ^ 24) + (1 / 2 ^ 24) ^ 2 < 1 / 2 ^ 22 := by norm_num

theorem time_to_quantity_mono_le_binary32 (chk : Bool) (t t' : Int) (hle : t ≤ t') :
    (Quantity.ofTime chk t : Quantity Q32).value ≤ (Quantity.ofTime chk t' : Quantity Q32).value :=
  ofTime_mono rne32_roundsOn chk t t' hle

/-- Every quantity in seconds whose rounded product is in the i64 range: one rounding (`2^-24` relative) plus 1 ns of
truncation.  Products in the subnormal range (`|x·10^9| < 2^-126`) round to something of magnitude `< 1`, so the result is 0
and the bound holds too — the case left open by `quantity_to_time_bound`. -/
theorem quantity_to_time_bound_binary32 (q : Quantity Q32) (hq : q.unit = ⟨0, 1⟩)
    (hr : |rne32 (q.value.val * 1000000000)| < 2 ^ 63) :
    ∃ n : Int, Time.tryOfQuantity true q = some n ∧
      |(n : ℚ) - q.value.val * 1000000000| ≤ |q.value.val * 1000000000| / 2 ^ 24 + 1 := by
  by_cases hP : InR (q.value.val * 1000000000)
  · obtain ⟨n, h1, h3⟩ := toTime_bound_on rne32_roundsOn q hq hr hP
    exact ⟨n, h1, by rw [div_eq_mul_one_div, mul_comm |_|]; exact h3.le⟩
  · -- `|P| < 2^-126`, and rounding does not cross a power of two: `|rne32 P| ≤ 2^-126 < 1` truncates to 0
    refine ⟨_, toTime_val rne32_roundsOn true q (fun _ => hq), ?_⟩
    generalize q.value.val * 1000000000 = P at *
    have hlt : |P| < (2:ℚ) ^ (-126:ℤ) := lt_of_not_ge fun hc => hP (Or.inr hc)
    have h1 : (2:ℚ) ^ (-126:ℤ) < 2 ^ (0:ℤ) := (zpow_lt_iff _ _).2 (by norm_num)
    rw [zpow_zero] at h1
    have h2 : |rne32 P| < 1 := lt_of_le_of_lt (abs_rne32_le_zpow (-126) (by norm_num) hlt.le) h1
    rw [trunc_eq_zero _ h2, satI64_zero, Int.cast_zero, zero_sub, abs_neg]
    linarith only [hlt, h1, div_nonneg (abs_nonneg P) (by norm_num : (0:ℚ) ≤ 2 ^ 24)]

/-- `Time → Quantity → Time` in binary32 returns a time within `|t|/2^22 + 1 ns` of the original, for every i64 `t`,
with no hypothesis on the rounding: all three roundings are on `0` or on numbers of magnitude `≥ 2^-126`. -/
theorem roundtrip_bound_binary32 (t : Int) (ht : inI64 t) :
    ∃ t' : Int, Time.tryOfQuantity true (Quantity.ofTime true t : Quantity Q32) = some t' ∧
      |(t' : ℚ) - t| ≤ |(t : ℚ)| / 2 ^ 22 + 1 :=
  roundtrip_on_const rne32_roundsOn t ht (inR_int t) (inR_int_div t) (inR_int_div_mul t)

/-- every intermediate result of the round trip is far below `2^128`, so `rne32` is what the hardware computes at each of
the three operations; the bounds hold because rounding does not cross a power of two -/
theorem roundtrip_finite_binary32 (t : Int) (ht : inI64 t) :
    |rne32 (t:ℚ)| ≤ 2 ^ 63 ∧ |rne32 (rne32 (t:ℚ) / 1000000000)| ≤ 2 ^ 34 ∧
      |rne32 (rne32 (rne32 (t:ℚ) / 1000000000) * 1000000000)| ≤ 2 ^ 64 := by
  have h0 : |(t:ℚ)| ≤ (2:ℚ) ^ (63:ℤ) := by
    unfold inI64 at ht
    have : |t| ≤ 9223372036854775808 := abs_le.2 ⟨by omega, by omega⟩
    norm_num; exact_mod_cast this
  have h1 := abs_rne32_le_zpow 63 (by norm_num) h0
  have h2 := abs_rne32_le_zpow (x := rne32 (t:ℚ) / 1000000000) 34 (by norm_num) (by
    rw [abs_div_e9]; exact (div_le_div_of_nonneg_right h1 (by norm_num)).trans (by norm_num))
  have h3 := abs_rne32_le_zpow (x := rne32 (rne32 (t:ℚ) / 1000000000) * 1000000000) 64 (by norm_num) (by
    rw [abs_mul_e9]; exact (mul_le_mul_of_nonneg_right h2 (by norm_num)).trans (by norm_num))
  exact ⟨by exact_mod_cast h1, by exact_mod_cast h2, by exact_mod_cast h3⟩

theorem time_to_quantity_finite_binary32 (chk : Bool) (t : Int) (ht : inI64 t) :
    |((Quantity.ofTime chk t : Quantity Q32).value).val| < 2 ^ 128 := by
  rw [time_to_quantity_value_binary32]
  exact lt_of_le_of_lt (roundtrip_finite_binary32 t ht).2.1 (by norm_num)

/-- 1.5 s: `Time(1_500_000_000)` converts to exactly `3/2` and back to itself. -/
example : ((Quantity.ofTime true 1500000000 : Quantity Q32).value).val = 3 / 2 := by decide +kernel
example : Time.tryOfQuantity true (Quantity.ofTime true 1500000000 : Quantity Q32) = some 1500000000 := by
  decide +kernel
/-- rounding really happens: `(10^9 + 1) ns ↦ 1 s` exactly, and back to `10^9 ns` (off by 1 ≤ |t|/2^22 + 1). -/
example : rne32 1000000001 = 1000000000 := by decide +kernel
example : ((Quantity.ofTime true 1000000001 : Quantity Q32).value).val = 1 := by decide +kernel
example : Time.tryOfQuantity true (Quantity.ofTime true 1000000001 : Quantity Q32) = some 1000000000 := by
  decide +kernel
example : |((1000000000 : ℤ) : ℚ) - (1000000001 : ℤ)| ≤ |((1000000001 : ℤ) : ℚ)| / 2 ^ 22 + 1 := by decide +kernel
/-- non-vacuity: a time whose conversion rounds (`10^9 + 1 ns ↦ 1 s`), with a nonzero error inside the sharp bound -/
example : inI64 1000000001 := by decide
example : |((Quantity.ofTime true 1000000001 : Quantity Q32).value).val - ((1000000001 : ℤ) : ℚ) / 1000000000| =
    1 / 1000000000 := by decide +kernel
/-- a large time: `2^62 + 12345 ↦ 2^62` (off by 12345 ns, the bound allows `≈ 1.1·10^12`) -/
example : Time.tryOfQuantity true (Quantity.ofTime true (2 ^ 62 + 12345) : Quantity Q32)
    = some 4611686018427387904 := by decide +kernel
example : |((4611686018427387904 : ℤ) : ℚ) - (2 ^ 62 + 12345 : ℤ)| ≤ |((2 ^ 62 + 12345 : ℤ) : ℚ)| / 2 ^ 22 + 1 := by
  decide +kernel
/-- `i64::MAX`: the three roundings give `2^63`, and the final cast saturates back to `i64::MAX` -/
example : rne32 (rne32 (rne32 ((9223372036854775807 : ℤ) : ℚ) / 1000000000) * 1000000000) = 2 ^ 63 := by
  decide +kernel
example : Time.tryOfQuantity true (Quantity.ofTime true 9223372036854775807 : Quantity Q32)
    = some 9223372036854775807 := by decide +kernel
/-- the smallest nonzero time, 1 ns, survives the round trip -/
example : Time.tryOfQuantity true (Quantity.ofTime true 1 : Quantity Q32) = some 1 := by decide +kernel
/-- hypotheses are satisfiable by non-trivial data -/
example : inI64 1500000000 ∧ inI64 (2 ^ 62 + 12345) ∧ inI64 9223372036854775807 ∧ (1000000001 : ℤ) ≤ 1500000000 := by
  decide
/-- `quantity_to_time_bound_binary32` on a product in the subnormal range (`2^-170 s · 10^9 ≈ 2^-140 < 2^-126`,
rounded to the subnormal `477 · 2^-149`): the result is 0 -/
example : Time.tryOfQuantity true (⟨⟨1 / 2 ^ 170⟩, ⟨0, 1⟩⟩ : Quantity Q32) = some 0 := by decide +kernel
example : (⟨⟨1 / 2 ^ 170⟩, ⟨0, 1⟩⟩ : Quantity Q32).unit = ⟨0, 1⟩ ∧
    |rne32 ((⟨⟨1 / 2 ^ 170⟩, ⟨0, 1⟩⟩ : Quantity Q32).value.val * 1000000000)| < 2 ^ 63 := by decide +kernel
/-- … and on an ordinary one: `2.5 s ↦ 2_500_000_000 ns` -/
example : Time.tryOfQuantity true (⟨⟨5 / 2⟩, ⟨0, 1⟩⟩ : Quantity Q32) = some 2500000000 := by decide +kernel

/-- The concrete rounding does NOT meet the unrestricted contract `RoundingSpec` of `C18Rounding.lean` (its `rel` fails below
the normal range: `2^-150` rounds to `0`), which is why the side conditions had to be proved rather than assumed. -/
theorem rne32_not_RoundingSpec : ¬ RoundingSpec rne32 (1 / 2 ^ 24) := fun h =>
  absurd (h.rel (1 / 2 ^ 150)) (by decide +kernel)

end Rrtk.Thm.C18
