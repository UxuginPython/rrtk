/-
C13 beyond a chain traversed forwards once (`Thm/C13.lean`).  The reverse direction: a chain traversed from its far end to
its head is again a chain (`revChain`, of reversed devices), so the forward theorem applies to it; in exact arithmetic it
divides by what the forward chain multiplies by.  The lemmas about a chain taken apart at its end are here for that:
`chainTermsB_append`, `runChainB_append`, `chainMapB_append`, `farEndB_snoc`, `farEndB_mem`, `ChainOKB.snoc`.
Repeated updates: a second inverter update writes nothing; a second gear-train update relays back from side 1 (the tie
goes to side 1), which restores the issued value in exact arithmetic and changes it otherwise (example over `Int`).
-/
import Rrtk.Thm.C13
-- theorems are stated under the whole scalar-class list of `Rrtk/Devices.lean`, used or not: one context for every caller
set_option linter.unusedSectionVars false
namespace Rrtk.Thm.C13
open Rrtk

section S
variable {F : Type} [Add F] [Sub F] [Mul F] [Div F] [Neg F] [LT F] [LE F] [BEq F]
  [DecidableLT F] [DecidableLE F] [FloatLike F]

namespace DevB
theorem rev_fst (d : DevB F) : d.rev.fst = d.snd := by cases d <;> rfl
theorem rev_snd (d : DevB F) : d.rev.snd = d.fst := by cases d <;> rfl
theorem rev_rev (d : DevB F) : d.rev.rev = d := by cases d <;> rfl
theorem rev_update (d : DevB F) (w : World F) : d.rev.update w = d.update w := by cases d <;> rfl
theorem mem_rev_terms (d : DevB F) (j : Nat) : j ∈ d.rev.terms ↔ j ∈ d.terms := by
  cases d <;> simp [rev, terms, or_comm]
theorem rev_WF (d : DevB F) (h : d.WF) : d.rev.WF := by
  obtain ⟨h1, h2, h3⟩ := h
  exact ⟨by rw [rev_fst, mem_rev_terms]; exact h2, by rw [rev_snd, mem_rev_terms]; exact h1,
    by rw [rev_fst, rev_snd]; exact Ne.symm h3⟩
end DevB

/-- the chain traversed the other way: every device reversed (entry ↔ exit, same `update`), in reverse order -/
def revChain (ds : List (DevB F)) : List (DevB F) := (ds.map DevB.rev).reverse

theorem revChain_cons (d : DevB F) (ds : List (DevB F)) : revChain (d :: ds) = revChain ds ++ [d.rev] := by
  simp [revChain]

theorem revChain_revChain (ds : List (DevB F)) : revChain (revChain ds) = ds := by
  simp only [revChain, List.map_reverse, List.reverse_reverse, List.map_map]
  have : (DevB.rev ∘ DevB.rev : DevB F → DevB F) = id := funext (fun d => DevB.rev_rev d)
  rw [this, List.map_id]

theorem chainTermsB_append (l1 l2 : List (DevB F)) : chainTermsB (l1 ++ l2) = chainTermsB l1 ++ chainTermsB l2 := by
  induction l1 with
  | nil => rfl
  | cons d l1 ih => simp only [List.cons_append, chainTermsB, ih, List.append_assoc]

theorem mem_chainTermsB_singleton {x : DevB F} {j : Nat} : j ∈ chainTermsB [x] ↔ j ∈ x.terms := by
  rw [mem_chainTermsB_cons]; exact or_iff_left (fun h => nomatch h)

theorem mem_chainTermsB_snoc {e x : DevB F} {es : List (DevB F)} {j : Nat} :
    j ∈ chainTermsB (e :: (es ++ [x])) ↔ j ∈ chainTermsB (e :: es) ∨ j ∈ x.terms := by
  rw [← List.cons_append, chainTermsB_append, List.mem_append, mem_chainTermsB_singleton]

theorem mem_chainTermsB_revChain (ds : List (DevB F)) (j : Nat) :
    j ∈ chainTermsB (revChain ds) ↔ j ∈ chainTermsB ds := by
  induction ds with
  | nil => rfl
  | cons d ds ih =>
    rw [revChain_cons, chainTermsB_append]
    simp only [chainTermsB, List.append_nil, List.mem_append, ih, DevB.mem_rev_terms]
    exact or_comm

theorem runChainB_append (w : World F) (l1 l2 : List (DevB F)) :
    runChainB w (l1 ++ l2) = runChainB (runChainB w l1) l2 := by
  induction l1 generalizing w with
  | nil => rfl
  | cons d l1 ih => simp only [List.cons_append, runChainB, ih]

/-- running the reversed chain is updating the same devices in reverse order: the head device is updated last -/
theorem runChainB_revChain_cons (w : World F) (d : DevB F) (ds : List (DevB F)) :
    runChainB w (revChain (d :: ds)) = d.update (runChainB w (revChain ds)) := by
  rw [revChain_cons, runChainB_append]
  show d.rev.update _ = _
  rw [DevB.rev_update]

theorem chainMapB_append (l1 l2 : List (DevB F)) (c : Command F) :
    chainMapB (l1 ++ l2) c = chainMapB l2 (chainMapB l1 c) := by
  induction l1 generalizing c with
  | nil => rfl
  | cons d l1 ih => simp only [List.cons_append, chainMapB, ih]

theorem farEndB_snoc (e : DevB F) (es : List (DevB F)) (x : DevB F) : farEndB e (es ++ [x]) = x.snd := by
  induction es generalizing e with
  | nil => rfl
  | cons e' es ih => exact ih e'

theorem revChain_shape (d : DevB F) (ds : List (DevB F)) :
    ∃ e es, revChain (d :: ds) = e :: es ∧ e.fst = farEndB d ds ∧ farEndB e es = d.fst := by
  induction ds generalizing d with
  | nil => exact ⟨d.rev, [], rfl, DevB.rev_fst d, DevB.rev_snd d⟩
  | cons d' ds ih =>
    obtain ⟨e, es, h, h1, _⟩ := ih d'
    refine ⟨e, es ++ [d.rev], by rw [revChain_cons, h]; rfl, h1, ?_⟩
    rw [farEndB_snoc, DevB.rev_snd]

/-- C13 for chains in the reverse direction.  A command `c` read at the far end of `d :: ds`, strictly newer than every
command read at any other terminal of the chain, reaches the head's entry terminal when the devices are updated in
reverse order (`runChainB_revChain_cons`), mapped through the devices the other way: every gear train originally entered
at side 1 now divides by its ratio.  `hok` asks the chain conditions for the reversed chain; `ChainOKB_revChain` derives
them. -/
theorem chain_relays_newest_reverse (d : DevB F) (ds : List (DevB F)) (w : World F) (c : Datum (Command F))
    (hok : ChainOKB w (revChain (d :: ds))) (hc : w.getCommand (farEndB d ds) = some c)
    (hold : ∀ j ∈ chainTermsB (d :: ds), j ≠ farEndB d ds → ∀ r, w.getCommand j = some r → r.time < c.time) :
    ((runChainB w (revChain (d :: ds))).t d.fst).command = some ⟨c.time, chainMapB (revChain (d :: ds)) c.value⟩ ∧
    (runChainB w (revChain (d :: ds))).getCommand d.fst = some ⟨c.time, chainMapB (revChain (d :: ds)) c.value⟩ := by
  obtain ⟨e, es, h, h1, h2⟩ := revChain_shape d ds
  have hmem : ∀ j, j ∈ chainTermsB (e :: es) ↔ j ∈ chainTermsB (d :: ds) := fun j => by
    rw [← h]; exact mem_chainTermsB_revChain (d :: ds) j
  rw [h] at hok ⊢
  have := chainB_relays_newest e es w c hok (by rw [h1]; exact hc)
    (fun j hj hne => hold j ((hmem j).1 hj) (by rw [← h1]; exact hne))
  rw [h2] at this
  exact this

theorem farEndB_mem {w : World F} (d : DevB F) (ds : List (DevB F)) (hok : ChainOKB w (d :: ds)) :
    farEndB d ds ∈ chainTermsB (d :: ds) := by
  induction ds generalizing d with
  | nil => exact mem_chainTermsB_singleton.2 hok.1.2.1
  | cons d' ds ih => exact mem_chainTermsB_cons.2 (.inr (ih d' hok.2.2.2.2))

theorem ChainOKB.snoc {w : World F} (x : DevB F) (hx : x.WF) (hxfree : ∀ p ∈ x.terms, (w.t x.snd).other ≠ some p) :
    ∀ (e : DevB F) (es : List (DevB F)), ChainOKB w (e :: es) →
      (w.t x.fst).other = some (farEndB e es) →
      (∀ t ∈ x.terms, t ∉ chainTermsB (e :: es)) →
      (∀ j ∈ x.terms, j ≠ x.fst → ∀ p ∈ chainTermsB (e :: es), (w.t j).other ≠ some p) →
      ChainOKB w (e :: (es ++ [x]))
  | e, [], hok, hlink, hdisj, hiso => by
    show e.WF ∧ (w.t x.fst).other = some e.snd ∧ (∀ t ∈ e.terms, t ∉ chainTermsB [x]) ∧
      (∀ j ∈ chainTermsB [x], j ≠ x.fst → ∀ p ∈ e.terms, (w.t j).other ≠ some p) ∧ ChainOKB w [x]
    exact ⟨hok.1, hlink,
      fun t ht hm => hdisj t (mem_chainTermsB_singleton.1 hm) (mem_chainTermsB_singleton.2 ht),
      fun j hj hne p hp => hiso j (mem_chainTermsB_singleton.1 hj) hne p (mem_chainTermsB_singleton.2 hp), hx, hxfree⟩
  | e, e' :: es', hok, hlink, hdisj, hiso => by
    obtain ⟨hwf, hl, hd, hi, hrest⟩ := hok
    have hsub : ∀ p, p ∈ chainTermsB (e' :: es') → p ∈ chainTermsB (e :: e' :: es') :=
      fun p hp => mem_chainTermsB_cons.2 (.inr hp)
    have ih := ChainOKB.snoc x hx hxfree e' es' hrest hlink (fun t ht hm => hdisj t ht (hsub t hm))
      (fun j hj hne p hp => hiso j hj hne p (hsub p hp))
    show e.WF ∧ (w.t e'.fst).other = some e.snd ∧ (∀ t ∈ e.terms, t ∉ chainTermsB (e' :: (es' ++ [x]))) ∧
      (∀ j ∈ chainTermsB (e' :: (es' ++ [x])), j ≠ e'.fst → ∀ p ∈ e.terms, (w.t j).other ≠ some p) ∧
      ChainOKB w (e' :: (es' ++ [x]))
    refine ⟨hwf, hl, fun t ht hm => ?_, fun j hj hne p hp => ?_, ih⟩
    · rcases mem_chainTermsB_snoc.1 hm with h | h
      · exact hd t ht h
      · exact hdisj t h (mem_chainTermsB_cons.2 (.inl ht))
    · rcases mem_chainTermsB_snoc.1 hj with h | h
      · exact hi j h hne p hp
      · by_cases hjx : j = x.fst
        · -- `x.fst` is wired to the old far end, a terminal of a later device, hence not one of `e`
          rw [hjx, hlink]
          intro heq
          have hfar : farEndB e' es' ∈ chainTermsB (e' :: es') := farEndB_mem e' es' hrest
          have hpe : farEndB e' es' = p := Option.some.inj heq
          exact hd p hp (hpe ▸ hfar)
        · exact hiso j h hjx p (mem_chainTermsB_cons.2 (.inl hp))

/-- The reversed chain is a chain.  If the links at the chain's terminals are symmetric (`hsym`; `connect` only ever makes
symmetric links) and the head's entry terminal is not wired back into its own device, the chain conditions for `d :: ds`
give those for the chain traversed from the far end — so `chain_relays_newest_reverse` applies to any chain
`chainB_relays_newest` applies to. -/
theorem ChainOKB_revChain (w : World F) :
    ∀ (d : DevB F) (ds : List (DevB F)), ChainOKB w (d :: ds) →
      (∀ i ∈ chainTermsB (d :: ds), ∀ p, (w.t i).other = some p → (w.t p).other = some i) →
      (∀ p ∈ d.terms, (w.t d.fst).other ≠ some p) → ChainOKB w (revChain (d :: ds))
  | d, [], hok, _, hhead => by
    show ChainOKB w [d.rev]
    exact ⟨DevB.rev_WF d hok.1, fun p hp => by rw [DevB.rev_snd]; exact hhead p ((DevB.mem_rev_terms d p).1 hp)⟩
  | d, d' :: ds', hok, hsym, hhead => by
    obtain ⟨hwf, hlink, hdisj, hiso, hrest⟩ := hok
    have hwf' : d'.WF := ChainOKB.head_WF hrest
    have hmem' : ∀ p, p ∈ d'.terms → p ∈ chainTermsB (d' :: ds') := fun p hp => mem_chainTermsB_cons.2 (.inl hp)
    have ih := ChainOKB_revChain w d' ds' hrest (fun i hi => hsym i (mem_chainTermsB_cons.2 (.inr hi))) (fun p hp => by
      rw [hlink]; intro e
      have : d.snd = p := Option.some.inj e
      exact hdisj d.snd hwf.2.1 (hmem' _ (this ▸ hp)))
    obtain ⟨e, es, h, -, h2⟩ := revChain_shape d' ds'
    have hmem : ∀ j, j ∈ chainTermsB (e :: es) ↔ j ∈ chainTermsB (d' :: ds') := fun j => by
      rw [← h]; exact mem_chainTermsB_revChain (d' :: ds') j
    rw [revChain_cons, h]; rw [h] at ih
    show ChainOKB w (e :: (es ++ [d.rev]))
    refine ChainOKB.snoc d.rev (DevB.rev_WF d hwf) (fun p hp => ?_) e es ih ?_ (fun t ht hm => ?_)
      (fun j hj hne p hp hjp => ?_)
    · rw [DevB.rev_snd]; exact hhead p ((DevB.mem_rev_terms d p).1 hp)
    · rw [DevB.rev_fst, h2]; exact hsym _ (mem_chainTermsB_cons.2 (.inr (hmem' _ hwf'.1))) _ hlink
    · exact hdisj t ((DevB.mem_rev_terms d t).1 ht) ((hmem t).1 hm)
    · rw [DevB.rev_fst] at hne
      have hj' := (DevB.mem_rev_terms d j).1 hj
      have hp' := (hmem p).1 hp
      have hpj := hsym j (mem_chainTermsB_cons.2 (.inl hj')) p hjp
      by_cases hpf : p = d'.fst
      · rw [hpf, hlink] at hpj
        exact hne (Option.some.inj hpj).symm
      · exact hiso p hp' hpf j hj' hpj

theorem invertWinner_self (m : Option (Datum (Command F))) :
    invertWinner m (m.map (Datum.map Command.neg)) = m := by
  cases m with
  | none => rfl
  | some a =>
    simp only [Option.map, invertWinner]
    rw [if_neg (show ¬ (Datum.map Command.neg a).time > a.time from Int.lt_irrefl _)]

/-- A second `Invert::update` on the result of the first writes nothing (tier S — no scalar law is needed): after the first
update the two terminals read `win` and `-win` with one timestamp, side 1 wins the tie, and the second update writes
`win` and `-win` again into the slots that already hold them. -/
theorem invert_update_twice_slots (w : World F) (i1 i2 : Nat) (h12 : i1 ≠ i2) :
    Writes (Invert.update w i1 i2) (Invert.update (Invert.update w i1 i2) i1 i2) (fun _ => none) := by
  have h2 := invert_writes (Invert.update w i1 i2) i1 i2
  rw [(invert_relays_newest w i1 i2 h12).1, (invert_relays_newest w i1 i2 h12).2, invertWinner_self] at h2
  exact (invert_writes w i1 i2).again h2

/-- hence every command read — at the inverter's terminals and anywhere else — is the same after two updates as after one -/
theorem invert_update_twice_reads (w : World F) (i1 i2 : Nat) (h12 : i1 ≠ i2) :
    (∀ j, (Invert.update (Invert.update w i1 i2) i1 i2).getCommand j = (Invert.update w i1 i2).getCommand j) ∧
    (Invert.update (Invert.update w i1 i2) i1 i2).getCommand i1 =
      invertWinner (w.getCommand i1) (w.getCommand i2) ∧
    (Invert.update (Invert.update w i1 i2) i1 i2).getCommand i2 =
      (invertWinner (w.getCommand i1) (w.getCommand i2)).map (Datum.map Command.neg) := by
  have h := fun j => (invert_update_twice_slots w i1 i2 h12).read_kept (i := j) rfl (fun _ _ => rfl)
  exact ⟨h, by rw [h, (invert_relays_newest w i1 i2 h12).1], by rw [h, (invert_relays_newest w i1 i2 h12).2]⟩

/-- Tier L (`hneg`: `-(-x) = x`): a newest command issued on side 2 is read back on side 2 with its original value after
two updates as well. -/
theorem invert_update_twice_side2_roundtrip (hneg : ∀ x : F, -(-x) = x) (w : World F) (i1 i2 : Nat) (h12 : i1 ≠ i2)
    (b : Datum (Command F)) (h2 : w.getCommand i2 = some b)
    (hnewest : ∀ a, w.getCommand i1 = some a → b.time > a.time) :
    (Invert.update (Invert.update w i1 i2) i1 i2).getCommand i2 = some b := by
  rw [(invert_update_twice_reads w i1 i2 h12).1]
  exact invert_side2_roundtrip hneg w i1 i2 h12 b h2 hnewest

/-- a relayed command ties with its source: whichever side won the first time, side 1 wins the second time -/
theorem gearSide1Wins_after (ratio : F) (a b : Datum (Command F)) :
    gearSide1Wins (some a) (some (Datum.scalar Command.mulF a ratio)) = true ∧
    gearSide1Wins (some (Datum.scalar Command.divF b ratio)) (some b) = true := by
  constructor
  · simp only [gearSide1Wins, decide_eq_true_eq]; exact Int.le_refl _
  · simp only [gearSide1Wins, decide_eq_true_eq]; exact Int.le_refl _

/-- the reads after a second gear-train update, as a formula in the reads before the first: nothing stays nothing; if
side 1 was relayed, the second update relays the same thing again; if side 2 was relayed (`b`, strictly newer), side 1
reads `b / ratio` and — the tie now going to side 1 — side 2 reads `(b / ratio) * ratio` in place of `b`. -/
theorem gearReads_twice (ratio : F) (c1 c2 : Option (Datum (Command F))) :
    (c1 = none → c2 = none →
      gearReads ratio (gearReads ratio c1 c2).1 (gearReads ratio c1 c2).2 = (none, none)) ∧
    (∀ a, c1 = some a → gearSide1Wins c1 c2 = true →
      gearReads ratio (gearReads ratio c1 c2).1 (gearReads ratio c1 c2).2 =
        (some a, some (Datum.scalar Command.mulF a ratio))) ∧
    (∀ b, c2 = some b → gearSide1Wins c1 c2 = false →
      gearReads ratio (gearReads ratio c1 c2).1 (gearReads ratio c1 c2).2 =
        (some (Datum.scalar Command.divF b ratio),
         some (Datum.scalar Command.mulF (Datum.scalar Command.divF b ratio) ratio))) := by
  refine ⟨fun h1 h2 => by subst h1; subst h2; rfl, fun a h1 hs => ?_, fun b h2 hs => ?_⟩
  · rw [gearReads_of_side1 ratio c1 c2 a h1 hs]
    exact gearReads_of_side1 ratio _ _ a rfl (gearSide1Wins_after ratio a a).1
  · rw [gearReads_of_side2 ratio c1 c2 b h2 hs]
    exact gearReads_of_side1 ratio _ _ _ rfl (gearSide1Wins_after ratio b b).2

theorem gear_update_twice_reads (ratio : F) (w : World F) (i1 i2 : Nat) (h12 : i1 ≠ i2)
    (hext1 : (w.t i1).other ≠ some i1 ∧ (w.t i1).other ≠ some i2)
    (hext2 : (w.t i2).other ≠ some i1 ∧ (w.t i2).other ≠ some i2) :
    (GearTrain.update ratio (GearTrain.update ratio w i1 i2) i1 i2).getCommand i1 =
      (gearReads ratio (gearReads ratio (w.getCommand i1) (w.getCommand i2)).1
        (gearReads ratio (w.getCommand i1) (w.getCommand i2)).2).1 ∧
    (GearTrain.update ratio (GearTrain.update ratio w i1 i2) i1 i2).getCommand i2 =
      (gearReads ratio (gearReads ratio (w.getCommand i1) (w.getCommand i2)).1
        (gearReads ratio (w.getCommand i1) (w.getCommand i2)).2).2 := by
  have ho := (gear_writes ratio w i1 i2).other
  obtain ⟨hr1, hr2⟩ := gear_relays_newest ratio w i1 i2 h12 hext1 hext2
  have := gear_relays_newest ratio (GearTrain.update ratio w i1 i2) i1 i2 h12
    (by rw [ho]; exact hext1) (by rw [ho]; exact hext2)
  rw [hr1, hr2] at this
  exact this

/-- The slots after two gear-train updates (tier S).  With `c1`, `c2` the commands read at the two terminals before the
first update, `w1` the world after one update and `w2` after two: links never change; if nothing was read nothing is
written; if side 1 was relayed (`a`), the second update writes `a * ratio` into side 2's slot again — no slot differs
between `w2` and `w1`; if side 2 was relayed (`b`), the first update wrote `b / ratio` into side 1's slot and the second
— side 1 now winning the tie — writes `(b / ratio) * ratio` into side 2's own slot, the issuing side; nothing else is
touched. -/
theorem gear_update_twice_slots (ratio : F) (w : World F) (i1 i2 : Nat) (h12 : i1 ≠ i2)
    (hext1 : (w.t i1).other ≠ some i1 ∧ (w.t i1).other ≠ some i2)
    (hext2 : (w.t i2).other ≠ some i1 ∧ (w.t i2).other ≠ some i2) :
    let w1 := GearTrain.update ratio w i1 i2
    let w2 := GearTrain.update ratio w1 i1 i2
    let c1 := w.getCommand i1
    let c2 := w.getCommand i2
    (∀ j, (w2.t j).other = (w.t j).other) ∧
    (c1 = none → c2 = none → ∀ j, (w2.t j).command = (w.t j).command) ∧
    (∀ a, c1 = some a → gearSide1Wins c1 c2 = true →
        (w2.t i2).command = some (Datum.scalar Command.mulF a ratio) ∧
        (∀ j, j ≠ i2 → (w2.t j).command = (w.t j).command) ∧
        ∀ j, (w2.t j).command = (w1.t j).command) ∧
    (∀ b, c2 = some b → gearSide1Wins c1 c2 = false →
        (w2.t i1).command = some (Datum.scalar Command.divF b ratio) ∧
        (w2.t i2).command = some (Datum.scalar Command.mulF (Datum.scalar Command.divF b ratio) ratio) ∧
        ∀ j, j ≠ i1 → j ≠ i2 → (w2.t j).command = (w.t j).command) := by
  intro w1 w2 c1 c2
  have h1 : Writes w w1 (gearWrites ratio i1 i2 c1 c2) := gear_writes ratio w i1 i2
  have h2 : Writes w1 w2 _ := gear_writes ratio w1 i1 i2
  obtain ⟨r1, r2⟩ := gear_relays_newest ratio w i1 i2 h12 hext1 hext2
  rw [r1, r2] at h2
  refine ⟨fun j => (h2.other j).trans (h1.other j), fun e1 e2 j => ?_, fun a e1 hs => ?_, fun b e2 hs => ?_⟩
  · -- nothing is read before the first update, hence nothing after it: neither update writes
    rw [show w.getCommand i1 = none from e1, show w.getCommand i2 = none from e2] at h2
    exact (h2.command_of_none (gearWrites_none ratio i1 i2 j)).trans
      (h1.command_of_none (by rw [e1, e2]; exact gearWrites_none ratio i1 i2 j))
  · -- side 1 is relayed both times: the same write twice
    rw [gearReads_of_side1 ratio _ _ a e1 hs] at h2
    have h2' := h2.congr (gearWrites_of_side1 ratio i1 i2 rfl (gearSide1Wins_after ratio a a).1)
    have h1' := h1.congr (gearWrites_of_side1 ratio i1 i2 e1 hs)
    exact ⟨h2'.command_of_some (if_pos rfl),
      fun j hj => (h2'.command_of_none (if_neg hj)).trans (h1'.command_of_none (if_neg hj)),
      fun j => (h1'.again h2').command_of_none rfl⟩
  · -- side 2 is relayed first; the tie then goes to side 1, which is relayed back
    rw [gearReads_of_side2 ratio _ _ b e2 hs] at h2
    have h2' := h2.congr (gearWrites_of_side1 ratio i1 i2 rfl (gearSide1Wins_after ratio b b).2)
    have h1' := h1.congr (gearWrites_of_side2 ratio i1 i2 e2 hs)
    exact ⟨(h2'.command_of_none (if_neg h12)).trans (h1'.command_of_some (if_pos rfl)),
      h2'.command_of_some (if_pos rfl),
      fun j hj1 hj2 => (h2'.command_of_none (if_neg hj2)).trans (h1'.command_of_none (if_neg hj1))⟩

end S

section R
variable {F : Type} [Field F] [LinearOrder F] [IsStrictOrderedRing F] [FloatLike F] [ExactScalar F]

theorem DevB.ratio_rev (d : DevB F) : d.rev.ratio = (d.ratio)⁻¹ := by
  cases d with
  | inv a b => exact inv_neg_one.symm
  | invRev a b => exact inv_neg_one.symm
  | gear r a b => rfl
  | gearRev r a b => exact (inv_inv r).symm
  | axle is a b => exact inv_one.symm

theorem prod_ratio_revChain (ds : List (DevB F)) :
    ((revChain ds).map DevB.ratio).prod = ((ds.map DevB.ratio).prod)⁻¹ := by
  induction ds with
  | nil => simp [revChain]
  | cons d ds ih =>
    rw [revChain_cons, List.map_append, List.prod_append, ih, List.map_cons, List.map_nil, List.prod_cons,
      List.prod_nil, mul_one, DevB.ratio_rev, List.map_cons, List.prod_cons, mul_inv, mul_comm]

/-- Tier R, reverse direction: traversed from its far end to its head, a chain divides the value by the product of its
(forward) factors — each gear train entered at side 1 on the way out divides by its ratio on the way back. -/
theorem chain_scale_is_product_reverse (ds : List (DevB F)) (c : Command F) :
    (chainMapB (revChain ds) c).kind = c.kind ∧
    (chainMapB (revChain ds) c).raw = c.raw / (ds.map DevB.ratio).prod := by
  obtain ⟨hk, hr⟩ := chainB_scale_is_product (revChain ds) c
  exact ⟨hk, by rw [hr, prod_ratio_revChain, div_eq_mul_inv]⟩

/-- in particular for a `Dev1` chain (inverters, gear trains entered at side 1, axles): forward the value is multiplied
by, backward it is divided by, the product of `Dev1.ratio` -/
theorem chain_scale_is_product_both (ds : List (Dev1 F)) (c : Command F) :
    (chainMap ds c).raw = c.raw * (ds.map Dev1.ratio).prod ∧
    (chainMapB (revChain (ds.map Dev1.toB)) c).raw = c.raw / (ds.map Dev1.ratio).prod := by
  refine ⟨(chain_scale_is_product ds c).2, ?_⟩
  rw [(chain_scale_is_product_reverse _ c).2, prod_ratio_toB]

theorem prod_ratio_ne_zero (ds : List (DevB F)) (hnz : ∀ d ∈ ds, d.ratio ≠ 0) : (ds.map DevB.ratio).prod ≠ 0 := by
  induction ds with
  | nil => simp
  | cons d ds ih =>
    rw [List.map_cons, List.prod_cons]
    exact mul_ne_zero (hnz d List.mem_cons_self) (ih (fun d' hd' => hnz d' (List.mem_cons_of_mem _ hd')))

/-- Tier R: there and back again is the identity, provided no factor is zero (no gear ratio is `0`) -/
theorem chain_scale_roundtrip (ds : List (DevB F)) (c : Command F) (hnz : ∀ d ∈ ds, d.ratio ≠ 0) :
    chainMapB (revChain ds) (chainMapB ds c) = c := by
  obtain ⟨hk, hr⟩ := chain_scale_is_product_reverse ds (chainMapB ds c)
  obtain ⟨hk', hr'⟩ := chainB_scale_is_product ds c
  refine command_ext _ _ (hk.trans hk') ?_
  rw [hr, hr']
  exact mul_div_cancel_right₀ _ (prod_ratio_ne_zero ds hnz)

/-- Tier R, end to end, reverse direction: a newest command read at the far end is read at the head, after updating the
devices in reverse order, with its timestamp and kind and its value divided by the product of the forward factors. -/
theorem chain_relays_newest_reverse_scaled (d : DevB F) (ds : List (DevB F)) (w : World F) (c : Datum (Command F))
    (hok : ChainOKB w (revChain (d :: ds))) (hc : w.getCommand (farEndB d ds) = some c)
    (hold : ∀ j ∈ chainTermsB (d :: ds), j ≠ farEndB d ds → ∀ r, w.getCommand j = some r → r.time < c.time) :
    ∃ r, (runChainB w (revChain (d :: ds))).getCommand d.fst = some r ∧ r.time = c.time ∧
      r.value.kind = c.value.kind ∧ r.value.raw = c.value.raw / ((d :: ds).map DevB.ratio).prod :=
  ⟨_, (chain_relays_newest_reverse d ds w c hok hc hold).2, rfl,
    (chain_scale_is_product_reverse (d :: ds) c.value).1, (chain_scale_is_product_reverse (d :: ds) c.value).2⟩

theorem mulF_divF_cancel (c : Command F) (r : F) (hr : r ≠ 0) : Command.mulF (Command.divF c r) r = c :=
  command_ext _ _ (by rw [mulF_kind, divF_kind]) (by rw [mulF_raw, divF_raw, div_mul_cancel₀ _ hr])

theorem gearReads_twice_exact (ratio : F) (hr : ratio ≠ 0) (c1 c2 : Option (Datum (Command F))) :
    gearReads ratio (gearReads ratio c1 c2).1 (gearReads ratio c1 c2).2 = gearReads ratio c1 c2 := by
  obtain ⟨h0, h1, h2⟩ := gearReads_twice ratio c1 c2
  rcases gearSide_cases c1 c2 with ⟨e1, e2⟩ | ⟨a, e1, hs⟩ | ⟨b, e2, hs⟩
  · rw [h0 e1 e2, e1, e2]; rfl
  · rw [h1 a e1 hs, gearReads_of_side1 ratio c1 c2 a e1 hs]
  · rw [h2 b e2 hs, gearReads_of_side2 ratio c1 c2 b e2 hs]
    have : Datum.scalar Command.mulF (Datum.scalar Command.divF b ratio) ratio = b := by
      show (⟨b.time, Command.mulF (Command.divF b.value ratio) ratio⟩ : Datum (Command F)) = b
      rw [mulF_divF_cancel _ _ hr]
    rw [this]

/-- Tier R, `ratio ≠ 0`: the gear-train update is idempotent on reads — the commands read at both terminals after two
updates equal the commands read after one.  (The own slot of the issuing side 2 is nevertheless rewritten by the second
update, with `(b / ratio) * ratio`, see `gear_update_twice_slots`; in exact arithmetic that is `b` again.) -/
theorem gear_update_twice_reads_exact (ratio : F) (hr : ratio ≠ 0) (w : World F) (i1 i2 : Nat) (h12 : i1 ≠ i2)
    (hext1 : (w.t i1).other ≠ some i1 ∧ (w.t i1).other ≠ some i2)
    (hext2 : (w.t i2).other ≠ some i1 ∧ (w.t i2).other ≠ some i2) :
    (GearTrain.update ratio (GearTrain.update ratio w i1 i2) i1 i2).getCommand i1 =
      (GearTrain.update ratio w i1 i2).getCommand i1 ∧
    (GearTrain.update ratio (GearTrain.update ratio w i1 i2) i1 i2).getCommand i2 =
      (GearTrain.update ratio w i1 i2).getCommand i2 := by
  obtain ⟨h1, h2⟩ := gear_update_twice_reads ratio w i1 i2 h12 hext1 hext2
  obtain ⟨r1, r2⟩ := gear_relays_newest ratio w i1 i2 h12 hext1 hext2
  rw [h1, h2, r1, r2, gearReads_twice_exact ratio hr]
  exact ⟨rfl, rfl⟩

end R

/-! non-vacuity and counterexamples: concrete instances over `Int` and `ℚ` payloads -/
section Examples
/-- integers as a (law-free) scalar, for examples only: `/` is integer division, so `(3 / 2) * 2 = 2 ≠ 3` -/
local instance : FloatLike Int := ⟨id, id, fun _ _ => 1, fun x => x.natAbs⟩

/-- the chain of `exC` — inverter (0→1), gear train ×3 (2→3), axle over {4,5,6} (4→5); links 1–2 and 3–4, both ways —
with stale commands in it: at the inverter's exit (time 1), at the gear train's exit (time 4), at an axle terminal
(time 2); the head holds a velocity command issued at time 5 -/
def exN : World Int := ⟨7, fun
  | 0 => ⟨none, some ⟨5, .velocity 7⟩, none⟩
  | 1 => ⟨none, some ⟨1, .position 100⟩, some 2⟩
  | 2 => ⟨none, none, some 1⟩
  | 3 => ⟨none, some ⟨4, .velocity 50⟩, some 4⟩
  | 4 => ⟨none, none, some 3⟩
  | 6 => ⟨none, some ⟨2, .acceleration 9⟩, none⟩
  | _ => World.freshTerm⟩

theorem exN_ok : ChainOK exN (.inv 0 1 :: exDevs) := by
  simp only [ChainOK, exDevs, Dev1.WF]; decide

/-- every command read at a chain terminal other than the head is strictly older than 5 … -/
theorem exN_old : ∀ j ∈ chainTerms (.inv 0 1 :: exDevs), j ≠ (Dev1.inv 0 1 : Dev1 Int).fst →
    ∀ r, exN.getCommand j = some r → r.time < 5 := by
  decide

/-- … and some of them are really there (the hypothesis `hnone` of `chain_relays` fails for this world) -/
example : exN.getCommand 3 = some ⟨4, .velocity 50⟩ ∧ exN.getCommand 2 = some ⟨1, .position 100⟩ := ⟨rfl, rfl⟩

/-- `chain_relays_newest` applies: the far end reads the head's command, `7 · (-1) · 3 · 1` -/
example : (runChain exN (.inv 0 1 :: exDevs)).getCommand 5 = some ⟨5, .velocity (-21)⟩ :=
  (chain_relays_newest (.inv 0 1) exDevs exN ⟨5, .velocity 7⟩ exN_ok rfl exN_old).2

/-- strictly older is needed: a command with the same timestamp in the own slot of the gear train's entry terminal wins
the tie there, and the far end gets that one (`1 · 3`, a position) instead of the head's (`-21`, a velocity) -/
def exTie : World Int := ⟨4, fun
  | 0 => ⟨none, some ⟨5, .velocity 7⟩, none⟩
  | 1 => ⟨none, none, some 2⟩
  | 2 => ⟨none, some ⟨5, .position 1⟩, some 1⟩
  | _ => World.freshTerm⟩
example : ChainOK exTie [.inv 0 1, .gear 3 2 3] := by
  simp only [ChainOK, Dev1.WF]; decide
example : exTie.getCommand 0 = some ⟨5, .velocity 7⟩ ∧ exTie.getCommand 2 = some ⟨5, .position 1⟩ ∧
    exTie.getCommand 1 = some ⟨5, .position 1⟩ ∧ exTie.getCommand 3 = none ∧
    (runChain exTie [.inv 0 1, .gear 3 2 3]).getCommand 3 = some ⟨5, .position 3⟩ := ⟨rfl, rfl, rfl, rfl, rfl⟩

/-- the same three devices as a bidirectional chain -/
def exDevsB : List (DevB Int) := [.inv 0 1, .gear 3 2 3, .axle [4, 5, 6] 4 5]
/-- traversed from the far end: axle (5→4), gear train entered at side 2 (3→2), inverter entered at side 2 (1→0) -/
example : revChain exDevsB = [.axle [4, 5, 6] 5 4, .gearRev 3 3 2, .invRev 1 0] := rfl

/-- as `exN`, but the newest command (velocity 42, time 8) is issued at the far end, terminal 5; the head's command of
time 5 is now one of the stale ones -/
def exR : World Int := ⟨7, fun
  | 0 => ⟨none, some ⟨5, .velocity 7⟩, none⟩
  | 1 => ⟨none, some ⟨1, .position 100⟩, some 2⟩
  | 2 => ⟨none, none, some 1⟩
  | 3 => ⟨none, some ⟨4, .velocity 50⟩, some 4⟩
  | 4 => ⟨none, none, some 3⟩
  | 5 => ⟨none, some ⟨8, .velocity 42⟩, none⟩
  | 6 => ⟨none, some ⟨2, .acceleration 9⟩, none⟩
  | _ => World.freshTerm⟩

theorem exR_ok : ChainOKB exR exDevsB := by
  simp only [ChainOKB, exDevsB, DevB.WF]; decide

theorem exR_sym : ∀ i ∈ chainTermsB exDevsB, ∀ p, (exR.t i).other = some p → (exR.t p).other = some i := by
  decide

theorem exR_rev_ok : ChainOKB exR (revChain exDevsB) :=
  ChainOKB_revChain exR _ _ exR_ok exR_sym (fun p _ h => by cases h)

theorem exR_old : ∀ j ∈ chainTermsB exDevsB, j ≠ 5 → ∀ r, exR.getCommand j = some r → r.time < 8 := by
  decide

/-- `chain_relays_newest_reverse` applies: updating axle, gear train, inverter in this order brings the far end's command
to the head with the reciprocal factors, `42 · 1 / 3 · (-1) = -14` -/
example : (runChainB exR (revChain exDevsB)).getCommand 0 = some ⟨8, .velocity (-14)⟩ :=
  (chain_relays_newest_reverse (.inv 0 1) [.gear 3 2 3, .axle [4, 5, 6] 4 5] exR ⟨8, .velocity 42⟩
    exR_rev_ok rfl exR_old).2
/-- and the run is literally: axle first, then the gear train, then the inverter — the model functions the driver runs -/
example : runChainB exR (revChain exDevsB) =
    Invert.update (GearTrain.update 3 (Axle.update exR [4, 5, 6]) 2 3) 0 1 := rfl

/-- a gear train with ratio 2 on terminals 0 and 1, joined to outside terminals 2 and 3; the newer command (position 3,
time 9) is issued on side 2 -/
def exG : World Int := ⟨4, fun
  | 0 => ⟨none, none, some 2⟩
  | 1 => ⟨none, none, some 3⟩
  | 2 => ⟨none, some ⟨5, .velocity 3⟩, some 0⟩
  | 3 => ⟨none, some ⟨9, .position 3⟩, some 1⟩
  | _ => World.freshTerm⟩

/-- the wiring hypotheses of `gear_update_twice_slots` / `gear_update_twice_reads` hold, and side 2 is relayed -/
example : (0 : Nat) ≠ 1 ∧ ((exG.t 0).other ≠ some 0 ∧ (exG.t 0).other ≠ some 1) ∧
    ((exG.t 1).other ≠ some 0 ∧ (exG.t 1).other ≠ some 1) := by decide
example : exG.getCommand 1 = some ⟨9, .position 3⟩ ∧
    gearSide1Wins (exG.getCommand 0) (exG.getCommand 1) = false := ⟨rfl, rfl⟩

/-- without exact arithmetic the second update changes the issuing side: after one update side 2 still reads the issued
`3` (and side 1 reads `3 / 2 = 1`); the second update — side 1 now winning the tie — stores `(3 / 2) * 2 = 2` in side 2's
own slot, and side 2 reads `2`, no longer the `3` that was issued there.  So C13's "unchanged at the issuing side" holds
after repeated updates only up to the rounding of `(b / r) * r`. -/
example :
    (GearTrain.update 2 exG 0 1).getCommand 0 = some ⟨9, .position 1⟩ ∧
    (GearTrain.update 2 exG 0 1).getCommand 1 = some ⟨9, .position 3⟩ ∧
    ((GearTrain.update 2 (GearTrain.update 2 exG 0 1) 0 1).t 1).command = some ⟨9, .position 2⟩ ∧
    (GearTrain.update 2 (GearTrain.update 2 exG 0 1) 0 1).getCommand 1 = some ⟨9, .position 2⟩ :=
  ⟨rfl, rfl, rfl, rfl⟩
example : ((3 : Int) / 2) * 2 ≠ 3 := by decide
/-- the same, obtained from the slot formula -/
example : ((GearTrain.update 2 (GearTrain.update 2 exG 0 1) 0 1).t 1).command =
    some (Datum.scalar Command.mulF (Datum.scalar Command.divF ⟨9, .position 3⟩ 2) 2) :=
  ((gear_update_twice_slots 2 exG 0 1 (by decide) (by decide) (by decide)).2.2.2 ⟨9, .position 3⟩ rfl rfl).2.1

/-- with the exact scalar `ℚ` (ratio `2 ≠ 0`) the hypotheses of `gear_update_twice_reads_exact` hold for the same wiring,
and side 2 reads the issued `3` after two updates as after one -/
def exGQ : World ℚ := ⟨4, fun
  | 0 => ⟨none, none, some 2⟩
  | 1 => ⟨none, none, some 3⟩
  | 2 => ⟨none, some ⟨5, .velocity 3⟩, some 0⟩
  | 3 => ⟨none, some ⟨9, .position 3⟩, some 1⟩
  | _ => World.freshTerm⟩
example : (GearTrain.update 2 (GearTrain.update 2 exGQ 0 1) 0 1).getCommand 1 =
    (GearTrain.update 2 exGQ 0 1).getCommand 1 :=
  (gear_update_twice_reads_exact (2 : ℚ) (by norm_num) exGQ 0 1 (by decide) (by decide) (by decide)).2

/-- inverter, twice: the hypotheses of `invert_update_twice_side2_roundtrip` hold in `exW` (`Thm/C13.lean`: side 2's
position command of time 9 is the newest) -/
example : (Invert.update (Invert.update exW 0 1) 0 1).getCommand 1 = some ⟨9, .position 4⟩ :=
  invert_update_twice_side2_roundtrip (F := Int) (fun x => by omega) exW 0 1 (by decide) ⟨9, .position 4⟩ rfl
    (fun a h => by
      have h' : exW.getCommand 0 = some ⟨5, .velocity 3⟩ := rfl
      rw [h'] at h; cases h; decide)
example : (Invert.update (Invert.update exW 0 1) 0 1).getCommand 0 = some ⟨9, .position (-4)⟩ :=
  (invert_update_twice_reads exW 0 1 (by decide)).2.1

/-- tier R, both directions, over `ℚ`: out `7 · (-1) · 3 · 1 = -21`, back `-21 / (-3) = 7` -/
example : (chainMapB ([.inv 0 1, .gear 3 2 3, .axle [4, 5, 6] 4 5] : List (DevB ℚ)) (.velocity 7)).raw = -21 ∧
    (chainMapB (revChain ([.inv 0 1, .gear 3 2 3, .axle [4, 5, 6] 4 5] : List (DevB ℚ))) (.velocity (-21))).raw = 7 := by
  rw [(chainB_scale_is_product _ _).2, (chain_scale_is_product_reverse _ _).2]
  norm_num [DevB.ratio, Command.raw]
example : ∀ d ∈ ([.inv 0 1, .gear 3 2 3, .axle [4, 5, 6] 4 5] : List (DevB ℚ)), d.ratio ≠ 0 := by
  decide
end Examples

end Rrtk.Thm.C13
