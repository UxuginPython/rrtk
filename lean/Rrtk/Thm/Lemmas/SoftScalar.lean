/-
The finite binary32 numbers as a scalar type for the generic rrtk model, and the "tier L" laws proved for it.

`Rrtk/SoftFloat.lean` defines `rne32 : ℚ → ℚ`, IEEE-754 binary32 round-to-nearest-even (24-bit significand, gradual
underflow, exponent unbounded upward).  A rational `x` is a (finite) binary32 value iff it is a fixed point of `rne32`
(`Rep x`; by `rep_iff` this is "`x = m·2^e` with `|m| < 2^24`, `e ≥ −149`"; in terms of the grids `2^g·ℤ` of
`Lemmas/SoftFloat.lean`: `rep_onGrid` (→) and `SoftFloat.rne32_of_onGrid` (←)).  `SF` is the type of those values; its
`+ − * /` are the EXACT rational operation followed by `rne32`, negation and `abs` are exact, `n as f32` is `rne32 n`,
`x as i64` is truncation toward zero followed by saturation.  For operands whose rounded result stays below `2^128` in
magnitude this is bit-for-bit what the hardware computes (group `sf` of the correspondence check), except that `SF` has
a single zero: `+0.0` and `−0.0` are identified.

Several property theorems of the model ("tier L") assume laws of the scalar type by name (`hcomm`, `hzero`, `hneg`,
`hmul`, `hto`, `hadd`, `htrans`, `hz`, …).  Here every one of them is PROVED for `SF`, so the corollaries in
`Rrtk/Thm/Ext/*.lean` (`*_binary32`) have no arithmetic hypothesis left.  What is NOT a law is shown by counterexamples
at the end (`+` is not associative, halving is not invertible on subnormals), so the type is a faithful rounding model
and not a field in disguise.  The laws are named after Mathlib's with a prime, and six of these names exist in Mathlib for other
statements (`add_comm'`, `mul_comm'`, `neg_sub'`, `neg_div'`, `le_trans'`, `lt_trans'`): where this namespace is open a `rw`
takes the one about `SF`, and Mathlib's is `_root_.neg_sub'`.
-/
import Rrtk.Thm.Lemmas.SoftFloat
import Rrtk.Thm.Lemmas.C18Rounding
namespace Rrtk.Thm.SoftScalar
open Rrtk Rrtk.Soft Rrtk.Thm.SoftFloat
open Rrtk.Thm.C18 (trunc satI64)
open Rrtk.Thm.C18.Rounding

/-- `x` is a finite binary32 value (of the format with unbounded exponent): rounding leaves it unchanged -/
def Rep (x : ℚ) : Prop := rne32 x = x

instance (x : ℚ) : Decidable (Rep x) := inferInstanceAs (Decidable (rne32 x = x))

/-- the finite binary32 numbers (one zero) -/
structure SF where
  val : ℚ
  rep : Rep val

theorem SF.ext {a b : SF} (h : a.val = b.val) : a = b := by
  cases a; cases b; cases h; rfl

theorem SF.ext_iff {a b : SF} : a = b ↔ a.val = b.val := ⟨fun h => by rw [h], SF.ext⟩

/-- the correctly rounded value of an exact result -/
def rnd (x : ℚ) : SF := ⟨rne32 x, rne32_idem x⟩

theorem rep_zero : Rep 0 := rne32_zero
theorem rep_neg {x : ℚ} (h : Rep x) : Rep (-x) := by unfold Rep at *; rw [rne32_neg, h]
theorem rep_abs {x : ℚ} (h : Rep x) : Rep |x| := by unfold Rep at *; rw [← rne32_abs, h]
theorem rep_of_representable (m e : ℤ) (hm : |m| < 2 ^ 24) (he : -149 ≤ e) : Rep (m * (2:ℚ) ^ e) :=
  rne32_of_representable m e hm he
theorem rep_intCast_small (n : ℤ) (h : |n| ≤ 2 ^ 24) : Rep (n : ℚ) := rne32_intCast_small n h

theorem rep_iff (x : ℚ) : Rep x ↔ ∃ m e : ℤ, |m| < 2 ^ 24 ∧ -149 ≤ e ∧ x = m * (2:ℚ) ^ e := by
  constructor
  · intro h
    obtain ⟨m, e, hm, he, hr⟩ := rne32_representable x
    exact ⟨m, e, hm, he, h.symm.trans hr⟩
  · rintro ⟨m, e, hm, he, rfl⟩
    exact rep_of_representable m e hm he

/-- a binary32 number is a multiple of the ulp `2^g` of any binade at or below its own (the converse is `rne32_of_onGrid`) -/
theorem rep_onGrid {r : ℚ} (hr : Rep r) {g : ℤ} (h : g ≤ -149 ∨ (2:ℚ) ^ (g + 23) ≤ |r|) : OnGrid g r := by
  have := rne32_onGrid r g h
  rwa [hr] at this

def SF.mk' (m e : ℤ) (hm : |m| < 2 ^ 24) (he : -149 ≤ e) : SF := ⟨m * (2:ℚ) ^ e, rep_of_representable m e hm he⟩

instance : Add SF := ⟨fun a b => rnd (a.val + b.val)⟩
instance : Sub SF := ⟨fun a b => rnd (a.val - b.val)⟩
instance : Mul SF := ⟨fun a b => rnd (a.val * b.val)⟩
/-- `x / 0` is `rne32 (x / 0) = rne32 0 = 0` (the hardware gives ±∞/NaN: outside the finite fragment) -/
instance : Div SF := ⟨fun a b => rnd (a.val / b.val)⟩
instance : Neg SF := ⟨fun a => ⟨-a.val, rep_neg a.rep⟩⟩
instance : LT SF := ⟨fun a b => a.val < b.val⟩
instance : LE SF := ⟨fun a b => a.val ≤ b.val⟩
instance : BEq SF := ⟨fun a b => decide (a.val = b.val)⟩
instance : DecidableLT SF := fun a b => inferInstanceAs (Decidable (a.val < b.val))
instance : DecidableLE SF := fun a b => inferInstanceAs (Decidable (a.val ≤ b.val))
instance : DecidableEq SF := fun a b => decidable_of_iff (a.val = b.val) SF.ext_iff.symm
/-- `n as f32` rounds; `x as i64` truncates toward zero and saturates; `abs` is exact; `powf` is a placeholder (no law
about it is used or claimed: the `powf` hypotheses of C12 stay hypotheses). -/
instance : FloatLike SF :=
  ⟨fun n => rnd (n : ℚ), fun x => satI64 (trunc x.val), fun _ _ => rnd 1, fun x => ⟨|x.val|, rep_abs x.rep⟩⟩

@[simp] theorem rnd_val (x : ℚ) : (rnd x).val = rne32 x := rfl
@[simp] theorem add_val (a b : SF) : (a + b).val = rne32 (a.val + b.val) := rfl
@[simp] theorem sub_val (a b : SF) : (a - b).val = rne32 (a.val - b.val) := rfl
@[simp] theorem mul_val (a b : SF) : (a * b).val = rne32 (a.val * b.val) := rfl
@[simp] theorem div_val (a b : SF) : (a / b).val = rne32 (a.val / b.val) := rfl
@[simp] theorem neg_val (a : SF) : (-a).val = -a.val := rfl
@[simp] theorem abs_val (a : SF) : (FloatLike.absF a).val = |a.val| := rfl
theorem ofInt_val (n : Int) : (FloatLike.ofInt n : SF).val = rne32 (n : ℚ) := rfl
theorem toInt_eq (a : SF) : FloatLike.toInt a = satI64 (trunc a.val) := rfl
theorem le_def (a b : SF) : a ≤ b ↔ a.val ≤ b.val := Iff.rfl
theorem lt_def (a b : SF) : a < b ↔ a.val < b.val := Iff.rfl
theorem beq_def (a b : SF) : (a == b) = decide (a.val = b.val) := rfl
@[simp] theorem rne32_val (a : SF) : rne32 a.val = a.val := a.rep

theorem ofInt_val_small (n : Int) (h : |n| ≤ 2 ^ 24) : (FloatLike.ofInt n : SF).val = n := by
  rw [ofInt_val, rne32_intCast_small n h]

@[simp] theorem c0_val : (c0 : SF).val = 0 := by
  have := ofInt_val_small 0 (by norm_num); simpa using this
@[simp] theorem c1_val : (c1 : SF).val = 1 := by
  have := ofInt_val_small 1 (by norm_num); simpa using this
theorem c0_le_iff (a : SF) : (c0 : SF) ≤ a ↔ 0 ≤ a.val := by rw [le_def, c0_val]
theorem c0_lt_iff (a : SF) : (c0 : SF) < a ↔ 0 < a.val := by rw [lt_def, c0_val]
theorem le_c1_iff (a : SF) : a ≤ c1 ↔ a.val ≤ 1 := by rw [le_def, c1_val]
@[simp] theorem c2_val : (c2 : SF).val = 2 := by
  have := ofInt_val_small 2 (by norm_num); simpa using this
@[simp] theorem c3_val : (c3 : SF).val = 3 := by
  have := ofInt_val_small 3 (by norm_num); simpa using this
@[simp] theorem cm1_val : (cm1 : SF).val = -1 := by
  have := ofInt_val_small (-1) (by norm_num); simpa using this
@[simp] theorem c1e9_val : (c1e9 : SF).val = 1000000000 := by
  show rne32 ((1000000000 : ℤ) : ℚ) = 1000000000
  have : ((1000000000 : ℤ) : ℚ) = 1000000000 := by norm_num
  rw [this, rne32_e9]
theorem rne32_half : rne32 (1 / 2) = 1 / 2 := by
  have h := rne32_two_zpow (-1) (by norm_num)
  have e : (2:ℚ) ^ (-1:ℤ) = 1 / 2 := by norm_num
  rw [e] at h; exact h
@[simp] theorem chalf_val : (chalf : SF).val = 1 / 2 := by
  show rne32 ((c1 : SF).val / (c2 : SF).val) = 1 / 2
  rw [c1_val, c2_val, rne32_half]

/-- `hcomm` of C04, `hadd` of C09 -/
theorem add_comm' : ∀ x y : SF, x + y = y + x := fun x y => SF.ext (by simp [add_comm])

/-- `hcomm` of C01, C18 -/
theorem mul_comm' : ∀ x y : SF, x * y = y * x := fun x y => SF.ext (by simp [mul_comm])

/-- `hzero` of C04, C12.  In the hardware format this fails, bitwise, exactly at `x = −0.0`
(`0.0 + −0.0 = +0.0`); `SF` has one zero, and the two results compare equal with `==`. -/
theorem zero_add' : ∀ x : SF, (c0 : SF) + x = x := fun x => SF.ext (by simp)

theorem add_zero' : ∀ x : SF, x + (c0 : SF) = x := fun x => SF.ext (by simp)

/-- `hneg` of C13 -/
theorem neg_neg' : ∀ x : SF, -(-x) = x := fun x => SF.ext (by simp)

theorem mul_one' : ∀ x : SF, x * c1 = x := fun x => SF.ext (by simp)
theorem one_mul' : ∀ x : SF, (c1 : SF) * x = x := fun x => SF.ext (by simp)
theorem mul_zero' : ∀ x : SF, x * c0 = c0 := fun x => SF.ext (by simp [rne32_zero])
theorem zero_mul' : ∀ x : SF, (c0 : SF) * x = c0 := fun x => SF.ext (by simp [rne32_zero])
theorem div_one' : ∀ x : SF, x / c1 = x := fun x => SF.ext (by simp)
theorem sub_zero' : ∀ x : SF, x - c0 = x := fun x => SF.ext (by simp)
theorem sub_self' : ∀ x : SF, x - x = c0 := fun x => SF.ext (by simp [rne32_zero])
theorem add_neg_self' : ∀ x : SF, x + -x = c0 := fun x => SF.ext (by simp [rne32_zero])
theorem sub_eq_add_neg' : ∀ x y : SF, x - y = x + -y := fun x y => SF.ext (by simp [sub_eq_add_neg])
/-- rounding is odd: a sign law of `SF` is the law of `ℚ` under `rnd` -/
theorem neg_rnd (x : ℚ) : -rnd x = rnd (-x) := SF.ext (rne32_neg x).symm
theorem neg_sub' : ∀ x y : SF, -(x - y) = y - x := fun _ _ => (neg_rnd _).trans (congrArg rnd (neg_sub _ _))
theorem neg_mul' : ∀ x y : SF, -x * y = -(x * y) := fun _ _ => (congrArg rnd (neg_mul _ _)).trans (neg_rnd _).symm
theorem mul_neg' : ∀ x y : SF, x * -y = -(x * y) := fun _ _ => (congrArg rnd (mul_neg _ _)).trans (neg_rnd _).symm
theorem neg_div' : ∀ x y : SF, -x / y = -(x / y) := fun _ _ => (congrArg rnd (neg_div _ _)).trans (neg_rnd _).symm
theorem mul_cm1' : ∀ x : SF, x * cm1 = -x := fun x => SF.ext (by simp [rne32_neg])

theorem le_refl' : ∀ a : SF, a ≤ a := fun a => le_refl a.val
/-- `htrans` of C06 -/
theorem le_trans' : ∀ a b c : SF, a ≤ b → b ≤ c → a ≤ c := fun _ _ _ h1 h2 => le_trans (α := ℚ) h1 h2
theorem le_antisymm' : ∀ a b : SF, a ≤ b → b ≤ a → a = b := fun _ _ h1 h2 => SF.ext (le_antisymm h1 h2)
theorem le_total' : ∀ a b : SF, a ≤ b ∨ b ≤ a := fun a b => le_total a.val b.val
theorem lt_iff_not_le' : ∀ a b : SF, a < b ↔ ¬ b ≤ a := fun a b => (not_le (a := b.val) (b := a.val)).symm
theorem lt_trans' : ∀ a b c : SF, a < b → b < c → a < c := fun _ _ _ h1 h2 => lt_trans (α := ℚ) h1 h2
theorem beq_iff_eq' : ∀ a b : SF, (a == b) = true ↔ a = b := fun a b => by
  rw [beq_def, decide_eq_true_iff, SF.ext_iff]

/-- every operation is monotone because rounding is -/
theorem add_mono : ∀ a b c d : SF, a ≤ b → c ≤ d → a + c ≤ b + d := fun _ _ _ _ h1 h2 =>
  rne32_mono _ _ (add_le_add h1 h2)
theorem sub_mono : ∀ a b c d : SF, a ≤ b → d ≤ c → a - c ≤ b - d := fun _ _ _ _ h1 h2 =>
  rne32_mono _ _ (sub_le_sub h1 h2)
theorem neg_mono : ∀ a b : SF, a ≤ b → -b ≤ -a := fun _ _ h => neg_le_neg (α := ℚ) h
theorem mul_mono_of_nonneg : ∀ a b c : SF, (c0 : SF) ≤ c → a ≤ b → a * c ≤ b * c := fun a b c hc h => by
  have hc' : (0:ℚ) ≤ c.val := (c0_le_iff c).1 hc
  exact rne32_mono _ _ (mul_le_mul_of_nonneg_right h hc')
theorem div_mono_of_nonneg : ∀ a b c : SF, (c0 : SF) ≤ c → a ≤ b → a / c ≤ b / c := fun a b c hc h => by
  have hc' : (0:ℚ) ≤ c.val := (c0_le_iff c).1 hc
  exact rne32_mono _ _ (div_le_div_of_nonneg_right h hc')

/-- `hmul` of C06 -/
theorem mul_e9_mono : ∀ a b : SF, a ≤ b → a * c1e9 ≤ b * c1e9 := fun a b =>
  mul_mono_of_nonneg a b c1e9 ((c0_le_iff _).2 (by rw [c1e9_val]; norm_num))

/-- `hto` of C06 -/
theorem toInt_mono : ∀ a b : SF, a ≤ b → FloatLike.toInt a ≤ FloatLike.toInt b := fun _ _ h =>
  satI64_mono _ _ (trunc_mono _ _ h)

theorem le_add_right' : ∀ a b : SF, (c0 : SF) ≤ b → a ≤ a + b := fun a b hb => by
  have hb' : (0:ℚ) ≤ b.val := (c0_le_iff b).1 hb
  rw [le_def, add_val]
  calc a.val = rne32 a.val := a.rep.symm
    _ ≤ rne32 (a.val + b.val) := rne32_mono _ _ (by linarith only [hb'])

/-- the same in the shape of `hadd` of C06, whose sign condition on `a` is not needed -/
theorem le_add_of_nonneg : ∀ a b : SF, (c0 : SF) ≤ a → (c0 : SF) ≤ b → a ≤ a + b := fun a b _ hb =>
  le_add_right' a b hb

theorem add_nonneg' : ∀ a b : SF, (c0 : SF) ≤ a → (c0 : SF) ≤ b → (c0 : SF) ≤ a + b := fun a b ha hb =>
  le_trans' _ _ _ ha (le_add_of_nonneg a b ha hb)

/-- `hz` of C06 -/
theorem toInt_zero_mul : FloatLike.toInt ((c0 : SF) * c1e9) = 0 := by
  rw [toInt_eq, mul_val, c0_val, zero_mul, rne32_zero, trunc_zero, satI64_zero]

theorem toInt_c0 : FloatLike.toInt (c0 : SF) = 0 := by rw [toInt_eq, c0_val, trunc_zero, satI64_zero]

/-- doubling is exact (the exponent is unbounded upward in the model; in hardware: unless it overflows) -/
theorem rep_two_mul {x : ℚ} (h : Rep x) : Rep (x * 2) := by
  obtain ⟨m, e, hm, he, rfl⟩ := (rep_iff x).1 h
  have : (m:ℚ) * (2:ℚ) ^ e * 2 = m * (2:ℚ) ^ (e + 1) := by rw [zpow_succ2]; ring
  rw [this]; exact rep_of_representable m (e + 1) hm (by omega)

/-- both steps are exact -/
theorem mul_two_mul_half : ∀ x : SF, (x * c2) * chalf = x := fun x => SF.ext (by
  have h2 : rne32 (x.val * 2) = x.val * 2 := rep_two_mul x.rep
  simp only [mul_val, c2_val, chalf_val, h2]
  have : x.val * 2 * (1 / 2) = x.val := by ring
  rw [this, x.rep])

theorem half_mul_two : (chalf : SF) * c2 = c1 := by decide +kernel

/-! #### absolute value (`habs_nonneg`, `habs_neg` of C19) -/

theorem abs_of_nonneg' : ∀ v : SF, (c0 : SF) ≤ v → FloatLike.absF v = v := fun v h => by
  have h' : (0:ℚ) ≤ v.val := (c0_le_iff v).1 h
  exact SF.ext (by rw [abs_val, abs_of_nonneg h'])

theorem abs_of_not_nonneg' : ∀ v : SF, ¬ (c0 : SF) ≤ v → FloatLike.absF v = -v := fun v h => by
  have h' : v.val < 0 := not_le.1 fun h0 => h ((c0_le_iff v).2 h0)
  exact SF.ext (by rw [abs_val, neg_val, abs_of_neg h'])

theorem abs_nonneg' : ∀ v : SF, (c0 : SF) ≤ FloatLike.absF v := fun v =>
  (c0_le_iff _).2 (abs_nonneg v.val)

/-! #### negation (`NegLaws` of C07)

In the orientation the mirror theorem of C07 uses them (`Thm/Ext/C07.lean`): negation commutes with the correctly rounded
`+ − * /` (round-to-nearest-even is an odd function, `rne32_neg`), with the comparisons, and fixes the literal `0.0` (`SF` has
one zero). -/

theorem neg_add_neg' : ∀ a b : SF, -a + -b = -(a + b) := fun a b =>
  (congrArg rnd (neg_add a.val b.val).symm).trans (neg_rnd _).symm

theorem neg_sub_neg' : ∀ a b : SF, -a - -b = -(a - b) := fun a b =>
  (congrArg rnd (by rw [neg_sub_neg, neg_sub] : -a.val - -b.val = -(a.val - b.val))).trans (neg_rnd _).symm

/-- also at `b = 0`, where both sides are `0` in `SF` -/
theorem div_neg' : ∀ a b : SF, a / -b = -(a / b) := fun _ _ => (congrArg rnd (div_neg _)).trans (neg_rnd _).symm

/-- `-0.0 = 0.0`: `SF` has a single zero.  In the hardware format `-0.0` and `+0.0` differ in the sign bit and compare
equal with `==`. -/
theorem neg_c0' : -(c0 : SF) = c0 := SF.ext (by simp)

theorem neg_c1' : -(c1 : SF) = cm1 := SF.ext (by simp)

theorem neg_cm1' : -(cm1 : SF) = c1 := SF.ext (by simp)

theorem neg_lt_neg' : ∀ a b : SF, -a < -b ↔ b < a := fun a b => by
  rw [lt_def, lt_def, neg_val, neg_val]; exact neg_lt_neg_iff

theorem neg_le_neg' : ∀ a b : SF, -a ≤ -b ↔ b ≤ a := fun a b => by
  rw [le_def, le_def, neg_val, neg_val]; exact neg_le_neg_iff

theorem lt_asymm' : ∀ a b : SF, a < b → ¬ b < a := fun a b h => by
  rw [lt_def] at *; exact lt_asymm h

/-- distinct values are strictly ordered (no NaN in `SF`) -/
theorem lt_or_gt_of_ne' : ∀ a b : SF, a ≠ b → a < b ∨ b < a := fun a b h => by
  rw [lt_def, lt_def]
  exact lt_or_gt_of_ne (fun hv => h (SF.ext hv))

theorem neg_beq_neg' : ∀ a b : SF, (-a == -b) = (a == b) := fun a b => by
  rw [beq_def, beq_def, neg_val, neg_val]
  exact decide_eq_decide.2 neg_inj

theorem abs_neg' : ∀ x : SF, FloatLike.absF (-x) = FloatLike.absF x := fun x => SF.ext (by
  rw [abs_val, abs_val, neg_val, abs_neg])

theorem beq_c0_false_iff (a : SF) : (a == (c0 : SF)) = false ↔ a ≠ c0 := by
  rw [Ne, ← beq_iff_eq' a c0, Bool.not_eq_true]

/-- `1.5 = 3 · 2^-1` -/
def x1_5 : SF := SF.mk' 3 (-1) (by norm_num) (by norm_num)
/-- `1e9 = 1953125 · 2^9` -/
def x1e9 : SF := SF.mk' 1953125 9 (by norm_num) (by norm_num)
/-- the smallest positive subnormal `2^-149` -/
def xMinSub : SF := SF.mk' 1 (-149) (by norm_num) (by norm_num)
/-- `2^24` and `2^24 + 2` (consecutive binary32 values) -/
def x2p24 : SF := SF.mk' 8388608 1 (by norm_num) (by norm_num)
def x2p24p2 : SF := SF.mk' 8388609 1 (by norm_num) (by norm_num)

theorem x1_5_val : x1_5.val = 3 / 2 := by decide +kernel
example : x1_5.val = 3 / 2 := x1_5_val
example : x1e9 = (c1e9 : SF) := by decide +kernel
example : (c0 : SF) < xMinSub := by decide +kernel
theorem x2p24_val : x2p24.val = 16777216 := by decide +kernel
theorem x2p24p2_val : x2p24p2.val = 16777218 := by decide +kernel

/-- `16777216.0 + 1.0 = 16777216.0`: the addition rounds (tie to even) -/
theorem add_rounds : x2p24 + c1 = x2p24 := by decide +kernel
/-- the same with the literals of the model: `(16777216 as f32) + 1.0 = 16777216 as f32` -/
example : (FloatLike.ofInt 16777216 : SF) + c1 = FloatLike.ofInt 16777216 := by decide +kernel
/-- `16777217 as f32 = 16777216.0`: the conversion rounds -/
example : (FloatLike.ofInt 16777217 : SF) = FloatLike.ofInt 16777216 := by decide +kernel
/-- `1.0 / 3.0` is the binary32 number `11184811 · 2^-25`, not `1/3` -/
example : ((c1 : SF) / c3).val = 11184811 / 33554432 := by decide +kernel
/-- `+` is NOT associative: `(2^24 + 1) + 1 = 2^24` but `2^24 + (1 + 1) = 2^24 + 2` -/
theorem add_not_assoc : (x2p24 + c1) + c1 ≠ x2p24 + ((c1 : SF) + c1) := by decide +kernel
/-- halving is NOT invertible on subnormals: `(2^-149 * 0.5) * 2.0 = 0` (the order in `mul_two_mul_half` matters) -/
theorem half_then_double_counterexample : (xMinSub * chalf) * c2 = c0 ∧ xMinSub ≠ c0 := by decide +kernel
/-- the laws are used at non-trivial data: the hypotheses of the order laws are satisfiable -/
example : (c0 : SF) ≤ x1_5 ∧ x1_5 ≤ x1e9 := by decide +kernel
/-- `as i64` truncates toward zero and saturates -/
example : FloatLike.toInt x1_5 = 1 ∧ FloatLike.toInt (-x1_5) = -1 := by decide +kernel

/-! ### what `SF` does not see: the sign of zero

`SF` identifies `+0.0` and `−0.0` (both decode to the rational `0`).  Two of the discharged laws hold in the hardware
format only up to that identification — on the bit-level model `Rrtk.Soft.binop` (same rounding, IEEE-754 §6.3 zero
signs) `0.0 + (−0.0)` is `+0.0`, so `hzero : 0.0 + x = x` fails BITWISE at the single finite value `x = −0.0`; likewise
`habs_nonneg` of C19 (`0.0 ≤ −0.0` holds and `abs (−0.0) = +0.0`).  The two sides still compare equal (`==`) and decode to
the same number, which is what the `*_binary32` corollaries state. -/
example : binop .add 0 0x80000000 = some 0 := by decide +kernel
example : binop .add 0 0x80000000 ≠ some 0x80000000 := by decide +kernel
example : decode 0 = some 0 ∧ decode 0x80000000 = some 0 := by decide +kernel
/-- an ordinary pair of operands, where the bit-level sum is what `SF` computes: `2^24 + 1 = 2^24`
(`0x4b800000 + 0x3f800000`) -/
example : binop .add 0x4b800000 0x3f800000 = some 0x4b800000 := by decide +kernel
example : decode 0x4b800000 = some x2p24.val ∧ decode 0x3f800000 = some (c1 : SF).val := by decide +kernel

end Rrtk.Thm.SoftScalar
