/-
C17, the heap machine extended by the statements of `Rrtk/RefAlias.lean`, program by program: `rawAlias` and `cloneFrom` join
the statement set (`toDyn…With` at the arm table of the build is the `to_dyn!` the machine has already: `toDyn…With_std`).
Every program over the extended set keeps `HInvA` (`Thm/Lemmas/C17HeapInv.lean`), so a cell lives while a COUNTED handle to
it exists, while a raw alias may dangle; `clone_from` makes its slot an owner (scenario, and the mutant that skips equal
addresses).  `HInv` — every handle of its cell's kind and counted in the cell's `strong` — is what a raw alias of an `Rc` /
`Arc` object breaks (`hinv_rawAlias_false`); it survives `rawAlias` of a static and `clone_from`.
Tier S (no scalar).
-/
import Rrtk.Thm.Lemmas.C17HeapInv
namespace Rrtk.Thm.C17
open Rrtk

/-! ## `to_dyn!` with the arm table as a parameter -/

theorem toDynWith_std (feats : List String) (hp : Heap) (h : RHandle) :
    Heap.toDynWith (toDynHasArm feats) hp h = Heap.toDyn feats hp h := rfl

theorem toDynMoveWith_std (feats : List String) (s : RState) (i : Nat) :
    s.toDynMoveWith (toDynHasArm feats) i = s.toDynMove feats i := rfl

theorem toDynCloneWith_std (feats : List String) (s : RState) (i : Nat) :
    s.toDynCloneWith (toDynHasArm feats) i = s.toDynClone feats i := rfl

/-! ## `clone_from` -/

/-- after a successful `clone_from`, slot `i` holds the source handle: same variant, address and `dyn`-ness, so it
denotes the same object and — for a counted source — owns a share; the other slots are untouched -/
theorem cloneFrom_slot (s s' : RState) (i j : Nat) (he : s.cloneFrom i j = .ok s') :
    ∃ src h', s.slot j = .ok src ∧ s'.slot i = .ok h' ∧
      h'.variant = src.variant ∧ h'.addr = src.addr ∧ h'.isDyn = src.isDyn ∧
      s'.table = s.table.set i (some h') ∧ s'.table.length = s.table.length := by
  obtain ⟨old, src, hp, hi, hj, hcl, hd, htab⟩ := cloneFrom_ok he
  refine ⟨src, src, slot_ok.2 hj, slot_ok.2 ?_, rfl, rfl, rfl, htab, by rw [htab]; simp⟩
  rw [htab, List.getD_eq_getElem?_getD, List.getElem?_set_self (getD_lt hi)]; rfl

/-- non-vacuity: `clone_from` of an `Arc` handle onto a raw alias of the same object -/
example : (⟨[⟨.arcMutex, 0, false, 1⟩], [some ⟨.arcMutex, 0, false⟩, some ⟨.ptrMutex, 0, false⟩]⟩ : RState).cloneFrom 1 0 =
    .ok ⟨[⟨.arcMutex, 0, false, 2⟩], [some ⟨.arcMutex, 0, false⟩, some ⟨.arcMutex, 0, false⟩]⟩ := by rfl

/-! ## the extended machine -/

/-- the statements of `RefHeap.lean` plus `rawAlias` and `cloneFrom` -/
inductive HOp' where
  | base (op : HOp)
  | rawAlias (i : Nat)
  | cloneFrom (i j : Nat)
  deriving DecidableEq, Repr

/-- one statement, with the implementation of `clone_from` as a parameter (the mutant below plugs in its own) -/
def hexecWith' (cf : RState → Nat → Nat → Except HFault RState) (feats : List String) (s : RState) :
    HOp' → Except HFault RState
  | .base op => hexec feats s op
  | .rawAlias i => s.rawAlias i
  | .cloneFrom i j => cf s i j

def hexec' (feats : List String) : RState → HOp' → Except HFault RState := hexecWith' RState.cloneFrom feats

def hrunWith' (ex : RState → HOp' → Except HFault RState) : RState → List HOp' → Except HFault RState
  | s, [] => .ok s
  | s, op :: rest =>
    match ex s op with
    | .error e => .error e
    | .ok s' => hrunWith' ex s' rest

def hrun' (feats : List String) : RState → List HOp' → Except HFault RState := hrunWith' (hexec' feats)

/-- a heap + handle table produced by SOME program of the extended statement set from nothing -/
def Reachable' (s : RState) : Prop := ∃ feats ops, hrun' feats RState.empty ops = .ok s

theorem hinvA_exec' (feats : List String) (s s' : RState) (op : HOp') (hI : HInvA s) (he : hexec' feats s op = .ok s') :
    HInvA s' := by
  cases op with
  | base op => exact hinvA_hexec feats s s' op hI he
  | rawAlias i => exact hinvA_rawAlias s s' i hI he
  | cloneFrom i j => exact hinvA_cloneFrom s s' i j hI he

theorem hinvA_run' (feats : List String) (s s' : RState) (ops : List HOp') (hI : HInvA s)
    (hr : hrun' feats s ops = .ok s') : HInvA s' := by
  induction ops generalizing s with
  | nil => obtain rfl : s = s' := Except.ok.inj hr; exact hI
  | cons op rest ih =>
    rw [hrun', hrunWith'] at hr
    cases he : hexec' feats s op with
    | error e => rw [he] at hr; cases hr
    | ok s1 => rw [he] at hr; exact ih s1 (hinvA_exec' feats s s1 op hI he) hr

theorem hinvA_reachable' (s : RState) (hr : Reachable' s) : HInvA s := by
  obtain ⟨feats, ops, h⟩ := hr
  exact hinvA_run' feats _ s ops hinvA_empty h

theorem reachable_reachable' (s : RState) (hr : Reachable s) : Reachable' s := by
  obtain ⟨feats, ops, h⟩ := hr
  refine ⟨feats, ops.map .base, ?_⟩
  have : ∀ (s0 : RState) (l : List HOp), hrun' feats s0 (l.map .base) = hrun feats s0 l := by
    intro s0 l
    induction l generalizing s0 with
    | nil => rfl
    | cons op rest ih =>
      simp only [List.map_cons, hrun', hrunWith', hexec', hexecWith', hrun, hrunWith]
      cases hexec feats s0 op with
      | error e => rfl
      | ok s1 => exact ih s1
  rw [this]; exact h

/-- **A cell lives while a COUNTED handle to it exists — on the extended machine.** In every state reachable with the
statements of `RefHeap.lean`, `rawAlias` and `cloneFrom`, in any order: (1) the strong count of a live `Rc` / `Arc` cell IS
the number of COUNTED handles to it (raw aliases own nothing), and is ≥ 1; (2) a freed cell has no counted handle;
(3) from the handle's side, every counted handle in the table points at an allocated, un-freed cell of its own kind, and
reading through it succeeds; (4) static cells are never freed; (5) every handle, raw aliases included, points at an allocated
cell of its own kind or (raw alias) at the object kind it is the raw pointer into. -/
theorem counted_cell_live_while_any_counted_handle' (s : RState) (hr : Reachable' s) :
    (∀ (a : Nat) (c : HCell), s.heap[a]? = some c → c.kind.counted = true → c.freed = false →
      c.strong = cntC a s.table ∧ 1 ≤ cntC a s.table) ∧
    (∀ (a : Nat) (c : HCell), s.heap[a]? = some c → c.freed = true → cntC a s.table = 0) ∧
    (∀ i h, s.table.getD i none = some h → h.variant.counted = true →
      ∃ c, s.heap[h.addr]? = some c ∧ c.kind = h.variant ∧ c.freed = false ∧ s.read i = .ok c.value) ∧
    (∀ (a : Nat) (c : HCell), s.heap[a]? = some c → c.kind.counted = false → c.freed = false) ∧
    (∀ h, some h ∈ s.table → ∃ c, s.heap[h.addr]? = some c ∧ (h.variant = c.kind ∨ h.variant = c.kind.rawOf)) := by
  have hI := hinvA_reachable' s hr
  refine ⟨?_, ?_, ?_, ?_, hI.1⟩
  · intro a c hc hk hf
    obtain ⟨hs, h1⟩ := (hI.2 a c hc).1 hk hf
    exact ⟨hs, hs ▸ h1⟩
  · intro a c hc hf; exact (hI.2 a c hc).2.1 hf
  · intro i h hi hk
    obtain ⟨c, hcell, hkc⟩ := live_cell_counted s hI h (mem_of_getD hi) hk
    obtain ⟨hc, hf⟩ := cell_ok.1 hcell
    exact ⟨c, hc, hkc, hf, read_live hi hcell⟩
  · intro a c hc hk; exact (hI.2 a c hc).2.2 hk

/-- non-vacuity: a state reached through a raw alias and a `clone_from` onto it (slot 1), the source then dropped -/
example : Reachable' ⟨[⟨.arcMutex, 0, false, 1⟩], [none, some ⟨.arcMutex, 0, false⟩]⟩ :=
  ⟨[], [.base (.alloc .arcMutex 0), .rawAlias 0, .cloneFrom 1 0, .base (.drop 0)], rfl⟩

/-- a raw alias does NOT keep the object alive: the corresponding statement about ALL handles is false on the extended
machine (this is the model saying what raw-pointer user code can do, not a defect) -/
theorem raw_alias_can_dangle :
    ∃ s, Reachable' s ∧ s.table.getD 1 none = some ⟨.ptrMutex, 0, false⟩ ∧ s.read 1 = .error .useAfterFree :=
  ⟨_, ⟨[], [.base (.alloc .arcMutex 0), .rawAlias 0, .base (.drop 0)], rfl⟩, rfl, rfl⟩

/-! ## `clone_from` onto a raw alias of the same `Rc` / `Arc` -/

/-- MUTANT of `clone_from`: "self and source already point at the same object, nothing to do" -/
def cloneFromSkipSameAddr (s : RState) (i j : Nat) : Except HFault RState :=
  match s.slot i with
  | .error e => .error e
  | .ok old =>
    match s.slot j with
    | .error e => .error e
    | .ok src => if old.addr = src.addr then .ok s else s.cloneFrom i j

/-- `let a = <counted constructor>(0); let b = from_ptr…(as_ptr(&a)); b.clone_from(&a); drop(a);` -/
def aliasScenario (k : RefVariant) : List HOp' :=
  [.base (.alloc k 0), .rawAlias 0, .cloneFrom 1 0, .base (.drop 0)]

/-- **`clone_from` onto a raw alias of the same `Rc` / `Arc` makes it an owner.** After the scenario the object is still
allocated with strong count 1, slot 1 holds a COUNTED handle and reading through it succeeds; with the mutant that skips
the assignment when both sides point at the same object the object IS freed, slot 1 still holds the raw pointer, and
reading through it is a use after free. -/
theorem cloneFrom_then_drop_source_live (k : RefVariant) (hk : k.counted = true) :
    (∃ s, hrun' [] RState.empty (aliasScenario k) = .ok s ∧ s.live0 = true ∧
      s.heap = [⟨k, 0, false, 1⟩] ∧ s.table = [none, some ⟨k, 0, false⟩] ∧ s.read 1 = .ok 0) ∧
    (∃ s, hrunWith' (hexecWith' cloneFromSkipSameAddr []) RState.empty (aliasScenario k) = .ok s ∧ s.live0 = false ∧
      s.heap = [⟨k, 0, true, 0⟩] ∧ s.table = [none, some ⟨k.rawOf, 0, false⟩] ∧ s.read 1 = .error .useAfterFree) := by
  -- once `k` is a constructor both runs are closed terms and evaluate
  cases k with
  | rcRefCell => exact ⟨⟨_, rfl, rfl, rfl, rfl, rfl⟩, ⟨_, rfl, rfl, rfl, rfl, rfl⟩⟩
  | arcRwLock => exact ⟨⟨_, rfl, rfl, rfl, rfl, rfl⟩, ⟨_, rfl, rfl, rfl, rfl, rfl⟩⟩
  | arcMutex => exact ⟨⟨_, rfl, rfl, rfl, rfl, rfl⟩, ⟨_, rfl, rfl, rfl, rfl, rfl⟩⟩
  | ptr => cases hk
  | ptrRwLock => cases hk
  | ptrMutex => cases hk

example : RefVariant.arcMutex.counted = true := rfl

theorem cloneFromSkipSameAddr_diff (s : RState) (i j : Nat) (old src : RHandle) (hi : s.slot i = .ok old)
    (hj : s.slot j = .ok src) (hne : old.addr ≠ src.addr) : cloneFromSkipSameAddr s i j = s.cloneFrom i j := by
  simp [cloneFromSkipSameAddr, hi, hj, hne]

example : (⟨[⟨.arcMutex, 0, false, 1⟩, ⟨.arcMutex, 7, false, 1⟩], [some ⟨.arcMutex, 0, false⟩, some ⟨.arcMutex, 1, false⟩]⟩ : RState).slot 0
    = .ok ⟨.arcMutex, 0, false⟩ := rfl

/-- the mutant does not meet what `cloneFrom_slot` says of the real `clone_from`: after it the slot still holds the raw
alias, so (`cloneFrom_then_drop_source_live`) `drop` of the source frees a cell that the program then reads through
slot 1.  (It does keep `HInvA`: it returns the state unchanged or runs the real `clone_from`.) -/
theorem cloneFromSkipSameAddr_refuted :
    ¬ (∀ s i j s', Reachable' s → cloneFromSkipSameAddr s i j = .ok s' →
        ∃ src h', s.slot j = .ok src ∧ s'.slot i = .ok h' ∧ h'.variant = src.variant) := by
  intro h
  obtain ⟨src, h', h1, h2, h3⟩ := h ⟨[⟨.arcMutex, 0, false, 1⟩], [some ⟨.arcMutex, 0, false⟩, some ⟨.ptrMutex, 0, false⟩]⟩ 1 0 _
    ⟨[], [.base (.alloc .arcMutex 0), .rawAlias 0], rfl⟩ rfl
  obtain rfl : ⟨.arcMutex, 0, false⟩ = src := Except.ok.inj h1
  obtain rfl : ⟨.ptrMutex, 0, false⟩ = h' := Except.ok.inj h2
  cases h3

/-! ## `HInv` (the invariant of the machine WITHOUT raw aliases) against `HInvA` -/

/-- **`HInv` is NOT preserved by `rawAlias`** of a counted handle: the raw handle is a handle to the cell that is neither
of the cell's kind nor counted in `strong` (`HInvA` is preserved: `hinvA_rawAlias`) -/
theorem hinv_rawAlias_false : ¬ (∀ s i s', HInv s → s.rawAlias i = .ok s' → HInv s') := by
  intro h
  have h0 : HInv (RState.init .arcMutex) := hinv_reachable _ ⟨[], [.alloc .arcMutex 0], rfl⟩
  have h1 := h (RState.init .arcMutex) 0
    ⟨[⟨.arcMutex, 0, false, 1⟩], [some ⟨.arcMutex, 0, false⟩, some ⟨.ptrMutex, 0, false⟩]⟩ h0 rfl
  obtain ⟨c, hc, hk⟩ := h1.1 ⟨.ptrMutex, 0, false⟩ (by simp)
  simp only [List.getElem?_cons_zero, Option.some.injEq] at hc
  subst hc
  cases hk

/-- `HInv` is preserved by `rawAlias` of a handle that is itself a raw pointer (a static).
MISSING for the full statement: the case of a counted handle in slot `i`, where the statement is FALSE
(`hinv_rawAlias_false`); the full-strength theorem is `hinvA_rawAlias`, about `HInvA`. -/
theorem hinv_rawAlias_partial (s s' : RState) (i : Nat) (hI : HInv s) (he : s.rawAlias i = .ok s')
    (hraw : ∀ h, s.slot i = .ok h → h.variant.counted = false) : HInv s' := by
  obtain ⟨hA, hP⟩ := (hinv_iff s).1 hI
  refine (hinv_iff s').2 ⟨hinvA_rawAlias s s' i hA he, ?_⟩
  obtain ⟨h, _, hi, _, rfl⟩ := rawAlias_ok he
  -- the alias of a raw handle has that handle's variant
  rw [rawOf_raw _ (hraw h (slot_ok.2 hi))]
  exact proper_of_frame s _ hP (fun a c hc => ⟨c, hc, rfl⟩) ((Inherits.refl _).push (mem_of_getD hi) rfl rfl)

/-- non-vacuity: a raw alias of a static -/
example : (RState.init .ptrMutex).rawAlias 0 =
    .ok ⟨[⟨.ptrMutex, 0, false, 0⟩], [some ⟨.ptrMutex, 0, false⟩, some ⟨.ptrMutex, 0, false⟩]⟩ := rfl
example : ∀ h, (RState.init .ptrMutex).slot 0 = .ok h → h.variant.counted = false := by
  intro h hh
  obtain rfl : ⟨.ptrMutex, 0, false⟩ = h := Except.ok.inj hh
  rfl

/-- **`clone_from` preserves `HInv`** (full statement: any `i`, `j`, also `i = j`; old and source counted or raw, at the
same address or not) — on the machine without raw aliases, where every handle to a counted cell is counted -/
theorem hinv_cloneFrom (s s' : RState) (i j : Nat) (hI : HInv s) (he : s.cloneFrom i j = .ok s') : HInv s' := by
  obtain ⟨hA, hP⟩ := (hinv_iff s).1 hI
  refine (hinv_iff s').2 ⟨hinvA_cloneFrom s s' i j hA he, ?_⟩
  obtain ⟨old, src, hp, hi, hj, hcl, hd, htab⟩ := cloneFrom_ok he
  -- the clone and the drop keep the kind of every cell; the slot gets the source handle
  refine proper_of_frame s s' hP (fun a c hc => ?_) (htab ▸ Inherits.set (mem_of_getD hj) i)
  obtain ⟨c1, hc1, hk1, _⟩ := (heap_clone_ok hcl).2.frame hc
  obtain ⟨c2, hc2, hk2, _⟩ := (heap_drop_ok hd).frame hc1
  exact ⟨c2, hc2, hk2.trans hk1⟩

/-- non-vacuity: `clone_from` between two `Arc`s of different objects frees the old target -/
example : hrun' [] RState.empty [.base (.alloc .arcMutex 1), .base (.alloc .arcMutex 2), .cloneFrom 0 1] =
    .ok ⟨[⟨.arcMutex, 1, true, 0⟩, ⟨.arcMutex, 2, false, 2⟩], [some ⟨.arcMutex, 1, false⟩, some ⟨.arcMutex, 1, false⟩]⟩ := rfl
example : HInv ⟨[⟨.arcMutex, 1, false, 1⟩, ⟨.arcMutex, 2, false, 1⟩], [some ⟨.arcMutex, 0, false⟩, some ⟨.arcMutex, 1, false⟩]⟩ :=
  hinv_reachable _ ⟨[], [.alloc .arcMutex 1, .alloc .arcMutex 2], rfl⟩

/-! ### non-vacuity of the `HInvA` theorems -/

/-- a state WITH a raw alias into an `Arc` object satisfies `HInvA` (and not `HInv`: `hinv_rawAlias_false`) -/
example : HInvA ⟨[⟨.arcMutex, 0, false, 1⟩], [some ⟨.arcMutex, 0, false⟩, some ⟨.ptrMutex, 0, false⟩]⟩ :=
  hinvA_reachable' _ ⟨[], [.base (.alloc .arcMutex 0), .rawAlias 0], rfl⟩
example : (RState.init .arcMutex).rawAlias 0 =
    .ok ⟨[⟨.arcMutex, 0, false, 1⟩], [some ⟨.arcMutex, 0, false⟩, some ⟨.ptrMutex, 0, false⟩]⟩ := rfl
example : (RState.init .rcRefCell).toDynCloneWith (fun _ => true) 0 =
    .ok ⟨[⟨.rcRefCell, 0, false, 2⟩], [some ⟨.rcRefCell, 0, false⟩, some ⟨.rcRefCell, 0, true⟩]⟩ := rfl
example : (RState.init .rcRefCell).toDynMoveWith (fun _ => true) 0 =
    .ok ⟨[⟨.rcRefCell, 0, false, 1⟩], [none, some ⟨.rcRefCell, 0, true⟩]⟩ := rfl
/-- `clone_from` onto itself (`i = j`) of the only `Arc` handle: count 1 → 2 → 1, not freed -/
example : (RState.init .arcRwLock).cloneFrom 0 0 = .ok (RState.init .arcRwLock) := rfl
/-- `clone_from` of a raw alias onto the only `Arc` handle: the object is freed, both handles now dangle -/
example : (⟨[⟨.arcMutex, 0, false, 1⟩], [some ⟨.arcMutex, 0, false⟩, some ⟨.ptrMutex, 0, false⟩]⟩ : RState).cloneFrom 0 1 =
    .ok ⟨[⟨.arcMutex, 0, true, 0⟩], [some ⟨.ptrMutex, 0, false⟩, some ⟨.ptrMutex, 0, false⟩]⟩ := rfl

end Rrtk.Thm.C17
