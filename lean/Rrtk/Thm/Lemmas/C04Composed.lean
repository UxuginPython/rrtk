/-
C04, last clause: the PID stream agrees with the same controller ASSEMBLED from the crate's own difference, integral,
derivative, product and sum streams (`Streams/Composed.lean`, the wiring of `examples/pid.rs`).

Tier L.  The two computations use the same operators on the same operands except that (1) the integral stream adds the new
trapezoid in front (`addend + sum`) while the PID adds it behind (`sum + addend`), and (2) the PID starts its integral from
`0 + 0` while the integral stream has no leading zero and the absent integral/derivative are replaced by `0` through
`NoneToValue`.  Hence two laws of IEEE addition are needed: `x + y = y + x` and `0 + x = x` (the latter fails only for
`x = -0.0`, where the results still agree as numbers); `Thm/Ext/C04.lean` proves both for the binary32 scalar `SF`.  With
them the outputs coincide EXACTLY, at every update that saw a present input, for every history of present / absent /
errored events.  At absent inputs the categories differ by design (the assembled controller derives its clock from the
input and reports `FromNone`), and both controllers reset.

Units: proved for `chk = false` (units erased); `Lemmas/C04ComposedChecked.lean` carries checked runs over to it by unit erasure.
-/
import Rrtk.Streams.Composed
import Rrtk.Thm.Lemmas.Pid
import Rrtk.Thm.Lemmas.Run
set_option linter.unusedSectionVars false
namespace Rrtk.Thm.C04
open Rrtk

variable {F : Type} [Add F] [Sub F] [Mul F] [Div F] [Neg F] [LT F] [LE F] [BEq F]
  [DecidableLT F] [DecidableLE F] [FloatLike F]

/-- the f32 view of a quantity event -/
def toF (ev : Output (Quantity F)) : Output F :=
  match ev with
  | .error e => .error e
  | .ok none => .ok none
  | .ok (some d) => .ok (some ⟨d.time, d.value.value⟩)

/-- the unit of everything the unchecked wiring computes (`DUnit.new false _ _`; `setpoint − input` drops the input's own unit) -/
def u0 : DUnit := ⟨0, 0⟩

/-- the relation between the PID's memory and the assembled controller's memory -/
inductive Rel : PidS F → SpidS F → Prop where
  /-- both freshly reset -/
  | fresh (p : PidS F) (s : SpidS F) (h1 : p.prevError = none) (h2 : p.intError = c0)
      (h3 : s.int.prev = none) (h4 : s.drv.prev = none) : Rel p s
  /-- one sample seen since the reset -/
  | one (p : PidS F) (s : SpidS F) (t : Int) (e : F) (h1 : p.prevError = some ⟨t, e⟩) (h2 : p.intError = c0)
      (h3 : s.int = ⟨.ok none, some ⟨t, ⟨e, u0⟩⟩⟩) (h4 : s.drv.prev = some ⟨t, ⟨e, u0⟩⟩) : Rel p s
  /-- at least two samples: the running integrals agree -/
  | many (p : PidS F) (s : SpidS F) (t : Int) (e I : F) (h1 : p.prevError = some ⟨t, e⟩) (h2 : p.intError = I)
      (h3 : s.int = ⟨.ok (some ⟨t, ⟨I, u0⟩⟩), some ⟨t, ⟨e, u0⟩⟩⟩) (h4 : s.drv.prev = some ⟨t, ⟨e, u0⟩⟩) : Rel p s

theorem rel_init : Rel (Pid.init : PidS F) (Spid.init : SpidS F) := Rel.fresh _ _ rfl rfl rfl rfl

/-- the error signal of the assembled controller on a present input, either build: `setpoint − input` at the input's time
(setpoint and input are both stamped with it), or the subtraction's dimension panic -/
theorem errorSignal_present_eq (chk : Bool) (sp : F) (d : Datum (Quantity F)) :
    Spid.errorSignal chk sp (.ok (some d)) =
      (Quantity.sub chk ⟨sp, MILLIMETER chk⟩ d.value).map fun q => .ok (some ⟨d.time, q⟩) := by
  simp only [Spid.errorSignal, Stream.timeGetterFromGetter, Stream.noneToError, Stream.constantGetter, diffQ, ite_self]
  cases Quantity.sub chk ⟨sp, MILLIMETER chk⟩ d.value <;> rfl
/-- unchecked units: never a panic -/
theorem errorSignal_present (sp : F) (d : Datum (Quantity F)) :
    Spid.errorSignal false sp (.ok (some d)) = .ok (.ok (some ⟨d.time, ⟨sp - d.value.value, u0⟩⟩)) :=
  errorSignal_present_eq false sp d
theorem errorSignal_absent (sp : F) :
    Spid.errorSignal (F := F) false sp (.ok none) = .ok (.error .fromNone) := rfl
theorem errorSignal_error (sp : F) (e : Err) :
    Spid.errorSignal (F := F) false sp (.error e) = .ok (.error e) := rfl

/-- the number a `NoneToValue(0)` node shows -/
def valOr0 (o : Output (Quantity F)) : F :=
  match o with
  | .ok (some d) => d.value.value
  | _ => c0

/-- gain × (signal or 0) → `QuantityToFloat`, when the signal is absent or stamped with the clock's time -/
theorem gainCache (x : Output F) (t : Int) (g : F) (o : Output (Quantity F))
    (ho : o = .ok none ∨ ∃ q, o = .ok (some ⟨t, q⟩)) :
    (Q2f.step x (Stream.nary (Quantity.mul false)
      [Stream.constantGetter (.ok t) (Quantity.dimensionless false g),
       Stream.noneToValue o (.ok t) ⟨c0, MILLIMETER false⟩])).1 = .ok (some ⟨t, g * valOr0 o⟩) := by
  -- both factors are present and stamped `t`, so is their product (`ite_self`: the later of `t` and `t`)
  rcases ho with rfl | ⟨q, rfl⟩ <;>
    simp only [Q2f.step, Stream.nary, Stream.collect, Stream.foldData, Stream.constantGetter, Stream.noneToValue,
      List.foldl, Datum.combine, ite_self, Quantity.mul, Quantity.dimensionless, valOr0]

/-- the sum of the three terms, all stamped `t` -/
theorem spid_get (i d : DiS F) (t : Int) (a b c : F) :
    Spid.get ⟨i, d, .ok (some ⟨t, a⟩), .ok (some ⟨t, b⟩), .ok (some ⟨t, c⟩)⟩ = .ok (some ⟨t, a + b + c⟩) := by
  simp only [Spid.get, Q2f.get, Stream.nary, Stream.collect, Stream.foldData, List.foldl, Datum.combine, ite_self]

/-- One present input, in terms of what the integral and the derivative node make of the error sample: they are stepped,
and the three caches hold `kp·e`, `ki·(integral or 0)`, `kd·(derivative or 0)` at the input's time. -/
theorem spid_step_present (sp kp ki kd : F) (s : SpidS F) (d : Datum (Quantity F)) {i' d' : DiS F} {r1 r2 : UpdRet}
    (hi : Integral.step false s.int (.ok (some ⟨d.time, ⟨sp - d.value.value, u0⟩⟩)) = .ok (i', r1))
    (hd : Derivative.step false s.drv (.ok (some ⟨d.time, ⟨sp - d.value.value, u0⟩⟩)) = .ok (d', r2))
    (hio : i'.value = .ok none ∨ ∃ q, i'.value = .ok (some ⟨d.time, q⟩))
    (hdo : d'.value = .ok none ∨ ∃ q, d'.value = .ok (some ⟨d.time, q⟩)) :
    Spid.step false sp kp ki kd s (.ok (some d)) = .ok (⟨i', d', .ok (some ⟨d.time, kp * (sp - d.value.value)⟩),
      .ok (some ⟨d.time, ki * valOr0 i'.value⟩), .ok (some ⟨d.time, kd * valOr0 d'.value⟩)⟩,
      match r1 with | .error e => .error e | .ok _ => r2) := by
  have hp := gainCache s.pro d.time kp (.ok (some ⟨d.time, ⟨sp - d.value.value, u0⟩⟩)) (.inr ⟨_, rfl⟩)
  have h2 := gainCache s.intF d.time ki i'.value hio
  have h3 := gainCache s.drvF d.time kd d'.value hdo
  simp only [Spid.step, errorSignal_present, hi, hd]
  -- the proportional factor is the error signal itself, not a `NoneToValue` node: read `hp` that way
  simp only [Stream.noneToValue, valOr0] at hp
  simp only [Stream.timeGetterFromGetter, Stream.noneToError, Integral.get, Derivative.get, hp, h2, h3]
  cases r1 <;> rfl

/-! the integral and the derivative node on an error sample: the first of a run, the second, a later one -/
theorem integral_first (s : DiS F) (o : Datum (Quantity F)) (h : s.prev = none) :
    Integral.step false s (.ok (some o)) = .ok (⟨.ok none, some o⟩, .ok ()) := by
  simp only [Integral.step, h]

theorem integral_second (t t' : Int) (e e' : F) :
    Integral.step false ⟨.ok none, some ⟨t, ⟨e, u0⟩⟩⟩ (.ok (some ⟨t', ⟨e', u0⟩⟩)) =
      .ok (⟨.ok (some ⟨t', ⟨secs (t' - t) * (e + e') / c2, u0⟩⟩), some ⟨t', ⟨e', u0⟩⟩⟩, .ok ()) := rfl

theorem integral_next (t t' : Int) (e e' I : F) :
    Integral.step false ⟨.ok (some ⟨t, ⟨I, u0⟩⟩), some ⟨t, ⟨e, u0⟩⟩⟩ (.ok (some ⟨t', ⟨e', u0⟩⟩)) =
      .ok (⟨.ok (some ⟨t', ⟨secs (t' - t) * (e + e') / c2 + I, u0⟩⟩), some ⟨t', ⟨e', u0⟩⟩⟩, .ok ()) := rfl

theorem derivative_first (s : DiS F) (o : Datum (Quantity F)) (h : s.prev = none) :
    Derivative.step false s (.ok (some o)) = .ok (⟨.ok none, some o⟩, .ok ()) := by
  simp only [Derivative.step, h]

theorem derivative_next (s : DiS F) (t t' : Int) (e e' : F) (h : s.prev = some ⟨t, ⟨e, u0⟩⟩) :
    Derivative.step false s (.ok (some ⟨t', ⟨e', u0⟩⟩)) =
      .ok (⟨.ok (some ⟨t', ⟨(e' - e) / secs (t' - t), u0⟩⟩), some ⟨t', ⟨e', u0⟩⟩⟩, .ok ()) := by
  simp only [Derivative.step, h]; rfl

/-- **one present input**: the assembled controller does not panic, the memories stay related, and the two outputs are equal
(value and timestamp) — given `0 + x = x` and commutativity of `+`. -/
theorem rel_present (hzero : ∀ x : F, c0 + x = x) (hcomm : ∀ x y : F, x + y = y + x)
    (sp kp ki kd : F) (p : PidS F) (s : SpidS F) (h : Rel p s) (d : Datum (Quantity F)) :
    ∃ s' r, Spid.step false sp kp ki kd s (.ok (some d)) = .ok (s', r) ∧
      Rel (Pid.step sp ⟨kp, ki, kd⟩ p (toF (.ok (some d)))).1 s' ∧
      Spid.get s' = Pid.get (Pid.step sp ⟨kp, ki, kd⟩ p (toF (.ok (some d)))).1 := by
  cases h with
  | fresh h1 h2 h3 h4 =>
    -- the PID's integral starts from `0 + 0`, the integral stream from nothing read as `0`
    rw [toF, Pid.step_first _ _ _ _ h1, h2, hzero]
    exact ⟨_, _, spid_step_present sp kp ki kd s d (integral_first _ _ h3) (derivative_first _ _ h4)
      (.inl rfl) (.inl rfl), Rel.one _ _ d.time (sp - d.value.value) rfl rfl rfl rfl, spid_get ..⟩
  | one t e h1 h2 h3 h4 =>
    -- the PID adds the first trapezoid to `0`, the integral stream has no leading zero
    rw [toF, Pid.step_next _ _ _ _ t e h1, h2, hzero]
    exact ⟨_, _, spid_step_present sp kp ki kd s d (by rw [h3]; exact integral_second t d.time e _)
      (derivative_next _ t d.time e _ h4) (.inr ⟨_, rfl⟩) (.inr ⟨_, rfl⟩),
      Rel.many _ _ d.time (sp - d.value.value) _ rfl rfl rfl rfl, spid_get ..⟩
  | many t e I h1 h2 h3 h4 =>
    -- the PID adds the new trapezoid behind the sum, the integral stream in front of it
    rw [toF, Pid.step_next _ _ _ _ t e h1, h2, hcomm I]
    exact ⟨_, _, spid_step_present sp kp ki kd s d (by rw [h3]; exact integral_next t d.time e _ I)
      (derivative_next _ t d.time e _ h4) (.inr ⟨_, rfl⟩) (.inr ⟨_, rfl⟩),
      Rel.many _ _ d.time (sp - d.value.value) _ rfl rfl rfl rfl, spid_get ..⟩

/-- every event: the assembled controller does not panic and the memories stay related (an absent or errored input
resets both controllers) -/
theorem rel_step (hzero : ∀ x : F, c0 + x = x) (hcomm : ∀ x y : F, x + y = y + x) (sp kp ki kd : F)
    (p : PidS F) (s : SpidS F) (h : Rel p s) (ev : Output (Quantity F)) :
    ∃ s' r, Spid.step false sp kp ki kd s ev = .ok (s', r) ∧ Rel (Pid.step sp ⟨kp, ki, kd⟩ p (toF ev)).1 s' := by
  rcases ev with e | _ | d
  · exact ⟨_, _, rfl, Rel.fresh _ _ rfl rfl rfl rfl⟩
  · exact ⟨_, _, rfl, Rel.fresh _ _ rfl rfl rfl rfl⟩
  · obtain ⟨s', r, hs, hr, _⟩ := rel_present hzero hcomm sp kp ki kd p s h d
    exact ⟨s', r, hs, hr⟩

/-- the two controllers run over a history.  `runSpid` is `Rrtk.runE (Spid.step false …)` (`runSpid_eq_runE`); the `chk = true`
clause of `Lemmas/C04ComposedChecked.lean` is stated with `runE` itself. -/
def runPid (sp kp ki kd : F) (p : PidS F) (evs : List (Output (Quantity F))) : PidS F :=
  evs.foldl (fun p ev => (Pid.step sp ⟨kp, ki, kd⟩ p (toF ev)).1) p
def runSpid (sp kp ki kd : F) (s : SpidS F) : List (Output (Quantity F)) → Except Panic (SpidS F)
  | [] => .ok s
  | ev :: rest =>
    match Spid.step false sp kp ki kd s ev with
    | .error p => .error p
    | .ok r => runSpid sp kp ki kd r.1 rest

theorem runSpid_eq_runE (sp kp ki kd : F) (s : SpidS F) (evs : List (Output (Quantity F))) :
    runSpid sp kp ki kd s evs = runE (Spid.step false sp kp ki kd) s evs := by
  induction evs generalizing s with
  | nil => rfl
  | cons ev rest ih =>
    simp only [runSpid, runE_cons]
    cases Spid.step false sp kp ki kd s ev with
    | error p => rfl
    | ok r => exact ih r.1

theorem rel_run (hzero : ∀ x : F, c0 + x = x) (hcomm : ∀ x y : F, x + y = y + x) (sp kp ki kd : F)
    (evs : List (Output (Quantity F))) (p : PidS F) (s : SpidS F) (h : Rel p s) :
    ∃ s', runSpid sp kp ki kd s evs = .ok s' ∧ Rel (runPid sp kp ki kd p evs) s' := by
  induction evs generalizing p s with
  | nil => exact ⟨s, rfl, h⟩
  | cons ev rest ih =>
    obtain ⟨s1, r, hs, hr⟩ := rel_step hzero hcomm sp kp ki kd p s h ev
    obtain ⟨s2, h2, hr2⟩ := ih _ _ hr
    exact ⟨s2, by rw [runSpid, hs]; exact h2, hr2⟩

/-- **C04, assembled-controller clause.** After ANY history, at an update that sees a present input the PID stream and
the controller assembled from the crate's own streams give exactly the same output (value and timestamp). -/
theorem pid_eq_composed (hzero : ∀ x : F, c0 + x = x) (hcomm : ∀ x y : F, x + y = y + x) (sp kp ki kd : F)
    (pre : List (Output (Quantity F))) (d : Datum (Quantity F)) :
    ∃ s', runSpid sp kp ki kd Spid.init (pre ++ [.ok (some d)]) = .ok s' ∧
      Spid.get s' = Pid.get (runPid sp kp ki kd Pid.init (pre ++ [.ok (some d)])) := by
  obtain ⟨s1, h1, hr⟩ := rel_run hzero hcomm sp kp ki kd pre Pid.init Spid.init rel_init
  obtain ⟨s2, r, hs, _, hout⟩ := rel_present hzero hcomm sp kp ki kd _ s1 hr d
  rw [runSpid_eq_runE] at h1
  refine ⟨s2, ?_, ?_⟩
  · rw [runSpid_eq_runE, runE_append, h1]
    simp only [runE_cons, hs, runE_nil]
  · rw [runPid, List.foldl_append]; exact hout

/-- after an absent input the assembled controller reports `FromNone` (its clock is derived from the input; the PID stream
is then absent, `pid_after_none`); after an input error it reports that error (as the PID stream does, `pid_after_err`) -/
theorem composed_after_absent_characterised (sp kp ki kd : F) (s : SpidS F) :
    ∃ s', Spid.step false sp kp ki kd s (.ok none) = .ok (s', .error .fromNone) ∧ Spid.get s' = .error .fromNone :=
  ⟨_, rfl, rfl⟩
theorem composed_after_error (sp kp ki kd : F) (s : SpidS F) (e : Err) :
    ∃ s', Spid.step false sp kp ki kd s (.error e) = .ok (s', .error e) ∧ Spid.get s' = .error e :=
  ⟨_, rfl, rfl⟩

end Rrtk.Thm.C04
