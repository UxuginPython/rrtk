/-
The shape that `update` has on a present sample in the integral and derivative streams and the three to-state converters
(`presentStep`): an assertion, then either the sample is stored or numbers are computed from what is stored.  The numbers
(`trapStep`, `backdiffQ`; `a2sNum`, `v2sNum`, `p2sNum` over `accum`, `diffQ`) see the timestamps only through the time step.
The whole `update` of a converter is one function of these parts, `convStep`.  `integral_step_present`,
`derivative_step_present` and the three `*_step_eq_convStep` unroll the model's `match` tower once; `Thm/C05.lean`,
`Thm/C10.lean` and `Thm/C19.lean` reason about `presentStep` and `convStep`.  In the namespace of `Thm/C10.lean`, whose statements these definitions serve.  No Mathlib.
-/
import Rrtk.Streams.Stateful
import Rrtk.Thm.Lemmas.Except
namespace Rrtk.Thm.C10
open Rrtk

/-- the shape of `update` on a present sample in all five streams: an assertion about the sample; then either nothing is
stored yet and the sample is stored (`first`), or numbers are computed from what is stored (`num u`) and stored with
the sample (`next`); `update` returns `Ok(())` -/
def presentStep {U N S : Type} (a : Except Panic Unit) (stored : Option U) (first : S) (num : U → Except Panic N)
    (next : N → S) : Except Panic (S × UpdRet) :=
  match a with
  | .error e => .error e
  | .ok _ =>
    match stored with
    | none => .ok (first, .ok ())
    | some u => (num u).map fun n => (next n, .ok ())

section PresentStep
variable {U U' N S S' : Type} {a : Except Panic Unit} {stored : Option U} {first : S} {num : U → Except Panic N}
  {next : N → S}

theorem presentStep_ok {res : S × UpdRet} (h : presentStep a stored first num next = .ok res) :
    a = .ok () ∧ res.2 = .ok () ∧
      ((stored = none ∧ res.1 = first) ∨ ∃ u n, stored = some u ∧ num u = .ok n ∧ res.1 = next n) := by
  unfold presentStep at h
  cases a with
  | error e => cases h
  | ok _ =>
    cases stored with
    | none => cases h; exact ⟨rfl, rfl, .inl ⟨rfl, rfl⟩⟩
    | some u =>
      obtain ⟨n, hn, hr⟩ := Except.map_eq_ok.1 h
      cases hr; exact ⟨rfl, rfl, .inr ⟨u, n, rfl, hn, rfl⟩⟩

theorem presentStep_error {p : Panic} (h : presentStep a stored first num next = .error p) :
    a = .error p ∨ ∃ u, stored = some u ∧ num u = .error p := by
  unfold presentStep at h
  cases a with
  | error e => cases h; exact .inl rfl
  | ok _ =>
    cases stored with
    | none => cases h
    | some u => exact .inr ⟨u, rfl, Except.map_eq_error.1 h⟩

/-- a change of what is stored (`k`) and of the new state (`g`) that the numbers do not see goes through the step -/
theorem presentStep_comm (k : U' → U') (g : S → S') {stored : Option U'} {num num' : U' → Except Panic N}
    {first' : S'} {next' : N → S'} (hfirst : first' = g first) (hnum : ∀ u, num' (k u) = num u)
    (hnext : ∀ n, next' n = g (next n)) :
    presentStep a (stored.map k) first' num' next' =
      (presentStep a stored first num next).map (fun r => (g r.1, r.2)) := by
  unfold presentStep
  cases a with
  | error e => rfl
  | ok _ =>
    cases stored with
    | none => rw [hfirst]; rfl
    | some u =>
      show Except.map _ (num' (k u)) = Except.map _ (Except.map _ (num u))
      rw [hnum, funext hnext]
      cases num u <;> rfl
end PresentStep

/-- the whole `update` of a to-state converter.  The state is an `Option`, empty until the first sample since the last
error: an error event empties it and is handed back by `update`; an absent event changes nothing; a sample goes through
`presentStep` with what the converter asserts about it (`assert`), stores for a first sample (`first`), computes from a
stored predecessor (`num`) and stores then (`next`) -/
def convStep {α U N : Type} (assert : Datum α → Except Panic Unit) (first : Datum α → U)
    (num : Datum α → U → Except Panic N) (next : Datum α → N → U) :
    Option U → Output α → Except Panic (Option U × UpdRet)
  | _, .error e => .ok (none, .error e)
  | s, .ok none => .ok (s, .ok ())
  | s, .ok (some d) => presentStep (assert d) s (some (first d)) (num d) (fun n => some (next d n))

variable {F : Type}

/-- the sum an integral step adds to: the cached value, if it is a sample -/
def diAcc (s : DiS F) : Option (Quantity F) :=
  match s.value with
  | .ok (some real) => some real.value
  | _ => none

theorem diAcc_of_value {s : DiS F} {r : Option (Datum (Quantity F))} (h : s.value = .ok r) :
    diAcc s = r.map (·.value) := by
  unfold diAcc; rw [h]; cases r <;> rfl

section Sum
variable [Add F] [Mul F] [Div F] [FloatLike F]

/-- one trapezoid, exactly as the code writes it: `Quantity::from(o.time - p.time) * (p.value + o.value) /
Quantity::dimensionless(2.0)` (panics if the two samples' units differ and checking is on) -/
def trapAddend (chk : Bool) (p o : Datum (Quantity F)) : Except Panic (Quantity F) :=
  match Quantity.add chk p.value o.value with
  | .error e => .error e
  | .ok sm => .ok (Quantity.div chk (Quantity.mul chk (Quantity.ofTime chk (o.time - p.time)) sm)
      (Quantity.dimensionless chk c2))

/-- one step of the trapezoidal sum: the trapezoid over `(p, o)`, added IN FRONT of the sum so far, if there is one -/
def trapStep (chk : Bool) (p o : Datum (Quantity F)) (acc : Option (Quantity F)) : Except Panic (Quantity F) :=
  (trapAddend chk p o).bind fun a =>
    match acc with
    | none => .ok a
    | some r => Quantity.add chk a r

/-- an integral step on a present sample is bookkeeping around `trapStep`: the sample is stored, the result is stamped
with the sample's time, `update` returns `Ok(())` — whatever the numbers are -/
theorem integral_step_present (chk : Bool) (s : DiS F) (o : Datum (Quantity F)) :
    Integral.step chk s (.ok (some o)) =
      presentStep (.ok ()) s.prev ⟨.ok none, some o⟩ (fun p => trapStep chk p o (diAcc s))
        (fun v => ⟨.ok (some ⟨o.time, v⟩), some o⟩) := by
  cases hp : s.prev with
  | none => simp only [Integral.step, hp]; rfl
  | some p =>
    simp only [Integral.step, hp, presentStep, trapStep, trapAddend, diAcc, Except.bind]
    cases Quantity.add chk p.value o.value with
    | error e => rfl
    | ok sm =>
      rcases s.value with _ | _ | real
      · rfl
      · rfl
      · simp only
        cases Quantity.add chk (Quantity.div chk (Quantity.mul chk (Quantity.ofTime chk (o.time - p.time)) sm)
          (Quantity.dimensionless chk c2)) real.value <;> rfl

/-- the converters' accumulation step: one trapezoid `((a + b) / 2) * dt` (`qHalfTimes`), added BEHIND the sum so far, if
there is one.  No timestamps: the time step comes in as the quantity `dt`. -/
def accum (chk : Bool) (dt : Quantity F) (old : Option (Quantity F)) (a b : Quantity F) : Except Panic (Quantity F) :=
  (qHalfTimes chk a b dt).bind fun h =>
    match old with
    | none => .ok h
    | some x => Quantity.add chk x h

/-- the numbers of an `AccelerationToState` step with a stored predecessor, as two accumulations: the velocity from the
accelerations, then (once a velocity existed before) the position from the two newest velocities -/
def a2sNum (chk : Bool) (dt acc0 : Quantity F) (u1 : Option (A2sU1 F)) (v : Quantity F) : Except Panic (A2sU1 F) :=
  (accum chk dt (u1.map (·.vel)) acc0 v).bind fun nv =>
    match u1 with
    | none => .ok ⟨nv, none⟩
    | some u => (accum chk dt u.pos u.vel nv).map fun np => ⟨nv, some np⟩

/-- `AccelerationToState::update` is `convStep` of the unit assertion and bookkeeping around `a2sNum`; the timestamps
enter the numbers only through the time step -/
theorem a2s_step_eq_convStep (chk : Bool) : A2s.step (F := F) chk =
    convStep (fun d => DUnit.assertEqAssumeOk chk d.value.unit (MILLIMETER_PER_SECOND_SQUARED chk))
      (fun d => ⟨d.time, d.value, none⟩)
      (fun d u0 => a2sNum chk (Quantity.ofTime chk (d.time - u0.time)) u0.acc u0.u1 d.value)
      (fun d u1 => ⟨d.time, d.value, some u1⟩) := by
  funext s e
  rcases e with x | _ | d
  · rfl
  · rfl
  simp only [A2s.step, convStep, presentStep]
  cases DUnit.assertEqAssumeOk chk d.value.unit (MILLIMETER_PER_SECOND_SQUARED chk) with
  | error e => rfl
  | ok _ =>
    match s with
    | none => rfl
    | some ⟨t0, acc, u1o⟩ =>
      simp only [a2sNum, accum, Except.bind]
      cases qHalfTimes chk acc d.value (Quantity.ofTime chk (d.time - t0)) with
      | error q => rfl
      | ok va =>
        match u1o with
        | none => rfl
        | some ⟨vel, poso⟩ =>
          simp only [Option.map]
          cases Quantity.add chk vel va with
          | error q => rfl
          | ok nv =>
            simp only
            cases qHalfTimes chk vel nv (Quantity.ofTime chk (d.time - t0)) with
            | error q => rfl
            | ok pa =>
              match poso with
              | none => rfl
              | some op => simp only; cases Quantity.add chk op pa <;> rfl
end Sum

section Difference
variable [Sub F] [Div F] [FloatLike F]

def backdiffQ (chk : Bool) (o p : Datum (Quantity F)) : Except Panic (Quantity F) :=
  match Quantity.sub chk o.value p.value with
  | .error e => .error e
  | .ok dp => .ok (Quantity.div chk dp (Quantity.ofTime chk (o.time - p.time)))

theorem derivative_step_present (chk : Bool) (s : DiS F) (o : Datum (Quantity F)) :
    Derivative.step chk s (.ok (some o)) =
      presentStep (.ok ()) s.prev ⟨.ok none, some o⟩ (fun p => backdiffQ chk o p)
        (fun v => ⟨.ok (some ⟨o.time, v⟩), some o⟩) := by
  cases hp : s.prev with
  | none => simp only [Derivative.step, hp]; rfl
  | some p =>
    simp only [Derivative.step, hp, presentStep, backdiffQ]
    cases Quantity.sub chk o.value p.value <;> rfl

/-- the converters' difference step: `(a − b) / dt`; `backdiffQ chk o p` unfolds to it at `dt = ofTime (o.time − p.time)`.
Not `Rrtk.diffQ` of `Streams/Composed.lean`, which is the difference STREAM. -/
def diffQ (chk : Bool) (dt a b : Quantity F) : Except Panic (Quantity F) :=
  match Quantity.sub chk a b with
  | .error e => .error e
  | .ok d => .ok (Quantity.div chk d dt)

/-- the numbers of a `PositionToState` step with a stored predecessor: velocity = difference quotient of the two
positions, acceleration (once a velocity existed before) = difference quotient of the two velocities, same time step -/
def p2sNum (chk : Bool) (dt pos0 : Quantity F) (u1 : Option (P2sU1 F)) (v : Quantity F) : Except Panic (P2sU1 F) :=
  (diffQ chk dt v pos0).bind fun v1 =>
    match u1 with
    | none => .ok ⟨v1, none⟩
    | some u => (diffQ chk dt v1 u.vel).map fun a => ⟨v1, some a⟩

theorem p2s_step_eq_convStep (chk : Bool) : P2s.step (F := F) chk =
    convStep (fun d => DUnit.assertEqAssumeOk chk d.value.unit (MILLIMETER chk))
      (fun d => ⟨d.time, d.value, none⟩)
      (fun d u0 => p2sNum chk (Quantity.ofTime chk (d.time - u0.time)) u0.pos u0.u1 d.value)
      (fun d u1 => ⟨d.time, d.value, some u1⟩) := by
  funext s e
  rcases e with x | _ | d
  · rfl
  · rfl
  simp only [P2s.step, convStep, presentStep]
  cases DUnit.assertEqAssumeOk chk d.value.unit (MILLIMETER chk) with
  | error e => rfl
  | ok _ =>
    match s with
    | none => rfl
    | some ⟨t0, pos, u1o⟩ =>
      simp only [p2sNum, diffQ, Except.bind]
      cases Quantity.sub chk d.value pos with
      | error q => rfl
      | ok dp =>
        match u1o with
        | none => rfl
        | some ⟨vel0, acc0⟩ =>
          simp only
          cases Quantity.sub chk (Quantity.div chk dp (Quantity.ofTime chk (d.time - t0))) vel0 <;> rfl
end Difference

section Both
variable [Add F] [Sub F] [Mul F] [Div F] [FloatLike F]

/-- the numbers of a `VelocityToState` step with a stored predecessor: acceleration = difference quotient of the two
velocities, position = one more trapezoid behind the old position, if there is one -/
def v2sNum (chk : Bool) (dt vel0 : Quantity F) (u1 : Option (V2sU1 F)) (v : Quantity F) : Except Panic (V2sU1 F) :=
  (diffQ chk dt v vel0).bind fun acc => (accum chk dt (u1.map (·.pos)) vel0 v).map fun pos => ⟨acc, pos⟩

theorem v2s_step_eq_convStep (chk : Bool) : V2s.step (F := F) chk =
    convStep (fun d => DUnit.assertEqAssumeOk chk d.value.unit (MILLIMETER_PER_SECOND chk))
      (fun d => ⟨d.time, d.value, none⟩)
      (fun d u0 => v2sNum chk (Quantity.ofTime chk (d.time - u0.time)) u0.vel u0.u1 d.value)
      (fun d u1 => ⟨d.time, d.value, some u1⟩) := by
  funext s e
  rcases e with x | _ | d
  · rfl
  · rfl
  simp only [V2s.step, convStep, presentStep]
  cases DUnit.assertEqAssumeOk chk d.value.unit (MILLIMETER_PER_SECOND chk) with
  | error e => rfl
  | ok _ =>
    match s with
    | none => rfl
    | some ⟨t0, vel, u1o⟩ =>
      simp only [v2sNum, diffQ, accum, Except.bind]
      cases Quantity.sub chk d.value vel with
      | error q => rfl
      | ok dv =>
        simp only
        cases qHalfTimes chk vel d.value (Quantity.ofTime chk (d.time - t0)) with
        | error q => rfl
        | ok pa =>
          match u1o with
          | none => rfl
          | some ⟨acc0, pos0⟩ => simp only [Option.map]; cases Quantity.add chk pos0 pa <;> rfl
end Both
end Rrtk.Thm.C10
