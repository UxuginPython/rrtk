/-
How approximation errors compose, over plain rationals: `y` approximates `x` "with factor `P` and slack `d`" when
`|y − x| ≤ (P − 1)·m + d` for a magnitude `m ≥ |x|`.  One rounding has factor `1 + u`; a chain of them multiplies the factors (`approx_trans`),
scaling leaves a purely relative error alone (`relerr_mul_right`), a product of approximations multiplies them too
(`relerr_mul`); `k` equal factors are linearised by `one_add_pow_le`.  A purely relative error `a·|x|` is the factor `1 + a` with
`m = |x|`, `d = 0`; its users write `(1 + u - 1)·|x|`.
Nothing here mentions a rounding function: the rounding lemmas of `RoundingBounds.lean`, which continues this namespace, and the
conversion theorems of C18 supply the hypotheses.
-/
import Mathlib.Tactic.Ring
import Mathlib.Tactic.Linarith
import Mathlib.Algebra.Order.Field.Basic
namespace Rrtk.Thm.RoundingBounds

/-- errors compose: `y` approximates `x` with factor `P` and slack `d`, `z` approximates `y` with factor `Q` and slack `e`.
The magnitude `m ≥ |x|` the first error is measured against is left free: for a sum it is `Σ|xᵢ|`, not `|Σxᵢ|`. -/
theorem approx_trans {P Q d e m x y z : ℚ} (hQ : 1 ≤ Q) (hx : |x| ≤ m) (h1 : |y - x| ≤ (P - 1) * m + d)
    (h2 : |z - y| ≤ (Q - 1) * |y| + e) : |z - x| ≤ (P * Q - 1) * m + (Q * d + e) := by
  have hy : |y| ≤ P * m + d := by linarith only [abs_sub_abs_le_abs_sub y x, h1, hx]
  have := mul_le_mul_of_nonneg_left hy (sub_nonneg.2 hQ)
  linarith only [abs_sub_le z y x, h1, h2, this]

/-- the same for purely relative errors `a`, `b` -/
theorem relerr_trans {a b x y z : ℚ} (hb : 0 ≤ b) (h1 : |y - x| ≤ a * |x|) (h2 : |z - y| ≤ b * |y|) :
    |z - x| ≤ ((1 + a) * (1 + b) - 1) * |x| := by
  have hy : |y| ≤ (1 + a) * |x| := by linarith only [abs_sub_abs_le_abs_sub y x, h1]
  have := mul_le_mul_of_nonneg_left hy hb
  linarith only [abs_sub_le z y x, h1, h2, this]

theorem relerr_mul_right {a x y : ℚ} (c : ℚ) (h : |y - x| ≤ a * |x|) : |y * c - x * c| ≤ a * |x * c| := by
  rw [← sub_mul, abs_mul, abs_mul, ← mul_assoc]
  exact mul_le_mul_of_nonneg_right h (abs_nonneg c)

theorem relerr_div_right {a x y : ℚ} (c : ℚ) (h : |y - x| ≤ a * |x|) : |y / c - x / c| ≤ a * |x / c| := by
  simpa only [div_eq_mul_inv] using relerr_mul_right c⁻¹ h

theorem relerr_mul {P Q T τ σ w : ℚ} (hP : 1 ≤ P)
    (h1 : |T - τ| ≤ (P - 1) * |τ|) (h2 : |σ - w| ≤ (Q - 1) * |w|) :
    |T * σ - τ * w| ≤ (P * Q - 1) * |τ * w| := by
  have e : T * σ - τ * w = (T - τ) * σ + τ * (σ - w) := by ring
  have hσ : |σ| ≤ Q * |w| := by linarith only [abs_sub_abs_le_abs_sub σ w, h2]
  rw [e]
  refine le_trans (abs_add_le _ _) ?_
  rw [abs_mul, abs_mul, abs_mul]
  have a1 : |T - τ| * |σ| ≤ (P - 1) * |τ| * (Q * |w|) :=
    mul_le_mul h1 hσ (abs_nonneg _) (mul_nonneg (sub_nonneg.2 hP) (abs_nonneg _))
  have a2 : |τ| * |σ - w| ≤ |τ| * ((Q - 1) * |w|) := mul_le_mul_of_nonneg_left h2 (abs_nonneg _)
  linarith only [a1, a2]

/-- `y ≈ x`, then `z ≈ y / c`: two relative errors `v` -/
theorem two_step {v x y z : ℚ} (c : ℚ) (hv : 0 ≤ v) (h1 : |y - x| ≤ v * |x|) (h2 : |z - y / c| ≤ v * |y / c|) :
    |z - x / c| ≤ ((1 + v) ^ 2 - 1) * |x / c| := by
  rw [pow_two]; exact relerr_trans hv (relerr_div_right c h1) h2

/-- … then `w ≈ z * c`: three relative errors `v`, against `x` itself -/
theorem three_step {v x y z w c : ℚ} (hc : c ≠ 0) (hv : 0 ≤ v) (h1 : |y - x| ≤ v * |x|)
    (h2 : |z - y / c| ≤ v * |y / c|) (h3 : |w - z * c| ≤ v * |z * c|) : |w - x| ≤ ((1 + v) ^ 3 - 1) * |x| := by
  have h := relerr_trans hv (relerr_mul_right c (two_step c hv h1 h2)) h3
  rwa [div_mul_cancel₀ x hc, show (1 + ((1 + v) ^ 2 - 1)) * (1 + v) - 1 = (1 + v) ^ 3 - 1 by ring] at h

theorem one_add_pow_le {v : ℚ} (hv : 0 ≤ v) (k : ℕ) (h : (k:ℚ) * v ≤ 1 / 2) : (1 + v) ^ k ≤ 1 + 2 * k * v := by
  induction k with
  | zero => simp
  | succ k ih =>
    push_cast at h ⊢
    have hk : (k:ℚ) * v ≤ 1 / 2 := by linarith only [h, hv]
    have h1 : (1 + v) ^ k * (1 + v) ≤ (1 + 2 * k * v) * (1 + v) :=
      mul_le_mul_of_nonneg_right (ih hk) (add_nonneg zero_le_one hv)
    -- `(1 + 2kv)(1 + v) = 1 + 2(k+1)v − v(1 − 2kv)`
    have h2 : 0 ≤ v * (1 - 2 * k * v) := mul_nonneg hv (by linarith only [hk])
    rw [pow_succ]
    linarith only [h1, h2]

theorem relerr_bounds {a x y : ℚ} (hx : 0 ≤ x) (h : |y - x| ≤ a * |x|) : x * (1 - a) ≤ y ∧ y ≤ x * (1 + a) := by
  rw [abs_of_nonneg hx, abs_le] at h; exact ⟨by linarith only [h.1], by linarith only [h.2]⟩

/-- `two_step` for `x ≥ 0`, two-sided: the lower bound `(1 − v)²` is sharper than what the absolute value gives -/
theorem two_step_bounds {v x y z c : ℚ} (hc : 0 < c) (hv : 0 ≤ v) (hv1 : v ≤ 1) (hx : 0 ≤ x)
    (h1 : |y - x| ≤ v * |x|) (h2 : |z - y / c| ≤ v * |y / c|) :
    x / c * (1 - v) ^ 2 ≤ z ∧ z ≤ x / c * (1 + v) ^ 2 := by
  obtain ⟨a1, a2⟩ := relerr_bounds hx h1
  have hy : 0 ≤ y := le_trans (mul_nonneg hx (sub_nonneg.2 hv1)) a1
  obtain ⟨b1, b2⟩ := relerr_bounds (div_nonneg hy hc.le) h2
  have c1 := mul_le_mul_of_nonneg_right (div_le_div_of_nonneg_right a1 hc.le) (sub_nonneg.2 hv1)
  have c2 := mul_le_mul_of_nonneg_right (div_le_div_of_nonneg_right a2 hc.le) (add_nonneg zero_le_one hv)
  constructor
  · calc x / c * (1 - v) ^ 2 = x * (1 - v) / c * (1 - v) := by ring
      _ ≤ z := le_trans c1 b1
  · calc z ≤ x * (1 + v) / c * (1 + v) := le_trans b2 c2
      _ = x / c * (1 + v) ^ 2 := by ring

/-- one step of recursive summation: `s` approximates the first addend `x` (`|x| ≤ A`) with relative error `v`, and `R`
approximates `s + S` with relative error `P − 1` against `|s| + T`; then `R` approximates `x + S` with `P(1+v) − 1`
against `A + T` -/
theorem fold_step {v P A T x s S R : ℚ} (hv : 0 ≤ v) (hP : 1 ≤ P) (hT : 0 ≤ T) (hx : |x| ≤ A)
    (hs : |s - x| ≤ v * |x|) (hR : |R - (s + S)| ≤ (P - 1) * (|s| + T)) :
    |R - (x + S)| ≤ (P * (1 + v) - 1) * (A + T) := by
  have hvx : v * |x| ≤ v * A := mul_le_mul_of_nonneg_left hx hv
  have hsA : |s| ≤ (1 + v) * A := by linarith only [abs_sub_abs_le_abs_sub s x, hs, hvx, hx]
  have h1 : (P - 1) * (|s| + T) ≤ (P - 1) * ((1 + v) * A + T) :=
    mul_le_mul_of_nonneg_left (by linarith only [hsA]) (sub_nonneg.2 hP)
  have h2 : 0 ≤ (P - 1) * (v * T) := mul_nonneg (sub_nonneg.2 hP) (mul_nonneg hv hT)
  have h3 : |R - (x + S)| ≤ |R - (s + S)| + |s - x| := by
    have := abs_add_le (R - (s + S)) (s - x)
    rwa [show R - (s + S) + (s - x) = R - (x + S) by ring] at this
  have h4 : 0 ≤ v * T := mul_nonneg hv hT
  calc |R - (x + S)| ≤ (P - 1) * ((1 + v) * A + T) + v * A := by linarith only [h3, hR, h1, hs, hvx]
    _ ≤ (P * (1 + v) - 1) * (A + T) := by linarith only [h2, h4]

end Rrtk.Thm.RoundingBounds
