/-
C09 (imported by the extension module Thm/Ext/C09.lean): the tie-break variant of the terminal command read that the
correspondence check accepts as a property-conformant alternative (`Rrtk/Gen/DevicesTieT1.lean`, generated textually from
`Rrtk/Devices.lean` by tools/gen.py with the one patch `g.time > c.time` ↦ `g.time ≥ c.time`) satisfies exactly the clause the
property states — "its command read is the newer of the two commands": absent iff both are, otherwise one of the two candidates
and no candidate strictly newer — and differs from the model only when the two timestamps are equal.  So accepting it never
accepts a violation of C03/C09.
-/
import Rrtk.Thm.C09
import Rrtk.Thm.Lemmas.Newest
import Rrtk.Gen.DevicesTieT1
namespace Rrtk.Thm.C09
open Rrtk

variable {F : Type}

/-- the variant world with the same contents -/
def toT1 (w : World F) : TieT1.World F :=
  ⟨w.n, fun i => ⟨(w.t i).state, (w.t i).command, (w.t i).other⟩⟩

theorem t1_partnerCommand (w : World F) (i : Nat) :
    TieT1.World.partnerCommand (toT1 w) i = World.partnerCommand w i := by
  unfold TieT1.World.partnerCommand World.partnerCommand toT1
  simp only []
  cases h : (w.t i).other <;> rfl

/-- the variant read is `newestOf` of (partner, own): the first of the newest is chosen, so the partner wins ties -/
theorem t1_getCommand_eq_newestOf (w : World F) (i : Nat) :
    TieT1.World.getCommand (toT1 w) i = C13.newestOf [World.partnerCommand w i, (w.t i).command] := by
  simp only [C13.newestOf, C13.newestFrom, List.foldl_cons, List.foldl_nil, C13.replaceOpt_step,
    TieT1.World.getCommand, t1_partnerCommand]
  have e : ((toT1 w).t i).command = (w.t i).command := rfl
  rw [e]
  cases (w.t i).command <;> cases World.partnerCommand w i <;> rfl

theorem t1_command_read_conformant (w : World F) (i : Nat) :
    (TieT1.World.getCommand (toT1 w) i = none ↔ (w.t i).command = none ∧ World.partnerCommand w i = none) ∧
    ∀ r, TieT1.World.getCommand (toT1 w) i = some r →
      ((w.t i).command = some r ∨ World.partnerCommand w i = some r) ∧
      (∀ c, (w.t i).command = some c → c.time ≤ r.time) ∧
      (∀ g, World.partnerCommand w i = some g → g.time ≤ r.time) := by
  rw [t1_getCommand_eq_newestOf]
  refine ⟨?_, fun r hr => ?_⟩
  · rw [(C13.newestOf_spec _).1]; simp only [List.mem_cons, List.not_mem_nil, or_false, forall_eq_or_imp, forall_eq]
    exact And.comm
  · obtain ⟨hm, hle⟩ := C13.newestOf_max _ r hr
    simp only [List.mem_cons, List.not_mem_nil, or_false] at hm hle
    exact ⟨hm.symm.imp Eq.symm Eq.symm, fun c hc => hle c (.inr hc.symm), fun g hg => hle g (.inl hg.symm)⟩

theorem t1_command_read_eq_model_unless_tie (w : World F) (i : Nat)
    (h : ∀ c g, (w.t i).command = some c → World.partnerCommand w i = some g → c.time ≠ g.time) :
    TieT1.World.getCommand (toT1 w) i = World.getCommand w i := by
  unfold TieT1.World.getCommand World.getCommand
  rw [t1_partnerCommand]
  have e : ((toT1 w).t i).command = (w.t i).command := rfl
  rw [e]
  cases hc : (w.t i).command with
  | none => rfl
  | some c =>
    cases hg : World.partnerCommand w i with
    | none => rfl
    | some g =>
      have hne := h c g hc hg
      simp only []
      by_cases h1 : g.time > c.time
      · have h2 : g.time ≥ c.time := by omega
        simp [h1, h2]
      · have h2 : ¬ g.time ≥ c.time := by omega
        simp [h1, h2]

/-- a tie, on which the two differ -/
example : TieT1.World.getCommand (toT1 (F := Int) ⟨2, fun j => if j = 0 then ⟨none, some ⟨7, .velocity 3⟩, some 1⟩ else ⟨none, some ⟨7, .position 8⟩, some 0⟩⟩) 0
    = some ⟨7, .position 8⟩ := rfl
example : World.getCommand (F := Int) ⟨2, fun j => if j = 0 then ⟨none, some ⟨7, .velocity 3⟩, some 1⟩ else ⟨none, some ⟨7, .position 8⟩, some 0⟩⟩ 0
    = some ⟨7, .velocity 3⟩ := rfl

end Rrtk.Thm.C09
