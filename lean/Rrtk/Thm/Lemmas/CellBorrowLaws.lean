/-
C17, the dynamic borrow discipline of a `RefCell` (`CellBorrow` of `Rrtk/RefAlias.lean`) over whole PROGRAMS that keep
borrows alive: a program is a list of `takeShared` / `takeExclusive` / `releaseInnermost`; the runner keeps the stack of
outstanding borrows (`true` = exclusive) and stops at the first refused operation (a refused borrow is a panic).

Every reachable state is one exclusive borrow alone or `n` shared ones (`BShape`); from that: the aliasing-XOR-mutability
invariant in every reachable state, what a reachable state refuses / allows, and that a program that releases everything
it took ends in the initial borrow state.
-/
import Rrtk.RefAlias
namespace Rrtk.Thm.C17
open Rrtk

/-! ## programs -/

/-- the operations of a program that keeps `RefCell` borrows alive -/
inductive BOp where
  | takeShared        -- `let g = r.borrow();`
  | takeExclusive     -- `let g = r.borrow_mut();`
  | releaseInnermost  -- `drop(g)` of the most recent guard still alive; guards dropped in another order lose nothing: all outstanding
                      -- guards are of one kind (`BShape`) and `CellBorrow.release` looks only at the kind
  deriving DecidableEq, Repr

/-- borrow state of the cell and the stack of outstanding borrows (`true` = exclusive), innermost first -/
abbrev BState := CellBorrow × List Bool

/-- no borrow alive -/
def binit : BState := ({}, [])

/-- one operation; `none` = refused (a borrow that panics, or a release with nothing to release) -/
def bstep (s : BState) : BOp → Option BState
  | .takeShared =>
    match s.1.shared with
    | .ok b => some (b, false :: s.2)
    | .error _ => none
  | .takeExclusive =>
    match s.1.exclusive with
    | .ok b => some (b, true :: s.2)
    | .error _ => none
  | .releaseInnermost =>
    match s.2 with
    | [] => none
    | x :: st => some (s.1.release x, st)

/-- run a program; stops at the first refused operation.  Result: the state reached, and whether the whole program ran. -/
def brun (s : BState) : List BOp → BState × Bool
  | [] => (s, true)
  | op :: ops =>
    match bstep s op with
    | none => (s, false)
    | some s' => brun s' ops

/-- a state some program reaches from the initial state (a program stopped by a refusal reaches the state before it,
so these are exactly the states any run passes through) -/
def BReachable (s : BState) : Prop := ∃ ops, (brun binit ops).1 = s

/-! ## the reachable states -/

/-- aliasing XOR mutability, as a shape: one exclusive borrow alone, or `n` shared ones -/
def BShape (s : BState) : Prop :=
  s = ({ writer := true }, [true]) ∨ ∃ n, s = ({ readers := n }, List.replicate n false)

theorem bshape_step (s s' : BState) (op : BOp) (hs : BShape s) (h : bstep s op = some s') : BShape s' := by
  rcases hs with rfl | ⟨n, rfl⟩
  · -- an exclusive borrow: everything but its release is refused
    cases op with
    | takeShared => cases h
    | takeExclusive => cases h
    | releaseInnermost => cases h; exact .inr ⟨0, rfl⟩
  · cases op with
    | takeShared => cases h; exact .inr ⟨n + 1, rfl⟩
    | takeExclusive =>
      cases n with
      | zero => cases h; exact .inl rfl
      | succ m => simp [bstep, CellBorrow.exclusive] at h
    | releaseInnermost =>
      cases n with
      | zero => cases h
      | succ m => cases h; exact .inr ⟨m, rfl⟩

theorem bshape_run (s : BState) (ops : List BOp) (hs : BShape s) : BShape (brun s ops).1 := by
  induction ops generalizing s with
  | nil => exact hs
  | cons op ops ih =>
    unfold brun
    cases h : bstep s op with
    | none => exact hs
    | some s' => exact ih s' (bshape_step s s' op hs h)

theorem bshape_reachable (s : BState) (hr : BReachable s) : BShape s := by
  obtain ⟨ops, rfl⟩ := hr
  exact bshape_run binit ops (.inr ⟨0, rfl⟩)

/-- aliasing XOR mutability in every reachable state: the cell's counters are those of the stack of outstanding borrows,
and an exclusive borrow is the only one outstanding -/
theorem borrow_inv (s : BState) (hr : BReachable s) :
    s.1.readers = s.2.count false ∧ s.1.writer = s.2.contains true ∧ (true ∈ s.2 → s.2 = [true]) := by
  rcases bshape_reachable s hr with rfl | ⟨n, rfl⟩
  · exact ⟨rfl, rfl, fun _ => rfl⟩
  · exact ⟨by simp, by simp, fun h => by simp at h⟩

example : BReachable ({ readers := 2 }, [false, false]) := ⟨[.takeShared, .takeShared], by decide⟩
example : BReachable ({ writer := true }, [true]) :=
  ⟨[.takeShared, .releaseInnermost, .takeExclusive, .takeShared], by decide⟩

/-- with an exclusive borrow alive everything is refused; with a shared borrow alive `borrow_mut` and the write are refused
while another `borrow` and a read succeed -/
theorem exclusive_excludes (s : BState) (hr : BReachable s) :
    (s.1.writer = true →
      s.1.shared = .error .borrow ∧ s.1.exclusive = .error .borrow ∧ s.1.canRead = false ∧ s.1.canWrite = false) ∧
    (s.1.readers > 0 →
      s.1.exclusive = .error .borrow ∧ s.1.canWrite = false ∧
      s.1.shared = .ok { s.1 with readers := s.1.readers + 1 } ∧ s.1.canRead = true) := by
  rcases bshape_reachable s hr with rfl | ⟨n, rfl⟩
  · exact ⟨fun _ => ⟨rfl, rfl, rfl, rfl⟩, fun hpos => absurd hpos (by decide)⟩
  · refine ⟨fun hw => Bool.noConfusion hw, fun hpos => ?_⟩
    have hn : ¬ n = 0 := Nat.pos_iff_ne_zero.1 hpos
    simp [CellBorrow.shared, CellBorrow.exclusive, CellBorrow.canRead, CellBorrow.canWrite, hpos, hn]

/-- both antecedents occur -/
example : BReachable ({ writer := true }, [true]) ∧ ({ writer := true } : CellBorrow).writer = true :=
  ⟨⟨[.takeExclusive], by decide⟩, rfl⟩
example : BReachable ({ readers := 1 }, [false]) ∧ ({ readers := 1 } : CellBorrow).readers > 0 :=
  ⟨⟨[.takeShared], by decide⟩, by decide⟩

/-- a program that has released every borrow it took — whether it ran to its end or was stopped by a refusal at a moment when
nothing was outstanding — is back in the initial borrow state -/
theorem balanced_returns (ops : List BOp) (h : (brun binit ops).1.2 = []) : (brun binit ops).1.1 = {} := by
  rcases bshape_reachable _ ⟨ops, rfl⟩ with hs | ⟨n, hs⟩
  · rw [hs] at h; cases h
  · rw [hs] at h ⊢
    cases n with
    | zero => rfl
    | succ m => cases h

/-- the same for a program that ran to its end -/
theorem balanced_returns_completed (ops : List BOp) (b : CellBorrow) (h : brun binit ops = ((b, []), true)) : b = {} := by
  have := balanced_returns ops (by rw [h])
  rw [h] at this
  exact this

example : brun binit [.takeShared, .takeShared, .releaseInnermost, .releaseInnermost, .takeExclusive, .releaseInnermost]
    = (({}, []), true) := by decide
/-- an unbalanced program does not return to `{}` -/
example : (brun binit [.takeShared, .takeShared, .releaseInnermost]).1 = ({ readers := 1 }, [false]) := by decide
/-- a refused borrow stops the program -/
example : brun binit [.takeShared, .takeExclusive, .releaseInnermost] = (({ readers := 1 }, [false]), false) := by decide

end Rrtk.Thm.C17
