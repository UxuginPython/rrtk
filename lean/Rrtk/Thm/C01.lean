/-
C01 — dimensional analysis: unit exponents compose additively, mismatches panic.
Tier S: `F` is an arbitrary scalar type, so "the numeric part is exactly the f32 result of the same
operator on the raw values" holds for IEEE binary32 in particular; the two exceptions are `time_mul_q` and `dimint_mul_q`
(tier L: they assume that `*` commutes; `Thm/Ext/C01.lean` discharges it for binary32). `chk = true` is "dimension checking enabled".
All exponents are arbitrary integers (not a 7×7 sample).
The assign forms (`+=` `-=` `*=` `/=`: in the source `*self = *self op rhs`, for `Unit`'s `+=` `-=` the bare assertion) have no model
function of their own: no theorem here speaks of them; the driver runs them through the operator and the correspondence check
compares that with the code.
Every theorem that mentions `F` is stated under the full list of scalar classes of the model (the `variable` line), whether or
not it needs them all; hence the linter option.
-/
import Rrtk.Core
import Rrtk.ConstNames
import Rrtk.Gen.CfgGates
import Rrtk.Thm.Lemmas.Dim
set_option linter.unusedSectionVars false
namespace Rrtk.Thm.C01
open Rrtk

variable {F : Type} [Add F] [Sub F] [Mul F] [Div F] [Neg F] [LT F] [LE F] [BEq F]
  [DecidableLT F] [DecidableLE F] [FloatLike F]

theorem unit_mul (a b : Quantity F) :
    (Quantity.mul true a b).unit = ⟨a.unit.mm + b.unit.mm, a.unit.s + b.unit.s⟩ := rfl
theorem unit_div (a b : Quantity F) :
    (Quantity.div true a b).unit = ⟨a.unit.mm - b.unit.mm, a.unit.s - b.unit.s⟩ := rfl
theorem value_mul (chk : Bool) (a b : Quantity F) : (Quantity.mul chk a b).value = a.value * b.value := rfl
theorem value_div (chk : Bool) (a b : Quantity F) : (Quantity.div chk a b).value = a.value / b.value := rfl

theorem neg_keeps (a : Quantity F) : (Quantity.neg a).unit = a.unit ∧ (Quantity.neg a).value = -a.value := ⟨rfl, rfl⟩
theorem abs_keeps (a : Quantity F) :
    (Quantity.abs a).unit = a.unit ∧ (Quantity.abs a).value = FloatLike.absF a.value := ⟨rfl, rfl⟩

theorem add_panics_iff (a b : Quantity F) :
    (∃ p, Quantity.add true a b = .error p) ↔ a.unit ≠ b.unit := by
  rw [Quantity.add_true]
  exact Except.exists_ite_ok_error_eq_error_iff
theorem sub_panics_iff (a b : Quantity F) :
    (∃ p, Quantity.sub true a b = .error p) ↔ a.unit ≠ b.unit := by
  rw [Quantity.sub_true]
  exact Except.exists_ite_ok_error_eq_error_iff
theorem cmp_panics_iff (a b : Quantity F) :
    (∃ p, Quantity.partialCmp true a b = .error p) ↔ a.unit ≠ b.unit := by
  rw [Quantity.partialCmp_true]
  exact Except.exists_ite_ok_error_eq_error_iff

theorem add_panic_is_dim (chk : Bool) (a b : Quantity F) (p : Panic) (h : Quantity.add chk a b = .error p) : p = .dim :=
  Quantity.add_err h

theorem unit_op_mul (chk : Bool) (a b : Quantity F) : DUnit.mul chk a.unit b.unit = (Quantity.mul chk a b).unit := rfl
theorem unit_op_div (chk : Bool) (a b : Quantity F) : DUnit.div chk a.unit b.unit = (Quantity.div chk a b).unit := rfl
theorem unit_op_neg (a : Quantity F) : DUnit.neg a.unit = (Quantity.neg a).unit := rfl
theorem unit_op_add (chk : Bool) (a b : Quantity F) :
    DUnit.add chk a.unit b.unit = (Quantity.add chk a b).map (·.unit) := by
  simp only [Quantity.add]; cases DUnit.add chk a.unit b.unit <;> rfl
theorem unit_op_sub (chk : Bool) (a b : Quantity F) :
    DUnit.sub chk a.unit b.unit = (Quantity.sub chk a b).map (·.unit) := by
  simp only [Quantity.sub]; cases DUnit.sub chk a.unit b.unit <;> rfl

/-! ### mixed operands: each impl equals the `Quantity` operator after `Quantity::from`
(the whole family, grouped by operand types: `C18.q_time`, `q_dimint`, `time_q`, `dimint_q`, `time_time`, `commuted_mul` in
`Thm/C18.lean`) -/
theorem ofTime_unit (t : Int) : (Quantity.ofTime true t : Quantity F).unit = ⟨0, 1⟩ := rfl
theorem ofDimInt_unit (n : Int) : (Quantity.ofDimInt true n : Quantity F).unit = ⟨0, 0⟩ := rfl
theorem q_add_time (chk : Bool) (q : Quantity F) (t : Int) : Quantity.addTime chk q t = Quantity.add chk q (Quantity.ofTime chk t) := rfl
theorem q_sub_time (chk : Bool) (q : Quantity F) (t : Int) : Quantity.subTime chk q t = Quantity.sub chk q (Quantity.ofTime chk t) := rfl
theorem q_mul_time (chk : Bool) (q : Quantity F) (t : Int) : Quantity.mulTime chk q t = Quantity.mul chk q (Quantity.ofTime chk t) := rfl
theorem q_div_time (chk : Bool) (q : Quantity F) (t : Int) : Quantity.divTime chk q t = Quantity.div chk q (Quantity.ofTime chk t) := rfl
theorem q_add_dimint (chk : Bool) (q : Quantity F) (n : Int) : Quantity.addDimInt chk q n = Quantity.add chk q (Quantity.ofDimInt chk n) := rfl
theorem q_mul_dimint (chk : Bool) (q : Quantity F) (n : Int) : Quantity.mulDimInt chk q n = Quantity.mul chk q (Quantity.ofDimInt chk n) := rfl
theorem q_div_dimint (chk : Bool) (q : Quantity F) (n : Int) : Quantity.divDimInt chk q n = Quantity.div chk q (Quantity.ofDimInt chk n) := rfl
theorem time_add_q (chk : Bool) (t : Int) (q : Quantity F) : Time.addQ chk t q = Quantity.add chk (Quantity.ofTime chk t) q := rfl
theorem time_div_q (chk : Bool) (t : Int) (q : Quantity F) : Time.divQ chk t q = Quantity.div chk (Quantity.ofTime chk t) q := rfl
theorem time_mul_time (chk : Bool) (a b : Int) : (Time.mulTime chk a b : Quantity F) = Quantity.mul chk (Quantity.ofTime chk a) (Quantity.ofTime chk b) := rfl
/-- `Time * Quantity` is written commuted in the source (`rhs * self`); it equals the converted form when multiplication
commutes (tier L: IEEE-754 `*` is commutative up to NaN payload bits): the values by `hcomm`, the exponents as sums in `Int`. -/
theorem time_mul_q (chk : Bool) (t : Int) (q : Quantity F) (hcomm : ∀ x y : F, x * y = y * x) :
    Time.mulQ chk t q = Quantity.mul chk (Quantity.ofTime chk t) q :=
  Quantity.mul_comm hcomm chk q _
theorem dimint_mul_q (chk : Bool) (n : Int) (q : Quantity F) (hcomm : ∀ x y : F, x * y = y * x) :
    DimInt.mulQ chk n q = Quantity.mul chk (Quantity.ofDimInt chk n) q :=
  Quantity.mul_comm hcomm chk q _
theorem q_mul_time_unit (q : Quantity F) (t : Int) :
    (Quantity.mulTime true q t).unit = ⟨q.unit.mm, q.unit.s + 1⟩ :=
  (DUnit.mul_true q.unit ⟨0, 1⟩).trans (by rw [Int.add_zero])
theorem q_div_time_unit (q : Quantity F) (t : Int) :
    (Quantity.divTime true q t).unit = ⟨q.unit.mm, q.unit.s - 1⟩ :=
  (DUnit.div_true q.unit ⟨0, 1⟩).trans (by rw [Int.sub_zero])

theorem posder_to_unit :
    DUnit.ofPosDer true .position = ⟨1, 0⟩ ∧ DUnit.ofPosDer true .velocity = ⟨1, -1⟩ ∧
    DUnit.ofPosDer true .acceleration = ⟨1, -2⟩ := ⟨rfl, rfl, rfl⟩
theorem posder_unit_roundtrip (pd : PosDer) : PosDer.tryOfUnit (DUnit.ofPosDer true pd) = some pd := by
  cases pd <;> decide
theorem unit_posder_roundtrip (u : DUnit) (pd : PosDer) (h : PosDer.tryOfUnit u = some pd) :
    u = DUnit.ofPosDer true pd := by
  unfold PosDer.tryOfUnit at h
  split at h
  · cases h; assumption
  split at h
  · cases h; assumption
  split at h
  · cases h; assumption
  · cases h
/-- for either `chk`, value first: `C14.command_quantity_consistent` -/
theorem command_to_quantity_unit (c : Command F) :
    (Command.toQuantity true c).unit = DUnit.ofPosDer true c.kind ∧ (Command.toQuantity true c).value = c.raw := by
  cases c <;> exact ⟨rfl, rfl⟩
/-- `Command.tryOfQuantity_toQuantity` (`Lemmas/Dim.lean`), under C01's name; C14 has it as `command_roundtrip_quantity` -/
theorem command_quantity_roundtrip (c : Command F) : Command.tryOfQuantity (Command.toQuantity true c) = some c :=
  Command.tryOfQuantity_toQuantity c
theorem quantity_command_accepts_exactly (q : Quantity F) :
    (Command.tryOfQuantity q).isSome ↔ (q.unit = ⟨1, 0⟩ ∨ q.unit = ⟨1, -1⟩ ∨ q.unit = ⟨1, -2⟩) := by
  simp only [Command.tryOfQuantity, PosDer.tryOfUnit]
  by_cases h1 : q.unit = ⟨1, 0⟩
  · simp [h1]
  · by_cases h2 : q.unit = ⟨1, -1⟩
    · simp [h2]
    · by_cases h3 : q.unit = ⟨1, -2⟩
      · simp [h3]
      · simp [h1, h2, h3]

/-! ### the table of named constants (regenerated from the source on every run) -/
/-- every named unit constant has the exponents its name states -/
theorem constants_named_correctly :
    ∀ r ∈ Gen.constants, nameExponents r.toks = some (r.mm, r.s) := by decide +kernel
theorem constants_cover_grid :
    ∀ m ∈ [-3, -2, -1, 0, 1, 2, 3], ∀ s ∈ [-3, -2, -1, 0, 1, 2, 3],
      (Gen.constants.any (fun r => r.mm == m && r.s == s)) = true := by decide +kernel
/-- the generator parsed every `pub const … : Unit` the file declares (nothing escaped the table). How MANY there are (49 today: the
7×7 grid) is a snapshot, not a requirement — a further, correctly named constant is conformant — and lives in Lemmas/C01Snapshot.lean -/
theorem constants_count : Gen.declaredCount = Gen.constants.length := by decide
/-- the constants the crate's own code relies on -/
theorem constants_used_by_code :
    (Gen.constants.any (fun r => r.name == "MILLIMETER" && r.mm == 1 && r.s == 0)) = true ∧
    (Gen.constants.any (fun r => r.name == "MILLIMETER_PER_SECOND" && r.mm == 1 && r.s == -1)) = true ∧
    (Gen.constants.any (fun r => r.name == "MILLIMETER_PER_SECOND_SQUARED" && r.mm == 1 && r.s == -2)) = true ∧
    (Gen.constants.any (fun r => r.name == "SECOND" && r.mm == 0 && r.s == 1)) = true ∧
    (Gen.constants.any (fun r => r.name == "DIMENSIONLESS" && r.mm == 0 && r.s == 0)) = true := by decide +kernel

example : Quantity.add true (⟨1, ⟨1, 0⟩⟩ : Quantity Int) ⟨2, ⟨0, 1⟩⟩ = .error .dim := by rfl
example : (Quantity.mul true (⟨3, ⟨1, -1⟩⟩ : Quantity Int) ⟨2, ⟨0, 1⟩⟩).unit = ⟨1, 0⟩ := by rfl

/-! ### which builds have dimension checking: the cfg gates regenerated from the source -/
-- (a checked build, C01's `chk = true`, is one where the rule `checkingOn` holds; an unchecked one, C19's, one where it does not)
theorem dim_gates_nonempty : Gen.dimGates ≠ [] := by decide
/-- Every `cfg` / `cfg_attr` predicate in the source that mentions dimension checking is exactly the documented rule
`dim_check_release ∨ (debug_assertions ∧ dim_check_debug)` or exactly its negation — for either profile, every setting of the two
features, the other features all on or all off (`o`) and either value (`unk`) of what the generator did not parse, which is every
build for a gate that mentions no other feature (today all of them). No item is gated by a different condition than the rest, so
"checking on" and "checking off" are two consistent worlds and the model's single switch `chk` is faithful. The table is
regenerated from /repo on every run. -/
theorem dim_gates_uniform : ∀ g ∈ Gen.dimGates,
    (∀ dbg rel dbgF o unk : Bool, g.2.2.eval dbg (dimEnv rel dbgF o) unk = checkingOn dbg rel dbgF) ∨
    (∀ dbg rel dbgF o unk : Bool, g.2.2.eval dbg (dimEnv rel dbgF o) unk = !checkingOn dbg rel dbgF) := by decide +kernel
theorem dim_gates_both_polarities :
    (∃ g ∈ Gen.dimGates, g.2.2.eval true (dimEnv true true false) false = true) ∧
    (∃ g ∈ Gen.dimGates, g.2.2.eval true (dimEnv true true false) false = false) := by decide
/-- the rule itself: the release feature switches checking on in every profile; the debug feature only with debug
assertions; without either feature checking is off -/
theorem checkingOn_table :
    (∀ dbg dbgF, checkingOn dbg true dbgF = true) ∧ (∀ dbgF, checkingOn false false dbgF = false) ∧
    checkingOn true false true = true ∧ (∀ dbg, checkingOn dbg false false = false) := by decide

end Rrtk.Thm.C01
