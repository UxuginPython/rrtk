/-
C09 — the terminal graph: `connect` / `disconnect` keep the links a symmetric matching and never panic
(for distinct terminals), and the three terminal reads (`Getter<State>`, `Getter<Command>`,
`Getter<TerminalData>`) are the mean / the newer / the combination of own and partner's slots.

Tier S throughout (`F` arbitrary, no algebraic law), except `connected_read_same_state`, which is tier L:
it needs commutativity of `+` on `F` (hypothesis `hadd`), because one end computes `(own + partner) / 2` and the
other `(partner + own) / 2`.

The model (`Rrtk/Devices.lean`) is of the tree AFTER the `fix:` commit in which `connect` disconnects each
terminal before taking both mutable borrows.  `connectPrefix` below models the ORIGINAL order and
`connect_prefix_counterexample` exhibits the `RefCell` double borrow the fix removed.

Nothing here restricts terminal indices to `i < w.n`: every statement holds for all `Nat` indices, hence for any
number of terminals.
-/
import Rrtk.Thm.Lemmas.World
import Rrtk.Thm.Lemmas.DatumTime
-- theorems are stated under the whole scalar-class list of `Rrtk/Devices.lean`, used or not: one context for every caller
set_option linter.unusedSectionVars false
namespace Rrtk.Thm.C09
open Rrtk Rrtk.World

section Links
variable {F : Type}

/-- The links form a symmetric matching without self-loops ("at most one partner" is built into `Option`;
that no two terminals point at the same one is `inv_partner_unique`). -/
def Inv (w : World F) : Prop := ∀ i j, (w.t i).other = some j → i ≠ j ∧ (w.t j).other = some i

-- the `World.*` lemmas of the same names (`Lemmas/World.lean` has the full set), restated in this namespace with the
-- datum before the index read; with `Rrtk.World` and `Rrtk.Thm.C09` both open outside this namespace the bare names are
-- ambiguous (`rw [setCommand_command]` is rejected): write `World.setCommand_command`
theorem setOther_n (w : World F) (i : Nat) (o : Option Nat) : (w.setOther i o).n = w.n := World.setOther_n w i o
theorem setState_command (w : World F) (i : Nat) (d : Datum (State F)) (k : Nat) :
    ((w.setState i d).t k).command = (w.t k).command := World.setState_command w i k d
theorem setCommand_command (w : World F) (i : Nat) (d : Datum (Command F)) (k : Nat) :
    ((w.setCommand i d).t k).command = if k = i then some d else (w.t k).command := World.setCommand_command w i k d
theorem setCommand_state (w : World F) (i : Nat) (d : Datum (Command F)) (k : Nat) :
    ((w.setCommand i d).t k).state = (w.t k).state := World.setCommand_state w i k d

theorem inv_congr {w w' : World F} (h : Inv w) (ho : ∀ k, (w'.t k).other = (w.t k).other) : Inv w' := by
  intro a b; rw [ho, ho]; exact h a b
theorem inv_setState (w : World F) (h : Inv w) (i : Nat) (d : Datum (State F)) : Inv (w.setState i d) :=
  inv_congr h fun _ => setState_other ..
theorem inv_setCommand (w : World F) (h : Inv w) (i : Nat) (d : Datum (Command F)) : Inv (w.setCommand i d) :=
  inv_congr h fun _ => setCommand_other ..

theorem inv_empty : Inv (World.empty : World F) := by
  intro i j h; simp [World.empty, freshTerm] at h
theorem inv_fresh (w : World F) (k : Nat) (h : Inv w) : Inv (w.addTerms k) := h
theorem fresh_unlinked (n k : Nat) :
    (((World.empty : World F).addTerms n).t k).other = none ∧
    (((World.empty : World F).addTerms n).t k).state = none ∧
    (((World.empty : World F).addTerms n).t k).command = none := ⟨rfl, rfl, rfl⟩

theorem inv_partner_unique (w : World F) (h : Inv w) (a b i : Nat)
    (ha : (w.t a).other = some i) (hb : (w.t b).other = some i) : a = b := by
  have h1 := (h a i ha).2
  have h2 := (h b i hb).2
  rw [h1] at h2; exact Option.some.inj h2
theorem inv_mutual (w : World F) (h : Inv w) (i j : Nat) :
    (w.t i).other = some j ↔ (w.t j).other = some i := ⟨fun e => (h i j e).2, fun e => (h j i e).2⟩
theorem inv_no_self (w : World F) (h : Inv w) (i : Nat) : (w.t i).other ≠ some i :=
  fun e => (h i i e).1 rfl

/-- no assumption on the world -/
theorem disconnect_spec (w w' : World F) (i : Nat) (hd : disconnect w i = .ok w') :
    (∀ k, (w'.t k).other = if k = i ∨ (w.t i).other = some k then none else (w.t k).other) ∧
    (∀ k, (w'.t k).state = (w.t k).state) ∧ (∀ k, (w'.t k).command = (w.t k).command) ∧ w'.n = w.n := by
  unfold disconnect at hd
  cases ho : (w.t i).other with
  | none =>
    simp only [ho] at hd
    cases hd
    refine ⟨fun k => ?_, fun _ => rfl, fun _ => rfl, rfl⟩
    by_cases hk : k = i
    · subst hk; simp [ho]
    · simp [hk]
  | some p =>
    simp only [ho] at hd
    split at hd
    · cases hd
    · next hp =>
      cases hd
      refine ⟨fun k => ?_, fun k => ?_, fun k => ?_, rfl⟩
      · rw [setOther_other, setOther_other]
        by_cases hk : k = i
        · simp [hk]
        · by_cases hkp : k = p
          · subst hkp; simp [hk]
          · have : ¬ (some p = some k) := fun e => hkp (Option.some.inj e).symm
            simp [hk, hkp, this]
      · rw [setOther_state, setOther_state]
      · rw [setOther_command, setOther_command]

theorem disconnect_panics_iff (w : World F) (i : Nat) :
    (∃ e, disconnect w i = .error e) ↔ (w.t i).other = some i := by
  unfold disconnect
  cases ho : (w.t i).other with
  | none => simp
  | some p =>
    by_cases hp : p = i
    · simp [hp]
    · simp [hp]

theorem disconnect_no_panic (w : World F) (h : Inv w) (i : Nat) : ∃ w', disconnect w i = .ok w' := by
  cases hd : disconnect w i with
  | ok w' => exact ⟨w', rfl⟩
  | error e => exact absurd ((disconnect_panics_iff w i).1 ⟨e, hd⟩) (inv_no_self w h i)

theorem disconnect_preserves_inv (w w' : World F) (i : Nat) (h : Inv w) (hd : disconnect w i = .ok w') :
    Inv w' := by
  obtain ⟨ho, -⟩ := disconnect_spec w w' i hd
  intro a b hab
  rw [ho] at hab ⊢
  split at hab
  · cases hab
  · next ha =>
    obtain ⟨hne, hba⟩ := h a b hab
    refine ⟨hne, ?_⟩
    -- the two ends of `i`'s link are closed under the links: `b` is not one of them because `a` is not
    rw [if_neg, hba]
    rintro (rfl | hib)
    · exact ha (.inr hba)
    · exact ha (.inl (Option.some.inj ((h _ _ hib).2.symm.trans hba)).symm)

theorem inv_disconnect (w : World F) (h : Inv w) (i : Nat) : ∃ w', disconnect w i = .ok w' ∧ Inv w' := by
  obtain ⟨w', hd⟩ := disconnect_no_panic w h i
  exact ⟨w', hd, disconnect_preserves_inv w w' i h hd⟩

theorem disconnect_unlinks_both (w w' : World F) (i : Nat) (hd : disconnect w i = .ok w') :
    (w'.t i).other = none ∧ ∀ p, (w.t i).other = some p → (w'.t p).other = none := by
  obtain ⟨ho, -, -, -⟩ := disconnect_spec w w' i hd
  refine ⟨by rw [ho i]; simp, fun p hp => ?_⟩
  rw [ho p]; simp [hp]

theorem disconnect_keeps_others (w w' : World F) (i k : Nat) (hd : disconnect w i = .ok w')
    (hk : k ≠ i) (hp : (w.t i).other ≠ some k) : (w'.t k).other = (w.t k).other := by
  obtain ⟨ho, -, -, -⟩ := disconnect_spec w w' i hd
  rw [ho k]; simp [hk, hp]

theorem disconnect_unlinked (w : World F) (i : Nat) (h : (w.t i).other = none) : disconnect w i = .ok w := by
  simp [disconnect, h]

theorem inv_link (w : World F) (i j : Nat) (h : Inv w) (hij : i ≠ j)
    (hi : (w.t i).other = none) (hj : (w.t j).other = none) :
    Inv ((w.setOther i (some j)).setOther j (some i)) := by
  intro a b hab
  rw [setOther_other, setOther_other] at hab
  rw [setOther_other, setOther_other]
  by_cases haj : a = j
  · subst haj
    simp only [if_true] at hab
    have hb : b = i := (Option.some.inj hab).symm
    subst hb
    exact ⟨fun e => hij e.symm, by simp [hij]⟩
  · by_cases hai : a = i
    · subst hai
      simp only [haj, if_false, if_true] at hab
      have hb : b = j := (Option.some.inj hab).symm
      subst hb
      exact ⟨hij, by simp⟩
    · simp only [haj, hai, if_false] at hab
      obtain ⟨hne, hba⟩ := h a b hab
      have hbi : b ≠ i := fun e => by subst e; rw [hi] at hba; cases hba
      have hbj : b ≠ j := fun e => by subst e; rw [hj] at hba; cases hba
      exact ⟨hne, by simp [hbi, hbj, hba]⟩

/-- both `borrow_mut` on the same cell -/
theorem connect_self_panics (w : World F) (i : Nat) : connect w i i = .error .borrow := by
  unfold connect
  have key : ∀ (v : World F) (e : Panic), disconnect v i = .error e → e = .borrow := by
    intro v e hv
    unfold disconnect at hv
    split at hv
    · cases hv
    · split at hv
      · cases hv; rfl
      · cases hv
  cases h1 : disconnect w i with
  | error e => simp [key w e h1]
  | ok w1 =>
    cases h2 : disconnect w1 i with
    | error e => simp [h2, key w1 e h2]
    | ok w2 => simp [h2]

/-- no assumption on the world: success already means `i ≠ j` -/
theorem connect_ok_spec (w w' : World F) (i j : Nat) (hc : connect w i j = .ok w') :
    i ≠ j ∧ (w'.t i).other = some j ∧ (w'.t j).other = some i ∧
    (∀ k, (w'.t k).state = (w.t k).state) ∧ (∀ k, (w'.t k).command = (w.t k).command) ∧ w'.n = w.n := by
  unfold connect at hc
  cases h1 : disconnect w i with
  | error e => rw [h1] at hc; cases hc
  | ok w1 =>
    cases h2 : disconnect w1 j with
    | error e => rw [h1] at hc; simp only [h2] at hc; cases hc
    | ok w2 =>
      rw [h1] at hc; simp only [h2] at hc
      split at hc
      · cases hc
      · next hij =>
        cases hc
        obtain ⟨-, s1, c1, n1⟩ := disconnect_spec w w1 i h1
        obtain ⟨-, s2, c2, n2⟩ := disconnect_spec w1 w2 j h2
        refine ⟨hij, ?_, ?_, fun k => ?_, fun k => ?_, n2.trans n1⟩
        · rw [setOther_other, setOther_other, if_neg hij, if_pos rfl]
        · rw [setOther_other, if_pos rfl]
        · rw [setOther_state, setOther_state, s2, s1]
        · rw [setOther_command, setOther_command, c2, c1]

/-- the full description of `connect i j` under the invariant; the theorems after it are its projections -/
theorem connect_spec (w : World F) (h : Inv w) (i j : Nat) (hij : i ≠ j) :
    ∃ w', connect w i j = .ok w' ∧ Inv w' ∧ (w'.t i).other = some j ∧ (w'.t j).other = some i ∧
      (∀ k, k ≠ i → k ≠ j → (w'.t k).other =
        if (w.t i).other = some k ∨ (w.t j).other = some k then none else (w.t k).other) ∧
      (∀ k, (w'.t k).state = (w.t k).state) ∧ (∀ k, (w'.t k).command = (w.t k).command) ∧ w'.n = w.n := by
  obtain ⟨w1, hd1, hI1⟩ := inv_disconnect w h i
  obtain ⟨w2, hd2, hI2⟩ := inv_disconnect w1 hI1 j
  obtain ⟨ho1, -⟩ := disconnect_spec w w1 i hd1
  obtain ⟨ho2, -⟩ := disconnect_spec w1 w2 j hd2
  have hji : j ≠ i := fun e => hij e.symm
  have h1i : (w1.t i).other = none := (disconnect_unlinks_both w w1 i hd1).1
  have h2i : (w2.t i).other = none := by
    rw [ho2 i]; split
    · rfl
    · exact h1i
  have h2j : (w2.t j).other = none := (disconnect_unlinks_both w1 w2 j hd2).1
  have hc : connect w i j = .ok ((w2.setOther i (some j)).setOther j (some i)) := by simp [connect, hd1, hd2, hij]
  obtain ⟨-, hl1, hl2, hs, hcm, hn⟩ := connect_ok_spec w _ i j hc
  refine ⟨_, hc, inv_link w2 i j hI2 hij h2i h2j, hl1, hl2, fun k hki hkj => ?_, hs, hcm, hn⟩
  rw [setOther_other, setOther_other, ho2 k, ho1 k, ho1 j]
  simp only [hki, hkj, hji, if_false, false_or]
  by_cases hik : (w.t i).other = some k
  · simp [hik]
  · by_cases hjk : (w.t j).other = some k
    · -- `k` is `j`'s partner, so `i` is not linked to `j`
      have hnij : (w.t i).other ≠ some j := fun e => by
        have := (h i j e).2
        rw [hjk] at this
        exact hki (Option.some.inj this)
      simp [hik, hjk, hnij]
    · by_cases hnij : (w.t i).other = some j <;> simp [hik, hjk, hnij]

/-- whatever either was linked to, including each other -/
theorem connect_no_panic (w : World F) (h : Inv w) (i j : Nat) (hij : i ≠ j) : ∃ w', connect w i j = .ok w' := by
  obtain ⟨w', hc, -⟩ := connect_spec w h i j hij
  exact ⟨w', hc⟩

theorem inv_connect (w : World F) (h : Inv w) (i j : Nat) (hij : i ≠ j) :
    ∃ w', connect w i j = .ok w' ∧ Inv w' := by
  obtain ⟨w', hc, hI, -⟩ := connect_spec w h i j hij
  exact ⟨w', hc, hI⟩

theorem connect_links (w w' : World F) (h : Inv w) (i j : Nat) (hij : i ≠ j) (hc : connect w i j = .ok w') :
    (w'.t i).other = some j ∧ (w'.t j).other = some i := by
  obtain ⟨-, hl1, hl2, -⟩ := connect_ok_spec w w' i j hc
  exact ⟨hl1, hl2⟩

theorem connect_frees_old_partners (w w' : World F) (h : Inv w) (i j p : Nat) (hij : i ≠ j)
    (hc : connect w i j = .ok w') (hpi : p ≠ i) (hpj : p ≠ j)
    (hp : (w.t i).other = some p ∨ (w.t j).other = some p) : (w'.t p).other = none := by
  obtain ⟨w'', hc', -, -, -, hk, -⟩ := connect_spec w h i j hij
  rw [hc] at hc'; cases hc'
  rw [hk p hpi hpj]; simp [hp]

theorem connect_keeps_others (w w' : World F) (h : Inv w) (i j k : Nat) (hij : i ≠ j)
    (hc : connect w i j = .ok w') (hki : k ≠ i) (hkj : k ≠ j)
    (hpi : (w.t i).other ≠ some k) (hpj : (w.t j).other ≠ some k) : (w'.t k).other = (w.t k).other := by
  obtain ⟨w'', hc', -, -, -, hk, -⟩ := connect_spec w h i j hij
  rw [hc] at hc'; cases hc'
  rw [hk k hki hkj]; simp [hpi, hpj]

theorem connect_keeps_slots (w w' : World F) (h : Inv w) (i j k : Nat) (hij : i ≠ j)
    (hc : connect w i j = .ok w') : (w'.t k).state = (w.t k).state ∧ (w'.t k).command = (w.t k).command := by
  obtain ⟨-, -, -, hs, hcm, -⟩ := connect_ok_spec w w' i j hc
  exact ⟨hs k, hcm k⟩

theorem connect_reconnect (w : World F) (h : Inv w) (i j : Nat) (hl : (w.t i).other = some j) :
    ∃ w', connect w i j = .ok w' ∧ ∀ k, (w'.t k).other = (w.t k).other := by
  have hij : i ≠ j := (h i j hl).1
  have hlj : (w.t j).other = some i := (h i j hl).2
  obtain ⟨w', hc, -, hl1, hl2, hk, -⟩ := connect_spec w h i j hij
  refine ⟨w', hc, fun k => ?_⟩
  by_cases hki : k = i
  · subst hki; rw [hl1, hl]
  · by_cases hkj : k = j
    · subst hkj; rw [hl2, hlj]
    · rw [hk k hki hkj, hl, hlj]
      have a1 : ¬ (some j = some k) := fun e => hkj (Option.some.inj e).symm
      have a2 : ¬ (some i = some k) := fun e => hki (Option.some.inj e).symm
      simp [a1, a2]

/-- the operations a program can perform on the terminal graph -/
inductive Op (F : Type) where
  | connect (i j : Nat)
  | disconnect (i : Nat)
  | setState (i : Nat) (d : Datum (State F))
  | setCommand (i : Nat) (d : Datum (Command F))
  | addTerms (k : Nat)

/-- the quantifier of the property: `connect` is only applied to two distinct terminals -/
def Op.wf : Op F → Prop
  | .connect i j => i ≠ j
  | _ => True

def step (w : World F) : Op F → Except Panic (World F)
  | .connect i j => World.connect w i j
  | .disconnect i => World.disconnect w i
  | .setState i d => .ok (w.setState i d)
  | .setCommand i d => .ok (w.setCommand i d)
  | .addTerms k => .ok (w.addTerms k)

def runOps (w : World F) : List (Op F) → Except Panic (World F)
  | [] => .ok w
  | op :: ops =>
    match step w op with
    | .error e => .error e
    | .ok w' => runOps w' ops

theorem inv_step (w : World F) (h : Inv w) (op : Op F) (hop : op.wf) : ∃ w', step w op = .ok w' ∧ Inv w' := by
  cases op with
  | connect i j => exact inv_connect w h i j hop
  | disconnect i => exact inv_disconnect w h i
  | setState i d => exact ⟨_, rfl, inv_setState w h i d⟩
  | setCommand i d => exact ⟨_, rfl, inv_setCommand w h i d⟩
  | addTerms k => exact ⟨_, rfl, inv_fresh w k h⟩

/-- "after any sequence of connect and disconnect calls": any length, any terminal indices -/
theorem inv_all_sequences (ops : List (Op F)) (w : World F) (h : Inv w) (hops : ∀ op ∈ ops, op.wf) :
    ∃ w', runOps w ops = .ok w' ∧ Inv w' := by
  induction ops generalizing w with
  | nil => exact ⟨w, rfl, h⟩
  | cons op ops ih =>
    obtain ⟨w1, hs, hI1⟩ := inv_step w h op (hops op (List.mem_cons_self ..))
    obtain ⟨w', hr, hI'⟩ := ih w1 hI1 (fun o ho => hops o (List.mem_cons_of_mem _ ho))
    exact ⟨w', by simp [runOps, hs, hr], hI'⟩

theorem inv_reachable (n : Nat) (ops : List (Op F)) (hops : ∀ op ∈ ops, op.wf) :
    ∃ w', runOps ((World.empty : World F).addTerms n) ops = .ok w' ∧ Inv w' :=
  inv_all_sequences ops _ (inv_fresh _ n inv_empty) hops

/-- `Terminal::disconnect` on terminal `i` while terminal `held` is also mutably borrowed by the caller -/
def disconnectHeld (w : World F) (i held : Nat) : Except Panic (World F) :=
  match (w.t i).other with
  | none => .ok w
  | some p => if p = i ∨ p = held then .error .borrow else .ok ((w.setOther p none).setOther i none)

/-- `rrtk::connect` BEFORE the fix: `let mut b1 = term1.borrow_mut(); let mut b2 = term2.borrow_mut();
b1.disconnect(); b2.disconnect(); b1.other = Some(term2); b2.other = Some(term1);` -/
def connectPrefix (w : World F) (i j : Nat) : Except Panic (World F) :=
  if i = j then .error .borrow
  else
    match disconnectHeld w i j with
    | .error e => .error e
    | .ok w1 =>
      match disconnectHeld w1 j i with
      | .error e => .error e
      | .ok w2 => .ok ((w2.setOther i (some j)).setOther j (some i))

/-- the original `connect` panicked whenever the first terminal was linked to the second -/
theorem connect_prefix_panics (w : World F) (i j : Nat) (hl : (w.t i).other = some j) :
    connectPrefix w i j = .error .borrow := by
  unfold connectPrefix
  split
  · rfl
  · simp [disconnectHeld, hl]

/-- … and under the invariant that was its only failure: otherwise it did what the fixed `connect` does -/
theorem connect_prefix_agrees (w : World F) (h : Inv w) (i j : Nat) (hij : i ≠ j)
    (hl : (w.t i).other ≠ some j) : connectPrefix w i j = connect w i j := by
  have hheld : ∀ (v : World F) (a b : Nat), (v.t a).other ≠ some b → disconnectHeld v a b = disconnect v a := by
    intro v a b hv
    unfold disconnectHeld disconnect
    cases ho : (v.t a).other with
    | none => rfl
    | some p =>
      have hpb : p ≠ b := fun e => hv (by rw [ho, e])
      simp [hpb]
  obtain ⟨w1, hd1, hI1⟩ := inv_disconnect w h i
  have h1i : (w1.t i).other = none := (disconnect_unlinks_both w w1 i hd1).1
  have h1j : (w1.t j).other ≠ some i := fun e => by
    have := (hI1 j i e).2
    rw [h1i] at this; cases this
  unfold connectPrefix connect
  rw [hheld w i j hl, hd1]
  simp only [hij, if_false]
  rw [hheld w1 j i h1j]
  cases disconnect w1 j <;> rfl

end Links

section Reads
variable {F : Type} [Add F] [Sub F] [Mul F] [Div F] [Neg F] [LT F] [LE F] [BEq F]
  [DecidableLT F] [DecidableLE F] [FloatLike F]

theorem partnerState_eq (w : World F) (i : Nat) :
    partnerState w i = match (w.t i).other with | some p => (w.t p).state | none => none := rfl
theorem partnerCommand_eq (w : World F) (i : Nat) :
    partnerCommand w i = match (w.t i).other with | some p => (w.t p).command | none => none := rfl
theorem partner_unlinked (w : World F) (i : Nat) (h : (w.t i).other = none) :
    partnerState w i = none ∧ partnerCommand w i = none := ⟨partnerState_unlinked h, partnerCommand_unlinked h⟩

/-- "its state read is the mean of its own and its partner's latest states (or whichever exists)" -/
theorem state_read_eq (w : World F) (i : Nat) :
    getState w i =
      match (w.t i).state, partnerState w i with
      | none, none => none
      | some a, none => some a
      | none, some b => some b
      | some a, some b => some ⟨max a.time b.time, State.divF (State.add a.value b.value) c2⟩ := by
  unfold getState
  -- only the case of two states computes: `combine` stamps with the later time
  cases (w.t i).state <;> cases partnerState w i <;> simp only [Datum.scalar, Datum.combine_eq]

theorem state_read_none (w : World F) (i : Nat) (ha : (w.t i).state = none) (hb : partnerState w i = none) :
    getState w i = none := by rw [state_read_eq, ha, hb]
theorem state_read_own (w : World F) (i : Nat) (a : Datum (State F)) (ha : (w.t i).state = some a)
    (hb : partnerState w i = none) : getState w i = some a := by rw [state_read_eq, ha, hb]
theorem state_read_partner (w : World F) (i : Nat) (b : Datum (State F)) (ha : (w.t i).state = none)
    (hb : partnerState w i = some b) : getState w i = some b := by rw [state_read_eq, ha, hb]
/-- both present: component-wise `(own + partner) / 2.0`, in this operand order -/
theorem state_read_mean (w : World F) (i : Nat) (a b : Datum (State F)) (ha : (w.t i).state = some a)
    (hb : partnerState w i = some b) :
    getState w i = some ⟨max a.time b.time,
      ⟨(a.value.position + b.value.position) / c2, (a.value.velocity + b.value.velocity) / c2,
       (a.value.acceleration + b.value.acceleration) / c2⟩⟩ := by
  rw [state_read_eq, ha, hb]; rfl
theorem state_read_none_iff (w : World F) (i : Nat) :
    getState w i = none ↔ (w.t i).state = none ∧ partnerState w i = none := by
  rw [state_read_eq]
  cases (w.t i).state <;> cases partnerState w i <;> simp

theorem command_read_formula (w : World F) (i : Nat) :
    getCommand w i =
      match (w.t i).command, partnerCommand w i with
      | none, g => g
      | some c, none => some c
      | some c, some g => if c.time < g.time then some g else some c := rfl

/-- "its command read is the newer of the two commands": one of the two, neither newer, the own one on a tie -/
theorem command_read_eq (w : World F) (i : Nat) :
    (getCommand w i = none ↔ (w.t i).command = none ∧ partnerCommand w i = none) ∧
    ∀ r, getCommand w i = some r →
      ((w.t i).command = some r ∨ partnerCommand w i = some r) ∧
      (∀ c, (w.t i).command = some c → c.time ≤ r.time) ∧
      (∀ g, partnerCommand w i = some g → g.time ≤ r.time) ∧
      (∀ c, (w.t i).command = some c → (∀ g, partnerCommand w i = some g → g.time ≤ c.time) → r = c) ∧
      (∀ c g, (w.t i).command = some c → partnerCommand w i = some g → c.time < g.time → r = g) := by
  refine ⟨getCommand_none_iff w i, fun r hr => ?_⟩
  have hown : ∀ c, (w.t i).command = some c → (∀ g, partnerCommand w i = some g → g.time ≤ c.time) → r = c :=
    fun c hc hall => Option.some.inj (hr.symm.trans (getCommand_eq_own w i c hc hall))
  refine ⟨?_, fun c hc => ?_, fun g hg => ?_, hown, fun c g hc hg hlt => ?_⟩
  · -- `r` is one of the two
    rw [command_read_formula] at hr
    cases hc : (w.t i).command with
    | none => rw [hc] at hr; exact .inr hr
    | some c =>
      rw [hc] at hr
      cases hg : partnerCommand w i with
      | none => rw [hg] at hr; exact .inl hr
      | some g =>
        rw [hg] at hr
        simp only [] at hr
        split at hr
        · exact .inr hr
        · exact .inl hr
  · obtain ⟨r', hr', h⟩ := own_le_read w i c hc
    cases hr.symm.trans hr'; exact h
  · obtain ⟨r', hr', h⟩ := partner_le_read w i g hg
    cases hr.symm.trans hr'; exact h
  · refine Option.some.inj (hr.symm.trans (getCommand_eq_partner_of_newer w i g hg fun o ho => ?_))
    cases hc.symm.trans ho; exact hlt

theorem combined_read_formula (w : World F) (i : Nat) :
    getTerminalData w i =
      match getState w i, getCommand w i with
      | some s, c => some ⟨s.time, ⟨s.time, c.map (·.value), some s.value⟩⟩
      | none, some c => some ⟨c.time, ⟨c.time, some c.value, none⟩⟩
      | none, none => none := by
  unfold getTerminalData
  cases getState w i <;> cases getCommand w i <;> rfl

/-- "its combined read reports both with the state's timestamp when there is one" -/
theorem combined_read_eq (w : World F) (i : Nat) :
    (getTerminalData w i = none ↔ getState w i = none ∧ getCommand w i = none) ∧
    ∀ r, getTerminalData w i = some r →
      r.value.command = (getCommand w i).map (·.value) ∧
      r.value.state = (getState w i).map (·.value) ∧
      r.value.time = r.time ∧
      (∀ s, getState w i = some s → r.time = s.time) ∧
      (getState w i = none → ∀ c, getCommand w i = some c → r.time = c.time) := by
  rw [combined_read_formula]
  cases getState w i <;> cases getCommand w i <;> simp

/-- "two connected terminals always read the same state": the part that needs no law of arithmetic -/
theorem connected_read_same_time (w : World F) (h : Inv w) (i j : Nat) (hl : (w.t i).other = some j) :
    (getState w i).map (·.time) = (getState w j).map (·.time) ∧
    ((getState w i).isSome = (getState w j).isSome) ∧
    (∀ a b, (w.t i).state = some a → (w.t j).state = some b →
      getState w i = some ⟨max a.time b.time, State.divF (State.add a.value b.value) c2⟩ ∧
      getState w j = some ⟨max a.time b.time, State.divF (State.add b.value a.value) c2⟩) ∧
    ((w.t i).state = none ∨ (w.t j).state = none → getState w i = getState w j) := by
  have hlj : (w.t j).other = some i := (h i j hl).2
  rw [state_read_eq w i, state_read_eq w j, partnerState_linked hl, partnerState_linked hlj]
  cases (w.t i).state with
  | none => cases (w.t j).state <;> simp
  | some a =>
    cases (w.t j).state with
    | none => simp
    | some b =>
      have hm : max b.time a.time = max a.time b.time := Int.max_comm ..
      simp [hm]

/-- "two connected terminals always read the same state" (tier L: `hadd`, addition of the scalar type is commutative) -/
theorem connected_read_same_state (hadd : ∀ x y : F, x + y = y + x)
    (w : World F) (h : Inv w) (i j : Nat) (hl : (w.t i).other = some j) : getState w i = getState w j := by
  obtain ⟨-, -, hboth, hnone⟩ := connected_read_same_time w h i j hl
  cases ha : (w.t i).state with
  | none => exact hnone (Or.inl ha)
  | some a =>
    cases hb : (w.t j).state with
    | none => exact hnone (Or.inr hb)
    | some b =>
      obtain ⟨e1, e2⟩ := hboth a b ha hb
      rw [e1, e2]
      have : State.add a.value b.value = State.add b.value a.value := by
        simp only [State.add]
        rw [hadd a.value.position, hadd a.value.velocity, hadd a.value.acceleration]
      rw [this]

/-- two connected terminals' command reads are present together and carry the same timestamp (the values can
differ only when the two commands have equal timestamps: each end then reports its own) -/
theorem connected_read_same_command_time (w : World F) (h : Inv w) (i j : Nat) (hl : (w.t i).other = some j) :
    (getCommand w i).map (·.time) = (getCommand w j).map (·.time) := by
  have hlj : (w.t j).other = some i := (h i j hl).2
  rw [command_read_formula w i, command_read_formula w j, partnerCommand_linked hl,
    partnerCommand_linked hlj]
  cases (w.t i).command with
  | none => cases (w.t j).command <;> rfl
  | some c =>
    cases (w.t j).command with
    | none => rfl
    | some g =>
      simp only
      -- both ends compare the same two times
      rcases Int.lt_trichotomy c.time g.time with hlt | heq | hgt
      · rw [if_pos hlt, if_neg (Int.lt_asymm hlt)]
      · rw [if_neg (by omega), if_neg (by omega)]; exact congrArg some heq
      · rw [if_neg (Int.lt_asymm hgt), if_pos hgt]

theorem setState_seen_by_partner (w : World F) (h : Inv w) (i j : Nat) (d : Datum (State F))
    (hl : (w.t i).other = some j) : partnerState (w.setState i d) j = some d := by
  have hlj : (w.t j).other = some i := (h i j hl).2
  have : ((w.setState i d).t j).other = some i := by rw [setState_other]; exact hlj
  rw [partnerState_linked this, setState_state_self]

end Reads

/-! ### non-vacuity and the concrete scenarios (payload type `Int`) -/
section Examples
/-- four terminals, `0` and `1` linked to each other, `2` and `3` free -/
def wPair : World Int := ((World.empty.addTerms 4).setOther 0 (some 1)).setOther 1 (some 0)
/-- four terminals, `0`–`2` linked and `1`–`3` linked -/
def wCross : World Int :=
  (((wPair.setOther 0 (some 2)).setOther 2 (some 0)).setOther 1 (some 3)).setOther 3 (some 1)

theorem inv_wPair : Inv wPair := inv_link _ 0 1 (inv_fresh _ 4 inv_empty) (by decide) rfl rfl
theorem inv_wCross : Inv wCross := by
  have h0 : Inv ((World.empty : World Int).addTerms 4) := inv_fresh _ 4 inv_empty
  have h1 : Inv (((World.empty : World Int).addTerms 4).setOther 0 (some 2) |>.setOther 2 (some 0)) :=
    inv_link _ 0 2 h0 (by decide) rfl rfl
  -- `wCross` overwrites the links of `wPair`; its link function is that of linking 0–2 and 1–3 from scratch
  refine inv_congr (inv_link _ 1 3 h1 (by decide) rfl rfl) fun k => ?_
  simp only [wCross, wPair, setOther_other]
  by_cases k3 : k = 3
  · simp [k3]
  · by_cases k1 : k = 1
    · simp [k1]
    · by_cases k2 : k = 2
      · simp [k2]
      · by_cases k0 : k = 0
        · simp [k0]
        · simp [k0, k1, k2, k3]

/-- the invariant is not trivially true: a one-way link violates it -/
example : ¬ Inv ((World.empty : World Int).setOther 0 (some 1)) := by
  intro h
  have := (h 0 1 rfl).2
  cases this

/-- `disconnect` on a linked pair: no panic, both ends unlinked -/
example : ∃ w', disconnect wPair 0 = .ok w' ∧ (w'.t 0).other = none ∧ (w'.t 1).other = none := ⟨_, rfl, rfl, rfl⟩
/-- re-connect of two terminals linked to each other (the scenario the fix is about) -/
example : ∃ w', connect wPair 0 1 = .ok w' ∧ (w'.t 0).other = some 1 ∧ (w'.t 1).other = some 0 :=
  ⟨_, rfl, rfl, rfl⟩
/-- `connect` where the first terminal was linked to a third one: the third one is freed -/
example : ∃ w', connect wPair 0 2 = .ok w' ∧ (w'.t 0).other = some 2 ∧ (w'.t 2).other = some 0 ∧
    (w'.t 1).other = none := ⟨_, rfl, rfl, rfl, rfl⟩
/-- `connect` where both terminals were linked elsewhere: both former partners are freed -/
example : ∃ w', connect wCross 0 1 = .ok w' ∧ (w'.t 0).other = some 1 ∧ (w'.t 1).other = some 0 ∧
    (w'.t 2).other = none ∧ (w'.t 3).other = none := ⟨_, rfl, rfl, rfl, rfl, rfl⟩
/-- hypotheses of `connect_frees_old_partners` / `connect_keeps_others` are satisfiable -/
example : (2 : Nat) ≠ 0 ∧ (2 : Nat) ≠ 1 ∧ ((wCross.t 0).other = some 2 ∨ (wCross.t 1).other = some 2) :=
  ⟨by decide, by decide, Or.inl rfl⟩
example : (2 : Nat) ≠ 0 ∧ (2 : Nat) ≠ 1 ∧ (wPair.t 0).other ≠ some 2 ∧ (wPair.t 1).other ≠ some 2 :=
  ⟨by decide, by decide, by decide, by decide⟩
/-- hypothesis of `connect_reconnect` -/
example : (wPair.t 0).other = some 1 := rfl
/-- hypothesis of `connect_prefix_agrees` -/
example : (0 : Nat) ≠ 2 ∧ (wPair.t 0).other ≠ some 2 := ⟨by decide, by decide⟩
/-- a well-formed operation sequence -/
example : ∀ op ∈ [Op.connect 0 1, Op.setState 0 ⟨5, ⟨1, 2, 3⟩⟩, Op.connect 1 2, Op.disconnect 0,
    Op.addTerms 2, Op.connect 4 1, (Op.setCommand 4 ⟨7, .velocity 3⟩ : Op Int)], op.wf := by
  intro op hop
  simp only [List.mem_cons, List.mem_nil_iff, or_false] at hop
  rcases hop with rfl | rfl | rfl | rfl | rfl | rfl | rfl <;> simp [Op.wf]

/-- a world satisfying the invariant (two terminals linked to each other) on which the ORIGINAL `connect`
panics with a `RefCell` double borrow while the fixed one succeeds. -/
theorem connect_prefix_counterexample :
    ∃ w : World Int, Inv w ∧ connectPrefix w 0 1 = .error .borrow ∧ ∃ w', connect w 0 1 = .ok w' :=
  ⟨wPair, inv_wPair, rfl, _, rfl⟩

/-- the scalar operations of `Int` for the examples (`ofInt` is the identity) -/
local instance : FloatLike Int := ⟨id, id, fun _ _ => 1, fun x => if x < 0 then -x else x⟩

/-- `0`–`1` linked; `0` holds state (10, 20, 30)@5 and command velocity 3@7, `1` holds state (30, 40, 50)@9
and command position 8@7 (a tie) -/
def wRead : World Int :=
  (((wPair.setState 0 ⟨5, ⟨10, 20, 30⟩⟩).setState 1 ⟨9, ⟨30, 40, 50⟩⟩).setCommand 0 ⟨7, .velocity 3⟩).setCommand 1
    ⟨7, .position 8⟩
theorem inv_wRead : Inv wRead :=
  inv_setCommand _ (inv_setCommand _ (inv_setState _ (inv_setState _ inv_wPair _ _) _ _) _ _) _ _

/-- hypotheses of `connected_read_same_state` hold here (`Int` addition commutes) and the mean is (20, 30, 40)@9 -/
example : (∀ x y : Int, x + y = y + x) ∧ Inv wRead ∧ (wRead.t 0).other = some 1 := ⟨Int.add_comm, inv_wRead, rfl⟩
example : getState wRead 0 = some ⟨9, ⟨20, 30, 40⟩⟩ ∧ getState wRead 1 = some ⟨9, ⟨20, 30, 40⟩⟩ := ⟨rfl, rfl⟩
/-- on a timestamp tie each end reads its own command -/
example : getCommand wRead 0 = some ⟨7, .velocity 3⟩ ∧ getCommand wRead 1 = some ⟨7, .position 8⟩ := ⟨rfl, rfl⟩
/-- the combined read takes the state's timestamp -/
example : (getTerminalData wRead 0).map (·.time) = some 9 := rfl
/-- `state_read_own`, `state_read_partner`, `state_read_none` hypotheses -/
example : ((wPair.setState 0 ⟨5, ⟨1, 2, 3⟩⟩).t 0).state = some ⟨5, ⟨1, 2, 3⟩⟩ ∧
    partnerState (wPair.setState 0 ⟨5, ⟨1, 2, 3⟩⟩) 0 = none := ⟨rfl, rfl⟩
example : ((wPair.setState 0 ⟨5, ⟨1, 2, 3⟩⟩).t 1).state = none ∧
    partnerState (wPair.setState 0 ⟨5, ⟨1, 2, 3⟩⟩) 1 = some ⟨5, ⟨1, 2, 3⟩⟩ := ⟨rfl, rfl⟩
example : (wPair.t 0).state = none ∧ partnerState wPair 0 = none := ⟨rfl, rfl⟩
example : (wRead.t 0).state = some ⟨5, ⟨10, 20, 30⟩⟩ ∧ partnerState wRead 0 = some ⟨9, ⟨30, 40, 50⟩⟩ := ⟨rfl, rfl⟩
/-- a combined read with a command but no state takes the command's timestamp -/
example : getTerminalData (wPair.setCommand 1 ⟨4, .position 2⟩) 0 = some ⟨4, ⟨4, some (.position 2), none⟩⟩ := rfl
end Examples

end Rrtk.Thm.C09
