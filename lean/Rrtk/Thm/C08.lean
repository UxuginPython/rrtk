/-
C08 — a device update projects the states read at its terminals onto the mechanical constraint.

Tier S (any scalar, no laws): which own state slots an `update` of an inverter, gear train, axle or differential
writes, with which value expression and which timestamp, for every presence pattern of the reads; everything
else (the `other` links, the number of terminals, every terminal that is not the device's) is untouched;
tooth-count constructor.
Tier R (ordered field, exact scalars), the clauses the docstrings cite: B1 the written states satisfy the device's constraint,
B2 they are the least-squares projection of the reads onto it, B3 reads that already satisfy it are reproduced, B4 a terminal
without information receives the value the constraint implies from the other side.

Setting: the device's terminals are indices into a `World F`, assumed pairwise distinct where it matters.
"Held by terminal i after the update" is `(w'.t i).state` (the own slot), "read at terminal i" is `w.getState i`.
Where it matters: a statement that names the datum in ONE slot after an update that writes two or three takes the
terminals distinct, since of two writes to one terminal the later wins (`invert_update_both`, `gear_update_both`,
`diff_update_equal`, and what rests on them: every `*_least_squares`, `*_satisfies_constraint`, `*_fixed_on_constraint` of
the inverter, the gear train and the `.equal` differential).  The equations between worlds (`*StatePhase_both`,
`diff_update_equal_eq`, `diff_update_side1/side2/sum`), the frames, everything about the axle (a terminal may be listed
twice) and about an update that writes one slot (`*_update_one*`, `*_one_sided_constraint`,
`diff_side1/side2/sum_satisfies_constraint`) take none, nor does any timestamp statement of `Ext/C03.lean`; the
`diff_*_held_constraint` of `Ext/C08.lean` also name the slots that are not written and take the written terminal distinct
from those.
-/
import Rrtk.Thm.Lemmas.DevicePhases
import Rrtk.Thm.Lemmas.DatumTime
import Rrtk.Thm.Lemmas.Exact
set_option linter.unusedSectionVars false
namespace Rrtk.Thm.C08
open Rrtk Rrtk.World

theorem scalar_time {α β γ : Type} (op : α → β → γ) (a : Datum α) (b : β) :
    (Datum.scalar op a b).time = a.time := Datum.scalar_time op a b
theorem map_time {α β : Type} (f : α → β) (a : Datum α) : (Datum.map f a).time = a.time := Datum.map_time f a

/-! ## the components of a state; the `State` operators act on each (used to lift scalar facts to states) -/

def comp {F : Type} (k : PosDer) (s : State F) : F :=
  match k with
  | .position => s.position
  | .velocity => s.velocity
  | .acceleration => s.acceleration

theorem state_ext {F : Type} (a b : State F) (h : ∀ k, comp k a = comp k b) : a = b := by
  cases a; cases b
  have h1 := h .position; have h2 := h .velocity; have h3 := h .acceleration
  simp only [comp] at h1 h2 h3
  subst h1 h2 h3; rfl

theorem comp_add {F : Type} [Add F] (k : PosDer) (a b : State F) :
    comp k (State.add a b) = comp k a + comp k b := by cases k <;> rfl
theorem comp_sub {F : Type} [Sub F] (k : PosDer) (a b : State F) :
    comp k (State.sub a b) = comp k a - comp k b := by cases k <;> rfl
theorem comp_neg {F : Type} [Neg F] (k : PosDer) (a : State F) : comp k (State.neg a) = - comp k a := by
  cases k <;> rfl
theorem comp_mulF {F : Type} [Mul F] (k : PosDer) (a : State F) (x : F) :
    comp k (State.mulF a x) = comp k a * x := by cases k <;> rfl
theorem comp_divF {F : Type} [Div F] (k : PosDer) (a : State F) (x : F) :
    comp k (State.divF a x) = comp k a / x := by cases k <;> rfl

section S
variable {F : Type}

/-! The closed forms of the updates (`section ClosedForms`) take only the operations an update computes with; they are also
called from section `R`, where the scalar is a field.  The statements after them (`section Results`) are made under the whole
scalar-class list of `Rrtk/Devices.lean`, used or not (hence `linter.unusedSectionVars false`), as every theorem about the
device model is: one context for every caller. -/
section ClosedForms
variable [Add F] [Sub F] [Mul F] [Div F] [Neg F] [FloatLike F]

/-- `w'` has the same number of terminals and the same links as `w`, and every terminal outside `dev`
is identical (state slot, command slot, link). -/
def Frame (dev : List Nat) (w w' : World F) : Prop :=
  w'.n = w.n ∧ (∀ j, (w'.t j).other = (w.t j).other) ∧ (∀ j, j ∉ dev → w'.t j = w.t j)

theorem frame_of_phases {dev : List Nat} {w w1 w2 : World F} (h1 : StatesOnly dev w w1) (h2 : CmdsOnly dev w1 w2) :
    Frame dev w w2 :=
  ⟨h2.n.trans h1.n, fun j => (h2.other j).trans (h1.other j), fun j hj =>
    term_ext ((h2.state j).trans (h1.state j hj)) ((h2.command j hj).trans (h1.command j))
      ((h2.other j).trans (h1.other j))⟩

theorem ne_of_read {w : World F} {i j : Nat} {d : Datum (State F)} (hi : w.getState i = none)
    (hj : w.getState j = some d) : j ≠ i := fun e => by rw [e, hi] at hj; cases hj

/-! ## inverter

The state slots after an update are those after its state half (`C13.invertStatePhase`), which for each presence
pattern of the two reads is an explicit chain of `setState`s. -/

theorem invert_update_frame (w : World F) (i1 i2 : Nat) : Frame [i1, i2] w (Invert.update w i1 i2) :=
  frame_of_phases (C13.invertStatePhase_statesOnly w i1 i2) (C13.invertCmdPhase_cmdsOnly _ i1 i2)

theorem invert_update_state (w : World F) (i1 i2 j : Nat) :
    ((Invert.update w i1 i2).t j).state = ((C13.invertStatePhase w i1 i2).t j).state :=
  (C13.invertCmdPhase_cmdsOnly _ i1 i2).state j

/-- no distinctness of the terminals needed -/
theorem invertStatePhase_both {w : World F} {i1 i2 : Nat} {d1 d2 : Datum (State F)}
    (h1 : w.getState i1 = some d1) (h2 : w.getState i2 = some d2) :
    C13.invertStatePhase w i1 i2 =
      (w.setState i1 ⟨max d1.time d2.time, State.divF (State.sub d1.value d2.value) c2⟩).setState i2
        ⟨max d1.time d2.time, State.neg (State.divF (State.sub d1.value d2.value) c2)⟩ := by
  simp only [C13.invertStatePhase, h1, h2, ite_ge_eq_max]

theorem invert_update_none (w : World F) (i1 i2 : Nat)
    (h1 : w.getState i1 = none) (h2 : w.getState i2 = none) :
    ∀ j, ((Invert.update w i1 i2).t j).state = (w.t j).state := by
  have e : C13.invertStatePhase w i1 i2 = w := by simp only [C13.invertStatePhase, h1, h2]
  exact fun j => by rw [invert_update_state, e]

theorem invert_update_one_right (w : World F) (i1 i2 : Nat) (d2 : Datum (State F))
    (h1 : w.getState i1 = none) (h2 : w.getState i2 = some d2) :
    ((Invert.update w i1 i2).t i1).state = some ⟨d2.time, State.neg d2.value⟩ ∧
    ∀ j, j ≠ i1 → ((Invert.update w i1 i2).t j).state = (w.t j).state := by
  have e : C13.invertStatePhase w i1 i2 = w.setState i1 ⟨d2.time, State.neg d2.value⟩ := by
    simp only [C13.invertStatePhase, h1, h2]
  refine ⟨?_, fun j hj => ?_⟩ <;> rw [invert_update_state, e]
  · exact setState_state_self ..
  · exact setState_state_ne _ _ hj

theorem invert_update_one_left (w : World F) (i1 i2 : Nat) (d1 : Datum (State F))
    (h1 : w.getState i1 = some d1) (h2 : w.getState i2 = none) :
    ((Invert.update w i1 i2).t i2).state = some ⟨d1.time, State.neg d1.value⟩ ∧
    ∀ j, j ≠ i2 → ((Invert.update w i1 i2).t j).state = (w.t j).state := by
  have e : C13.invertStatePhase w i1 i2 = w.setState i2 ⟨d1.time, State.neg d1.value⟩ := by
    simp only [C13.invertStatePhase, h1, h2]
  refine ⟨?_, fun j hj => ?_⟩ <;> rw [invert_update_state, e]
  · exact setState_state_self ..
  · exact setState_state_ne _ _ hj

/-- the side that had the information is **not** rewritten -/
theorem invert_update_one (w : World F) (i1 i2 : Nat) (d : Datum (State F)) :
    (w.getState i1 = none → w.getState i2 = some d →
      ((Invert.update w i1 i2).t i1).state = some ⟨d.time, State.neg d.value⟩ ∧
      ((Invert.update w i1 i2).t i2).state = (w.t i2).state) ∧
    (w.getState i1 = some d → w.getState i2 = none →
      ((Invert.update w i1 i2).t i2).state = some ⟨d.time, State.neg d.value⟩ ∧
      ((Invert.update w i1 i2).t i1).state = (w.t i1).state) :=
  ⟨fun h1 h2 => (invert_update_one_right w i1 i2 d h1 h2).imp_right fun hb => hb i2 (ne_of_read h1 h2),
    fun h1 h2 => (invert_update_one_left w i1 i2 d h1 h2).imp_right fun hb => hb i1 (ne_of_read h2 h1)⟩

/-! ## gear train -/

theorem gear_update_frame (ratio : F) (w : World F) (i1 i2 : Nat) :
    Frame [i1, i2] w (GearTrain.update ratio w i1 i2) :=
  frame_of_phases (C13.gearStatePhase_statesOnly ratio w i1 i2) (C13.gearCmdPhase_cmdsOnly ratio _ i1 i2)

theorem gear_update_state (ratio : F) (w : World F) (i1 i2 j : Nat) :
    ((GearTrain.update ratio w i1 i2).t j).state = ((C13.gearStatePhase ratio w i1 i2).t j).state :=
  (C13.gearCmdPhase_cmdsOnly ratio _ i1 i2).state j

/-- the two values a gear train writes when both sides read: with `s = x + y·r`,
`(s / (r·r + 1), (s·r) / (r·r + 1))` -/
def gearNew1 (ratio : F) (x y : State F) : State F :=
  State.divF (State.add x (State.mulF y ratio)) (ratio * ratio + c1)
def gearNew2 (ratio : F) (x y : State F) : State F :=
  State.divF (State.mulF (State.add x (State.mulF y ratio)) ratio) (ratio * ratio + c1)

/-- no distinctness of the terminals needed -/
theorem gearStatePhase_both {ratio : F} {w : World F} {i1 i2 : Nat} {d1 d2 : Datum (State F)}
    (h1 : w.getState i1 = some d1) (h2 : w.getState i2 = some d2) :
    C13.gearStatePhase ratio w i1 i2 =
      (w.setState i1 ⟨max d1.time d2.time, gearNew1 ratio d1.value d2.value⟩).setState i2
        ⟨max d1.time d2.time, gearNew2 ratio d1.value d2.value⟩ := by
  simp only [C13.gearStatePhase, h1, h2, ite_ge_eq_max, gearNew1, gearNew2]

theorem gear_update_none (ratio : F) (w : World F) (i1 i2 : Nat)
    (h1 : w.getState i1 = none) (h2 : w.getState i2 = none) :
    ∀ j, ((GearTrain.update ratio w i1 i2).t j).state = (w.t j).state := by
  have e : C13.gearStatePhase ratio w i1 i2 = w := by simp only [C13.gearStatePhase, h1, h2]
  exact fun j => by rw [gear_update_state, e]

theorem gear_update_one_right (ratio : F) (w : World F) (i1 i2 : Nat) (d2 : Datum (State F))
    (h1 : w.getState i1 = none) (h2 : w.getState i2 = some d2) :
    ((GearTrain.update ratio w i1 i2).t i1).state = some ⟨d2.time, State.divF d2.value ratio⟩ ∧
    ∀ j, j ≠ i1 → ((GearTrain.update ratio w i1 i2).t j).state = (w.t j).state := by
  have e : C13.gearStatePhase ratio w i1 i2 = w.setState i1 ⟨d2.time, State.divF d2.value ratio⟩ := by
    simp only [C13.gearStatePhase, h1, h2, Datum.scalar]
  refine ⟨?_, fun j hj => ?_⟩ <;> rw [gear_update_state, e]
  · exact setState_state_self ..
  · exact setState_state_ne _ _ hj

theorem gear_update_one_left (ratio : F) (w : World F) (i1 i2 : Nat) (d1 : Datum (State F))
    (h1 : w.getState i1 = some d1) (h2 : w.getState i2 = none) :
    ((GearTrain.update ratio w i1 i2).t i2).state = some ⟨d1.time, State.mulF d1.value ratio⟩ ∧
    ∀ j, j ≠ i2 → ((GearTrain.update ratio w i1 i2).t j).state = (w.t j).state := by
  have e : C13.gearStatePhase ratio w i1 i2 = w.setState i2 ⟨d1.time, State.mulF d1.value ratio⟩ := by
    simp only [C13.gearStatePhase, h1, h2, Datum.scalar]
  refine ⟨?_, fun j hj => ?_⟩ <;> rw [gear_update_state, e]
  · exact setState_state_self ..
  · exact setState_state_ne _ _ hj

theorem gear_update_both (ratio : F) (w : World F) (i1 i2 : Nat) (d1 d2 : Datum (State F)) (hd : i1 ≠ i2)
    (h1 : w.getState i1 = some d1) (h2 : w.getState i2 = some d2) :
    Frame [i1, i2] w (GearTrain.update ratio w i1 i2) ∧
    ((GearTrain.update ratio w i1 i2).t i1).state
      = some ⟨max d1.time d2.time, gearNew1 ratio d1.value d2.value⟩ ∧
    ((GearTrain.update ratio w i1 i2).t i2).state
      = some ⟨max d1.time d2.time, gearNew2 ratio d1.value d2.value⟩ ∧
    ∀ j, j ≠ i1 → j ≠ i2 → ((GearTrain.update ratio w i1 i2).t j).state = (w.t j).state := by
  refine ⟨gear_update_frame ratio w i1 i2, ?_, ?_, fun j hj1 hj2 => ?_⟩ <;>
    rw [gear_update_state, gearStatePhase_both h1 h2]
  · rw [setState_state_ne _ _ hd, setState_state_self]
  · exact setState_state_self ..
  · rw [setState_state_ne _ _ hj2, setState_state_ne _ _ hj1]

/-! ## axle -/

/-- the states read at the terminals of the list, in order, terminals without information skipped -/
def presentReads (w : World F) (is : List Nat) : List (Datum (State F)) := is.filterMap w.getState
/-- left-to-right sum of the values, from `s0` (the order in which the code adds) -/
def sumFrom (s0 : State F) (ds : List (Datum (State F))) : State F :=
  ds.foldl (fun s d => State.add s d.value) s0
/-- `i64::MIN`, the time the accumulator starts with -/
def i64Min : Int := -9223372036854775808

/-- the datum an axle broadcasts: newest time, `(0 + x₁ + … + x_k) / k` over the `k` present reads -/
def axleDatum (ds : List (Datum (State F))) : Datum (State F) :=
  ⟨maxTime i64Min ds, State.divF (sumFrom ⟨c0, c0, c0⟩ ds) (FloatLike.ofInt (ds.length : Int) : F)⟩

theorem mem_presentReads (w : World F) (is : List Nat) (g : Datum (State F)) :
    g ∈ presentReads w is ↔ ∃ k ∈ is, w.getState k = some g := by
  simp only [presentReads, List.mem_filterMap]

theorem presentReads_ne_nil {w : World F} {is : List Nat} (h : ∃ i ∈ is, w.getState i ≠ none) :
    presentReads w is ≠ [] := by
  obtain ⟨i, hi, hne⟩ := h
  obtain ⟨g, hg⟩ := Option.ne_none_iff_exists'.1 hne
  exact List.ne_nil_of_mem ((mem_presentReads w is g).2 ⟨i, hi, hg⟩)

/-- the accumulation loop of `Axle::update`, for any list length and any starting accumulator.  The count is a `Nat`, as in
`Rrtk/Devices.lean`; the code's is a `u16`, so the two agree for fewer than 65536 present reads. -/
theorem axle_acc (w : World F) (is : List Nat) : ∀ (a : Datum (State F) × Nat),
    is.foldl (fun (a : Datum (State F) × Nat) i =>
      match w.getState i with
      | some g => (Datum.combine State.add a.1 g, a.2 + 1)
      | none => a) a
    = (⟨maxTime a.1.time (presentReads w is), sumFrom a.1.value (presentReads w is)⟩,
       a.2 + (presentReads w is).length) := by
  induction is with
  | nil => intro a; rfl
  | cons i is ih =>
    intro a
    simp only [List.foldl_cons]
    cases h : w.getState i with
    | none =>
      have e : presentReads w (i :: is) = presentReads w is := by
        simp only [presentReads, List.filterMap_cons, h]
      rw [e]; exact ih a
    | some g =>
      have e : presentReads w (i :: is) = g :: presentReads w is := by
        simp only [presentReads, List.filterMap_cons, h]
      rw [e, ih]
      simp only [Datum.combine_eq, maxTime, sumFrom, List.foldl_cons, List.length_cons]
      -- only the counts differ in form: `a.2 + 1 + n` and `a.2 + (n + 1)`
      congr 1
      omega

theorem axleStatePhase_eq (w : World F) (is : List Nat) :
    C13.axleStatePhase w is =
      if (presentReads w is).length ≥ 1 then is.foldl (fun w' i => w'.setState i (axleDatum (presentReads w is))) w
      else w := by
  simp only [C13.axleStatePhase]
  -- the `match` in `axleStatePhase` was compiled in another module than the one in `axle_acc`: two constants
  -- with the same body, which only `erw` identifies
  erw [axle_acc]
  simp only [Nat.zero_add, Datum.scalar, axleDatum, i64Min]

theorem axle_update_frame (w : World F) (is : List Nat) : Frame is w (Axle.update w is) :=
  frame_of_phases (C13.axleStatePhase_statesOnly w is) (C13.axleCmdPhase_cmdsOnly _ is)

theorem axle_update_state (w : World F) (is : List Nat) (j : Nat) :
    ((Axle.update w is).t j).state = ((C13.axleStatePhase w is).t j).state :=
  (C13.axleCmdPhase_cmdsOnly _ is).state j

theorem axle_update_none (w : World F) (is : List Nat) (h : ∀ i ∈ is, w.getState i = none) :
    ∀ j, ((Axle.update w is).t j).state = (w.t j).state := by
  have hp : presentReads w is = [] := by
    simp only [presentReads, List.filterMap_eq_nil_iff]; exact h
  have e : C13.axleStatePhase w is = w := by rw [axleStatePhase_eq, hp]; rfl
  exact fun j => by rw [axle_update_state, e]

/-- terminals without information receive the datum too; the list need not be duplicate-free (a terminal listed twice is
read and counted twice, as in the code) -/
theorem axle_update_broadcast (w : World F) (is : List Nat) (h : ∃ i ∈ is, w.getState i ≠ none) :
    (∀ i ∈ is, ((Axle.update w is).t i).state = some (axleDatum (presentReads w is))) ∧
    (∀ j, j ∉ is → ((Axle.update w is).t j).state = (w.t j).state) := by
  have e : C13.axleStatePhase w is = is.foldl (fun w' i => w'.setState i (axleDatum (presentReads w is))) w := by
    have hp : (presentReads w is).length ≥ 1 := List.length_pos_iff.2 (presentReads_ne_nil h)
    rw [axleStatePhase_eq, if_pos hp]
  refine ⟨fun i hi => ?_, fun j hj => ?_⟩ <;>
    rw [axle_update_state, e, foldl_setState_state]
  · rw [if_pos hi]
  · rw [if_neg hj]

/-! ## differential -/

/-- the branches a differential reads (trusts) in each mode -/
def trusted (mode : Distrust) (i1 i2 isum : Nat) : List Nat :=
  match mode with
  | .side1 => [isum, i2]
  | .side2 => [isum, i1]
  | .sum => [i1, i2]
  | .equal => [isum, i1, i2]

theorem diff_update_frame (mode : Distrust) (w : World F) (i1 i2 isum : Nat) :
    Frame [i1, i2, isum] w (Differential.update mode w i1 i2 isum) :=
  frame_of_phases (Differential.update_statesOnly mode w i1 i2 isum) (.refl _ _)

theorem diff_update_side1 (w : World F) (i1 i2 isum : Nat) (s b : Datum (State F))
    (hs : w.getState isum = some s) (h2 : w.getState i2 = some b) :
    Differential.update .side1 w i1 i2 isum = w.setState i1 ⟨max s.time b.time, State.sub s.value b.value⟩ := by
  simp only [Differential.update, hs, h2, Datum.combine_eq]

theorem diff_update_side2 (w : World F) (i1 i2 isum : Nat) (s a : Datum (State F))
    (hs : w.getState isum = some s) (h1 : w.getState i1 = some a) :
    Differential.update .side2 w i1 i2 isum = w.setState i2 ⟨max s.time a.time, State.sub s.value a.value⟩ := by
  simp only [Differential.update, hs, h1, Datum.combine_eq]

theorem diff_update_sum (w : World F) (i1 i2 isum : Nat) (a b : Datum (State F))
    (h1 : w.getState i1 = some a) (h2 : w.getState i2 = some b) :
    Differential.update .sum w i1 i2 isum = w.setState isum ⟨max a.time b.time, State.add a.value b.value⟩ := by
  simp only [Differential.update, h1, h2, Datum.combine_eq]

/-- the three values of the `Equal` mode, as the code computes them from reads `x` (side 1), `y` (side 2), `z` (sum) -/
def eqNew1 (x y z : State F) : State F := State.divF (State.add (State.sub (State.mulF x c2) y) z) c3
def eqNew2 (x y z : State F) : State F := State.divF (State.add (State.add (State.neg x) (State.mulF y c2)) z) c3
def eqNewSum (x y z : State F) : State F := State.divF (State.add (State.add x y) (State.mulF z c2)) c3

/-- no distinctness of the terminals needed -/
theorem diff_update_equal_eq {w : World F} {i1 i2 isum : Nat} {a b s : Datum (State F)}
    (h1 : w.getState i1 = some a) (h2 : w.getState i2 = some b) (hs : w.getState isum = some s) :
    Differential.update .equal w i1 i2 isum
      = ((w.setState isum ⟨max (max a.time b.time) s.time, eqNewSum a.value b.value s.value⟩).setState i1
          ⟨max (max a.time b.time) s.time, eqNew1 a.value b.value s.value⟩).setState i2
          ⟨max (max a.time b.time) s.time, eqNew2 a.value b.value s.value⟩ := by
  simp only [Differential.update, h1, h2, hs, Datum.combine_eq, Datum.scalar, Datum.map, eqNewSum, eqNew1, eqNew2]

theorem diff_update_equal (w : World F) (i1 i2 isum : Nat) (a b s : Datum (State F))
    (h12 : i1 ≠ i2) (h1s : i1 ≠ isum) (h2s : i2 ≠ isum)
    (h1 : w.getState i1 = some a) (h2 : w.getState i2 = some b) (hs : w.getState isum = some s) :
    ((Differential.update .equal w i1 i2 isum).t i1).state
      = some ⟨max (max a.time b.time) s.time, eqNew1 a.value b.value s.value⟩ ∧
    ((Differential.update .equal w i1 i2 isum).t i2).state
      = some ⟨max (max a.time b.time) s.time, eqNew2 a.value b.value s.value⟩ ∧
    ((Differential.update .equal w i1 i2 isum).t isum).state
      = some ⟨max (max a.time b.time) s.time, eqNewSum a.value b.value s.value⟩ ∧
    ∀ j, j ≠ i1 → j ≠ i2 → j ≠ isum → ((Differential.update .equal w i1 i2 isum).t j).state = (w.t j).state := by
  rw [diff_update_equal_eq h1 h2 hs]
  refine ⟨?_, ?_, ?_, fun j hj1 hj2 hjs => ?_⟩
  · rw [setState_state_ne _ _ h12, setState_state_self]
  · exact setState_state_self ..
  · rw [setState_state_ne _ _ h2s.symm, setState_state_ne _ _ h1s.symm, setState_state_self]
  · rw [setState_state_ne _ _ hj2, setState_state_ne _ _ hj1, setState_state_ne _ _ hjs]

end ClosedForms

section Results
variable [Add F] [Sub F] [Mul F] [Div F] [Neg F] [LT F] [LE F] [BEq F]
  [DecidableLT F] [DecidableLE F] [FloatLike F]

theorem invert_update_both (w : World F) (i1 i2 : Nat) (d1 d2 : Datum (State F)) (hd : i1 ≠ i2)
    (h1 : w.getState i1 = some d1) (h2 : w.getState i2 = some d2) :
    Frame [i1, i2] w (Invert.update w i1 i2) ∧
    ((Invert.update w i1 i2).t i1).state
      = some ⟨max d1.time d2.time, State.divF (State.sub d1.value d2.value) c2⟩ ∧
    ((Invert.update w i1 i2).t i2).state
      = some ⟨max d1.time d2.time, State.neg (State.divF (State.sub d1.value d2.value) c2)⟩ ∧
    ∀ j, j ≠ i1 → j ≠ i2 → ((Invert.update w i1 i2).t j).state = (w.t j).state := by
  refine ⟨invert_update_frame w i1 i2, ?_, ?_, fun j hj1 hj2 => ?_⟩ <;>
    rw [invert_update_state, invertStatePhase_both h1 h2]
  · rw [setState_state_ne _ _ hd, setState_state_self]
  · exact setState_state_self ..
  · rw [setState_state_ne _ _ hj2, setState_state_ne _ _ hj1]

/-- the two states held afterwards are exact negatives of each other for any scalar type, because the code negates the
value it has just written -/
theorem invert_satisfies_constraint (w : World F) (i1 i2 : Nat) (d1 d2 : Datum (State F)) (hd : i1 ≠ i2)
    (h1 : w.getState i1 = some d1) (h2 : w.getState i2 = some d2) :
    ∃ s1 s2 : State F,
      ((Invert.update w i1 i2).t i1).state = some ⟨max d1.time d2.time, s1⟩ ∧
      ((Invert.update w i1 i2).t i2).state = some ⟨max d1.time d2.time, s2⟩ ∧
      s2 = State.neg s1 ∧ ∀ k, comp k s2 = - comp k s1 := by
  obtain ⟨_, ha, hb, _⟩ := invert_update_both w i1 i2 d1 d2 hd h1 h2
  exact ⟨_, _, ha, hb, rfl, fun k => comp_neg k _⟩

/-- the side that had the information is **not** rewritten -/
theorem gear_update_one (ratio : F) (w : World F) (i1 i2 : Nat) (d : Datum (State F)) :
    (w.getState i1 = some d → w.getState i2 = none →
      ((GearTrain.update ratio w i1 i2).t i2).state = some ⟨d.time, State.mulF d.value ratio⟩ ∧
      ((GearTrain.update ratio w i1 i2).t i1).state = (w.t i1).state) ∧
    (w.getState i1 = none → w.getState i2 = some d →
      ((GearTrain.update ratio w i1 i2).t i1).state = some ⟨d.time, State.divF d.value ratio⟩ ∧
      ((GearTrain.update ratio w i1 i2).t i2).state = (w.t i2).state) :=
  ⟨fun h1 h2 => (gear_update_one_left ratio w i1 i2 d h1 h2).imp_right fun hb => hb i1 (ne_of_read h2 h1),
    fun h1 h2 => (gear_update_one_right ratio w i1 i2 d h1 h2).imp_right fun hb => hb i2 (ne_of_read h1 h2)⟩

theorem axle_satisfies_constraint (w : World F) (is : List Nat) (h : ∃ i ∈ is, w.getState i ≠ none) :
    ∀ i ∈ is, ∀ j ∈ is, ((Axle.update w is).t i).state = ((Axle.update w is).t j).state ∧
      ((Axle.update w is).t i).state ≠ none := by
  obtain ⟨hb, _⟩ := axle_update_broadcast w is h
  intro i hi j hj
  rw [hb i hi, hb j hj]
  exact ⟨rfl, Option.some_ne_none _⟩

/-- `hmin`: the times are `i64`s -/
theorem axle_time_is_newest (ds : List (Datum (State F))) (hne : ds ≠ [])
    (hmin : ∀ d ∈ ds, i64Min ≤ d.time) :
    (∃ d ∈ ds, (axleDatum ds).time = d.time) ∧ ∀ d ∈ ds, d.time ≤ (axleDatum ds).time := by
  obtain ⟨-, h2, h3⟩ := maxTime_spec ds i64Min
  refine ⟨?_, h2⟩
  rcases h3 with h3 | h3
  · -- the maximum is still the start value `i64::MIN`: then the first read has exactly that time
    cases ds with
    | nil => exact absurd rfl hne
    | cons a ds =>
      have ha := hmin a (List.mem_cons_self ..)
      have hb := h2 a (List.mem_cons_self ..)
      exact ⟨a, List.mem_cons_self .., h3.trans (Int.le_antisymm ha (h3 ▸ hb))⟩
  · exact h3

theorem presentReads_length_le (w : World F) (is : List Nat) : (presentReads w is).length ≤ is.length :=
  List.length_filterMap_le _ _

/-- a differential does nothing at all until every branch it trusts reads a state -/
theorem diff_waits_for_trusted (mode : Distrust) (w : World F) (i1 i2 isum : Nat)
    (h : ∃ i ∈ trusted mode i1 i2 isum, w.getState i = none) :
    Differential.update mode w i1 i2 isum = w := by
  obtain ⟨i, hi, hn⟩ := h
  -- each mode matches on its reads in the order of `trusted`, every `none` branch returning `w`: the reads before the
  -- missing one are split on
  cases mode <;> simp only [trusted, List.mem_cons, List.not_mem_nil, or_false] at hi <;>
    simp only [Differential.update]
  · rcases hi with rfl | rfl
    · simp only [hn]
    · cases w.getState isum <;> simp only [hn]
  · rcases hi with rfl | rfl
    · simp only [hn]
    · cases w.getState isum <;> simp only [hn]
  · rcases hi with rfl | rfl
    · simp only [hn]
    · cases w.getState i1 <;> simp only [hn]
  · rcases hi with rfl | rfl | rfl
    · simp only [hn]
    · cases w.getState isum <;> simp only [hn]
    · cases w.getState isum <;> cases w.getState i1 <;> simp only [hn]

/-- `GearTrain::new(teeth)` for any `N ≥ 2` -/
theorem gear_ratio_from_teeth (teeth : List F) (h : teeth.length ≥ 2) :
    ∃ first last, teeth.head? = some first ∧ teeth.getLast? = some last ∧
      GearTrain.ratioOfTeeth teeth = .ok (first / last * (if teeth.length % 2 = 0 then cm1 else c1)) := by
  match teeth, h with
  | first :: second :: rest, _ =>
    cases hl : (first :: second :: rest).getLast? with
    | none => simp at hl
    | some last =>
      refine ⟨first, last, rfl, rfl, ?_⟩
      simp only [GearTrain.ratioOfTeeth, hl]

/-- fewer than two gears: the constructor panics -/
theorem gear_ratio_too_few (teeth : List F) (h : teeth.length < 2) :
    GearTrain.ratioOfTeeth teeth = .error .arity := by
  match teeth, h with
  | [], _ => rfl
  | [a], _ => rfl

end Results
end S

/-! # Tier R.  Least squares: Pythagoras, coordinate by coordinate -/
section Pythagoras
variable {F : Type} [Field F] [LinearOrder F] [IsStrictOrderedRing F]

/-- Each entry of `l` is one coordinate `(r, q, c)`: the value read, the value written, a competitor.  If the residual
`r − q` is orthogonal to `q − c`, the squared distance from `r` to `c` exceeds that to `q` by exactly `‖q − c‖²`. -/
theorem sum_sq_eq_of_orth (l : List (F × F × F)) (h : (l.map fun t => (t.1 - t.2.1) * (t.2.1 - t.2.2)).sum = 0) :
    (l.map fun t => (t.1 - t.2.2) ^ 2).sum
      = (l.map fun t => (t.1 - t.2.1) ^ 2).sum + (l.map fun t => (t.2.1 - t.2.2) ^ 2).sum := by
  -- `‖r − c‖² = ‖r − q‖² + ‖q − c‖² + 2⟨r − q, q − c⟩`, coordinate by coordinate
  have e : (fun t : F × F × F => (t.1 - t.2.2) ^ 2) = fun t => (t.1 - t.2.1) ^ 2 + (t.2.1 - t.2.2) ^ 2
      + ((t.1 - t.2.1) * (t.2.1 - t.2.2) + (t.1 - t.2.1) * (t.2.1 - t.2.2)) := funext fun t => by ring
  rw [e, List.sum_map_add, List.sum_map_add, List.sum_map_add, h, add_zero, add_zero]

theorem sum_sq_le_of_orth (l : List (F × F × F)) (h : (l.map fun t => (t.1 - t.2.1) * (t.2.1 - t.2.2)).sum = 0) :
    (l.map fun t => (t.1 - t.2.1) ^ 2).sum ≤ (l.map fun t => (t.1 - t.2.2) ^ 2).sum := by
  rw [sum_sq_eq_of_orth l h]
  exact le_add_of_nonneg_right (List.sum_nonneg fun x hx => by
    obtain ⟨t, -, rfl⟩ := List.mem_map.1 hx; exact sq_nonneg _)

/-- gear train: `(q, q2)` with `q·(r·r + 1) = x + y·r` and `q2 = q·r` is the point of the line `{(a', r·a')}` closest to
`(x, y)` (the inverter is the case `r = −1`) -/
theorem scalar_gear_ls (r : F) {x y q q2 : F} (a' : F) (hq : q * (r * r + 1) = x + y * r) (h2 : q2 = q * r) :
    (x - q) ^ 2 + (y - q2) ^ 2 ≤ (x - a') ^ 2 + (y - r * a') ^ 2 := by
  subst h2
  simpa only [List.map_cons, List.map_nil, List.sum_cons, List.sum_nil, add_zero] using
    sum_sq_le_of_orth [(x, q, a'), (y, q * r, r * a')] (by
      -- the residual is orthogonal to the direction `(1, r)` of the line: `(x − q) + (y − q·r)·r = 0` is `hq`
      obtain rfl : x = q * (r * r + 1) - y * r := eq_sub_of_add_eq hq.symm
      simp only [List.map_cons, List.map_nil, List.sum_cons, List.sum_nil]; ring)

/-- differential, all branches trusted: a point `(q1, q2, q1 + q2)` of the plane whose residual is a multiple of
`(1, 1, −1)` (the plane's normal direction) is the point of the plane `{(a', b', a' + b')}` closest to `(x, y, z)` -/
theorem scalar_diff_ls {x y z q1 q2 q3 : F} (a' b' : F) (h2 : y - q2 = x - q1) (h3 : z - q3 = -(x - q1))
    (hq : q3 = q1 + q2) :
    (x - q1) ^ 2 + (y - q2) ^ 2 + (z - q3) ^ 2 ≤ (x - a') ^ 2 + (y - b') ^ 2 + (z - (a' + b')) ^ 2 := by
  simpa only [List.map_cons, List.map_nil, List.sum_cons, List.sum_nil, add_zero, add_assoc] using
    sum_sq_le_of_orth [(x, q1, a'), (y, q2, b'), (z, q3, a' + b')] (by
      simp only [List.map_cons, List.map_nil, List.sum_cons, List.sum_nil]
      rw [h2, h3, hq]; ring)

/-- sum of squared deviations of a list of scalars from `m` -/
def sqDev (xs : List F) (m : F) : F := (xs.map (fun x => (x - m) ^ 2)).sum

theorem sum_dev_mul (xs : List F) (m k : F) :
    (xs.map fun x => (x - m) * k).sum = (xs.sum - xs.length * m) * k := by
  induction xs with
  | nil => simp
  | cons x xs ih => simp only [List.map_cons, List.sum_cons, ih, List.length_cons, Nat.cast_succ]; ring

/-- axle: the mean minimises the sum of squared deviations -/
theorem scalar_mean_ls (xs : List F) (hne : xs ≠ []) (m' : F) :
    sqDev xs m' = sqDev xs (xs.sum / xs.length) + xs.length * (xs.sum / xs.length - m') ^ 2 ∧
    sqDev xs (xs.sum / xs.length) ≤ sqDev xs m' := by
  have hn : (xs.length : F) ≠ 0 := Nat.cast_ne_zero.2 (List.length_pos_iff.2 hne).ne'
  -- the deviations from the mean sum to zero, so they are orthogonal to the constant vector `m − m'`
  have e := sum_sq_eq_of_orth (xs.map fun x => (x, xs.sum / xs.length, m')) (by
    simp only [List.map_map, Function.comp_def, sum_dev_mul, mul_div_cancel₀ _ hn, sub_self, zero_mul])
  simp only [List.map_map, Function.comp_def, List.map_const', List.sum_replicate, nsmul_eq_mul] at e
  have e' : sqDev xs m' = sqDev xs (xs.sum / xs.length) + xs.length * (xs.sum / xs.length - m') ^ 2 := e
  exact ⟨e', by rw [e']; exact le_add_of_nonneg_right (mul_nonneg (Nat.cast_nonneg _) (sq_nonneg _))⟩

end Pythagoras

section R
variable {F : Type} [Field F] [LinearOrder F] [IsStrictOrderedRing F] [FloatLike F] [ExactScalar F]

/-- squared distance of two states (sum over position, velocity, acceleration) -/
def sqDist (a b : State F) : F :=
  (a.position - b.position) ^ 2 + (a.velocity - b.velocity) ^ 2 + (a.acceleration - b.acceleration) ^ 2

theorem sqDist_eq (a b : State F) :
    sqDist a b = (comp .position a - comp .position b) ^ 2 + (comp .velocity a - comp .velocity b) ^ 2
      + (comp .acceleration a - comp .acceleration b) ^ 2 := rfl

/-- as a sum over the list of components, so that sums of squared distances are compared component by component with
`List.sum_map_add` and `List.sum_le_sum` -/
theorem sqDist_eq_sum (a b : State F) :
    sqDist a b = ([.position, .velocity, .acceleration].map fun k => (comp k a - comp k b) ^ 2).sum := by
  rw [sqDist_eq, add_assoc]; simp only [List.map_cons, List.map_nil, List.sum_cons, List.sum_nil, add_zero]

theorem sqDist_add_le_of_comp {d1 s1 p1 d2 s2 p2 : State F}
    (h : ∀ k, (comp k d1 - comp k s1) ^ 2 + (comp k d2 - comp k s2) ^ 2
      ≤ (comp k d1 - comp k p1) ^ 2 + (comp k d2 - comp k p2) ^ 2) :
    sqDist d1 s1 + sqDist d2 s2 ≤ sqDist d1 p1 + sqDist d2 p2 := by
  simp only [sqDist_eq_sum, ← List.sum_map_add]
  exact List.sum_le_sum fun k _ => h k

/-! ## the `State` operators undo each other (componentwise field laws) -/
theorem state_neg_neg (x : State F) : State.neg (State.neg x) = x :=
  state_ext _ _ fun k => by rw [comp_neg, comp_neg, neg_neg]
theorem state_mulF_divF_cancel (x : State F) {r : F} (hr : r ≠ 0) : State.divF (State.mulF x r) r = x :=
  state_ext _ _ fun k => by rw [comp_divF, comp_mulF, mul_div_cancel_right₀ _ hr]
theorem state_divF_mulF_cancel (x : State F) {r : F} (hr : r ≠ 0) : State.mulF (State.divF x r) r = x :=
  state_ext _ _ fun k => by rw [comp_mulF, comp_divF, div_mul_cancel₀ _ hr]
theorem state_sub_add_cancel (s b : State F) : State.add (State.sub s b) b = s :=
  state_ext _ _ fun k => by rw [comp_add, comp_sub, sub_add_cancel]
theorem state_add_sub_cancel (a s : State F) : State.add a (State.sub s a) = s :=
  state_ext _ _ fun k => by rw [comp_add, comp_sub, add_sub_cancel]
theorem state_add_sub_cancel_right (x b : State F) : State.sub (State.add x b) b = x :=
  state_ext _ _ fun k => by rw [comp_sub, comp_add, add_sub_cancel_right]
theorem state_add_sub_cancel_left (a y : State F) : State.sub (State.add a y) a = y :=
  state_ext _ _ fun k => by rw [comp_sub, comp_add, add_sub_cancel_left]

/-- B2, inverter: least-squares projection of the pair of reads onto `side2 = −side1`, in every component and in `sqDist` -/
theorem invert_least_squares (w : World F) (i1 i2 : Nat) (d1 d2 : Datum (State F)) (hd : i1 ≠ i2)
    (h1 : w.getState i1 = some d1) (h2 : w.getState i2 = some d2) :
    ∃ s1 s2 : State F,
      ((Invert.update w i1 i2).t i1).state = some ⟨max d1.time d2.time, s1⟩ ∧
      ((Invert.update w i1 i2).t i2).state = some ⟨max d1.time d2.time, s2⟩ ∧
      (∀ k, comp k s2 = - comp k s1) ∧
      (∀ k, comp k s1 = (comp k d1.value - comp k d2.value) / 2) ∧
      (∀ (k : PosDer) (a' : F),
        (comp k d1.value - comp k s1) ^ 2 + (comp k d2.value - comp k s2) ^ 2
          ≤ (comp k d1.value - a') ^ 2 + (comp k d2.value - -a') ^ 2) ∧
      (∀ p1 p2 : State F, p2 = State.neg p1 →
        sqDist d1.value s1 + sqDist d2.value s2 ≤ sqDist d1.value p1 + sqDist d2.value p2) := by
  obtain ⟨_, ha, hb, _⟩ := invert_update_both w i1 i2 d1 d2 hd h1 h2
  have hv : ∀ k, comp k (State.divF (State.sub d1.value d2.value) (c2 : F))
      = (comp k d1.value - comp k d2.value) / 2 := fun k => by rw [comp_divF, comp_sub, c2_eq]
  have hc : ∀ (k : PosDer) (a' : F),
      (comp k d1.value - comp k (State.divF (State.sub d1.value d2.value) c2)) ^ 2
        + (comp k d2.value - comp k (State.neg (State.divF (State.sub d1.value d2.value) c2))) ^ 2
        ≤ (comp k d1.value - a') ^ 2 + (comp k d2.value - -a') ^ 2 := fun k a' => by
    -- an inverter is a gear train of ratio −1
    simpa only [neg_one_mul] using
      scalar_gear_ls (-1) a' (by rw [hv]; ring) ((comp_neg k _).trans (mul_neg_one _).symm)
  refine ⟨_, _, ha, hb, fun k => comp_neg k _, hv, hc, fun p1 p2 hp => ?_⟩
  subst hp
  exact sqDist_add_le_of_comp fun k => by rw [comp_neg k p1]; exact hc k _

/-- B3, inverter: reads that already satisfy `side2 = −side1` are reproduced unchanged -/
theorem invert_fixed_on_constraint (w : World F) (i1 i2 : Nat) (d1 d2 : Datum (State F)) (hd : i1 ≠ i2)
    (h1 : w.getState i1 = some d1) (h2 : w.getState i2 = some d2) (hc : d2.value = State.neg d1.value) :
    ((Invert.update w i1 i2).t i1).state = some ⟨max d1.time d2.time, d1.value⟩ ∧
    ((Invert.update w i1 i2).t i2).state = some ⟨max d1.time d2.time, d2.value⟩ := by
  obtain ⟨_, ha, hb, _⟩ := invert_update_both w i1 i2 d1 d2 hd h1 h2
  have e : State.divF (State.sub d1.value d2.value) (c2 : F) = d1.value := by
    apply state_ext; intro k
    simp only [hc, comp_neg, comp_divF, comp_sub, c2_eq]; ring
  rw [ha, hb, e, hc]
  exact ⟨rfl, rfl⟩

/-- B4, inverter -/
theorem invert_one_sided_constraint (w : World F) (i1 i2 : Nat) (d : Datum (State F)) :
    (w.getState i1 = none → w.getState i2 = some d →
      ∃ s1, ((Invert.update w i1 i2).t i1).state = some ⟨d.time, s1⟩ ∧ s1 = State.neg d.value ∧
        d.value = State.neg s1) ∧
    (w.getState i1 = some d → w.getState i2 = none →
      ∃ s2, ((Invert.update w i1 i2).t i2).state = some ⟨d.time, s2⟩ ∧ s2 = State.neg d.value) := by
  constructor
  · intro h1 h2
    obtain ⟨ha, _⟩ := invert_update_one_right w i1 i2 d h1 h2
    exact ⟨_, ha, rfl, (state_neg_neg _).symm⟩
  · intro h1 h2
    obtain ⟨ha, _⟩ := invert_update_one_left w i1 i2 d h1 h2
    exact ⟨_, ha, rfl⟩

theorem gear_denominator_ne_zero (ratio : F) : ratio * ratio + 1 ≠ 0 :=
  (add_pos_of_nonneg_of_pos (mul_self_nonneg ratio) one_pos).ne'

/-- the two values written when both sides read are `q` and `q·ratio` with `q·(ratio² + 1) = x + y·ratio` -/
theorem comp_gearNew2 (ratio : F) (x y : State F) (k : PosDer) :
    comp k (gearNew2 ratio x y) = comp k (gearNew1 ratio x y) * ratio := by
  simp only [gearNew1, gearNew2, comp_divF, comp_mulF, comp_add, c1_eq]; ring
theorem comp_gearNew1_mul (ratio : F) (x y : State F) (k : PosDer) :
    comp k (gearNew1 ratio x y) * (ratio * ratio + 1) = comp k x + comp k y * ratio := by
  simp only [gearNew1, comp_divF, comp_mulF, comp_add, c1_eq, div_mul_cancel₀ _ (gear_denominator_ne_zero ratio)]

/-- B1 + B2, gear train: least-squares projection onto the line `side2 = ratio·side1` -/
theorem gear_least_squares (ratio : F) (w : World F) (i1 i2 : Nat) (d1 d2 : Datum (State F)) (hd : i1 ≠ i2)
    (h1 : w.getState i1 = some d1) (h2 : w.getState i2 = some d2) :
    ∃ s1 s2 : State F,
      ((GearTrain.update ratio w i1 i2).t i1).state = some ⟨max d1.time d2.time, s1⟩ ∧
      ((GearTrain.update ratio w i1 i2).t i2).state = some ⟨max d1.time d2.time, s2⟩ ∧
      (∀ k, comp k s2 = ratio * comp k s1) ∧
      (∀ k, comp k s1 = (comp k d1.value + ratio * comp k d2.value) / (ratio ^ 2 + 1)) ∧
      (∀ (k : PosDer) (a' : F),
        (comp k d1.value - comp k s1) ^ 2 + (comp k d2.value - comp k s2) ^ 2
          ≤ (comp k d1.value - a') ^ 2 + (comp k d2.value - ratio * a') ^ 2) ∧
      (∀ p1 p2 : State F, p2 = State.mulF p1 ratio →
        sqDist d1.value s1 + sqDist d2.value s2 ≤ sqDist d1.value p1 + sqDist d2.value p2) := by
  obtain ⟨_, ha, hb, _⟩ := gear_update_both ratio w i1 i2 d1 d2 hd h1 h2
  have hc : ∀ (k : PosDer) (a' : F),
      (comp k d1.value - comp k (gearNew1 ratio d1.value d2.value)) ^ 2
        + (comp k d2.value - comp k (gearNew2 ratio d1.value d2.value)) ^ 2
        ≤ (comp k d1.value - a') ^ 2 + (comp k d2.value - ratio * a') ^ 2 := fun k a' =>
    scalar_gear_ls ratio a' (comp_gearNew1_mul ratio _ _ k) (comp_gearNew2 ratio _ _ k)
  refine ⟨_, _, ha, hb, fun k => by rw [comp_gearNew2, mul_comm], fun k => ?_, hc, fun p1 p2 hp => ?_⟩
  · rw [eq_div_iff (by rw [pow_two]; exact gear_denominator_ne_zero ratio), pow_two, comp_gearNew1_mul,
      mul_comm ratio]
  · subst hp
    exact sqDist_add_le_of_comp fun k => by rw [comp_mulF, mul_comm]; exact hc k _

/-- B1, gear train -/
theorem gear_satisfies_constraint (ratio : F) (w : World F) (i1 i2 : Nat) (d1 d2 : Datum (State F))
    (hd : i1 ≠ i2) (h1 : w.getState i1 = some d1) (h2 : w.getState i2 = some d2) :
    ∃ s1 s2 : State F,
      ((GearTrain.update ratio w i1 i2).t i1).state = some ⟨max d1.time d2.time, s1⟩ ∧
      ((GearTrain.update ratio w i1 i2).t i2).state = some ⟨max d1.time d2.time, s2⟩ ∧
      s2 = State.mulF s1 ratio := by
  obtain ⟨_, ha, hb, _⟩ := gear_update_both ratio w i1 i2 d1 d2 hd h1 h2
  exact ⟨_, _, ha, hb, state_ext _ _ fun k => by rw [comp_gearNew2, comp_mulF]⟩

/-- B3, gear train: reads that already satisfy `side2 = ratio·side1` are reproduced unchanged -/
theorem gear_fixed_on_constraint (ratio : F) (w : World F) (i1 i2 : Nat) (d1 d2 : Datum (State F))
    (hd : i1 ≠ i2) (h1 : w.getState i1 = some d1) (h2 : w.getState i2 = some d2)
    (hc : d2.value = State.mulF d1.value ratio) :
    ((GearTrain.update ratio w i1 i2).t i1).state = some ⟨max d1.time d2.time, d1.value⟩ ∧
    ((GearTrain.update ratio w i1 i2).t i2).state = some ⟨max d1.time d2.time, d2.value⟩ := by
  obtain ⟨_, ha, hb, _⟩ := gear_update_both ratio w i1 i2 d1 d2 hd h1 h2
  -- on the constraint `x + (x·r)·r = x·(r·r + 1)`, so the division cancels
  have e1 : gearNew1 ratio d1.value d2.value = d1.value := by
    apply state_ext; intro k
    apply mul_right_cancel₀ (gear_denominator_ne_zero ratio)
    rw [comp_gearNew1_mul, hc, comp_mulF]; ring
  have e2 : gearNew2 ratio d1.value d2.value = d2.value := by
    apply state_ext; intro k
    rw [comp_gearNew2, e1, hc, comp_mulF]
  rw [ha, hb, e1, e2]
  exact ⟨rfl, rfl⟩

/-- B4, gear train (`ratio ≠ 0`): the two directions of one-sided propagation are mutually inverse -/
theorem gear_one_sided_constraint (ratio : F) (hr : ratio ≠ 0) (w : World F) (i1 i2 : Nat) (d : Datum (State F)) :
    (w.getState i1 = some d → w.getState i2 = none →
      ∃ s2, ((GearTrain.update ratio w i1 i2).t i2).state = some ⟨d.time, s2⟩ ∧
        s2 = State.mulF d.value ratio ∧ State.divF s2 ratio = d.value) ∧
    (w.getState i1 = none → w.getState i2 = some d →
      ∃ s1, ((GearTrain.update ratio w i1 i2).t i1).state = some ⟨d.time, s1⟩ ∧
        s1 = State.divF d.value ratio ∧ d.value = State.mulF s1 ratio) := by
  constructor
  · intro h1 h2
    obtain ⟨ha, _⟩ := gear_update_one_left ratio w i1 i2 d h1 h2
    exact ⟨_, ha, rfl, state_mulF_divF_cancel _ hr⟩
  · intro h1 h2
    obtain ⟨ha, _⟩ := gear_update_one_right ratio w i1 i2 d h1 h2
    exact ⟨_, ha, rfl, (state_divF_mulF_cancel _ hr).symm⟩

/-- B1/B3, distrust side 1: if the reads are consistent with some value `x` of side 1, exactly `x` is written -/
theorem diff_side1_satisfies_constraint (w : World F) (i1 i2 isum : Nat) (s b : Datum (State F))
    (hs : w.getState isum = some s) (h2 : w.getState i2 = some b) :
    ∃ n1 : State F,
      ((Differential.update .side1 w i1 i2 isum).t i1).state = some ⟨max s.time b.time, n1⟩ ∧
      State.add n1 b.value = s.value ∧
      ∀ x : State F, s.value = State.add x b.value → n1 = x := by
  rw [diff_update_side1 w i1 i2 isum s b hs h2]
  exact ⟨_, setState_state_self .., state_sub_add_cancel .., fun x hx => hx ▸ state_add_sub_cancel_right x b.value⟩

/-- B1/B3, distrust side 2 -/
theorem diff_side2_satisfies_constraint (w : World F) (i1 i2 isum : Nat) (s a : Datum (State F))
    (hs : w.getState isum = some s) (h1 : w.getState i1 = some a) :
    ∃ n2 : State F,
      ((Differential.update .side2 w i1 i2 isum).t i2).state = some ⟨max s.time a.time, n2⟩ ∧
      State.add a.value n2 = s.value ∧
      ∀ y : State F, s.value = State.add a.value y → n2 = y := by
  rw [diff_update_side2 w i1 i2 isum s a hs h1]
  exact ⟨_, setState_state_self .., state_add_sub_cancel .., fun y hy => hy ▸ state_add_sub_cancel_left a.value y⟩

/-- B1/B3, distrust sum: the sum slot receives exactly `side1 + side2` (true for any scalar type) -/
theorem diff_sum_satisfies_constraint (w : World F) (i1 i2 isum : Nat) (a b : Datum (State F))
    (h1 : w.getState i1 = some a) (h2 : w.getState i2 = some b) :
    ∃ ns : State F,
      ((Differential.update .sum w i1 i2 isum).t isum).state = some ⟨max a.time b.time, ns⟩ ∧
      State.add a.value b.value = ns := by
  rw [diff_update_sum w i1 i2 isum a b h1 h2]
  exact ⟨_, setState_state_self .., rfl⟩

theorem comp_eqNew (x y z : State F) (k : PosDer) :
    comp k (eqNew1 x y z) = (2 * comp k x - comp k y + comp k z) / 3 ∧
    comp k (eqNew2 x y z) = (- comp k x + 2 * comp k y + comp k z) / 3 ∧
    comp k (eqNewSum x y z) = (comp k x + comp k y + 2 * comp k z) / 3 := by
  simp only [eqNew1, eqNew2, eqNewSum, comp_divF, comp_mulF, comp_add, comp_sub, comp_neg, c2_eq, c3_eq]
  exact ⟨by ring, by ring, by ring⟩

/-- B1 + B2, all branches trusted: least-squares projection onto the plane `side1 + side2 = sum` -/
theorem diff_equal_least_squares (w : World F) (i1 i2 isum : Nat) (a b s : Datum (State F))
    (h12 : i1 ≠ i2) (h1s : i1 ≠ isum) (h2s : i2 ≠ isum)
    (h1 : w.getState i1 = some a) (h2 : w.getState i2 = some b) (hs : w.getState isum = some s) :
    ∃ n1 n2 ns : State F,
      ((Differential.update .equal w i1 i2 isum).t i1).state = some ⟨max (max a.time b.time) s.time, n1⟩ ∧
      ((Differential.update .equal w i1 i2 isum).t i2).state = some ⟨max (max a.time b.time) s.time, n2⟩ ∧
      ((Differential.update .equal w i1 i2 isum).t isum).state = some ⟨max (max a.time b.time) s.time, ns⟩ ∧
      State.add n1 n2 = ns ∧
      (∀ k, comp k n1 = (2 * comp k a.value - comp k b.value + comp k s.value) / 3 ∧
            comp k n2 = (- comp k a.value + 2 * comp k b.value + comp k s.value) / 3 ∧
            comp k ns = (comp k a.value + comp k b.value + 2 * comp k s.value) / 3) ∧
      (∀ (k : PosDer) (a' b' : F),
        (comp k a.value - comp k n1) ^ 2 + (comp k b.value - comp k n2) ^ 2 + (comp k s.value - comp k ns) ^ 2
          ≤ (comp k a.value - a') ^ 2 + (comp k b.value - b') ^ 2 + (comp k s.value - (a' + b')) ^ 2) ∧
      (∀ p1 p2 ps : State F, ps = State.add p1 p2 →
        sqDist a.value n1 + sqDist b.value n2 + sqDist s.value ns
          ≤ sqDist a.value p1 + sqDist b.value p2 + sqDist s.value ps) := by
  obtain ⟨ha, hb, hc, _⟩ := diff_update_equal w i1 i2 isum a b s h12 h1s h2s h1 h2 hs
  have hv := comp_eqNew a.value b.value s.value
  have hsum : State.add (eqNew1 a.value b.value s.value) (eqNew2 a.value b.value s.value)
      = eqNewSum a.value b.value s.value :=
    state_ext _ _ fun k => by rw [comp_add, (hv k).1, (hv k).2.1, (hv k).2.2]; ring
  -- all three residuals are `± (x + y − z)/3`: the residual vector is normal to the plane `side1 + side2 = sum`
  have hls : ∀ (k : PosDer) (a' b' : F),
      (comp k a.value - comp k (eqNew1 a.value b.value s.value)) ^ 2
        + (comp k b.value - comp k (eqNew2 a.value b.value s.value)) ^ 2
        + (comp k s.value - comp k (eqNewSum a.value b.value s.value)) ^ 2
        ≤ (comp k a.value - a') ^ 2 + (comp k b.value - b') ^ 2 + (comp k s.value - (a' + b')) ^ 2 :=
    fun k a' b' => scalar_diff_ls a' b' (by rw [(hv k).1, (hv k).2.1]; ring)
      (by rw [(hv k).1, (hv k).2.2]; ring) (by rw [← hsum, comp_add])
  refine ⟨_, _, _, ha, hb, hc, hsum, hv, hls, fun p1 p2 ps hp => ?_⟩
  subst hp
  simp only [sqDist_eq_sum, ← List.sum_map_add]
  exact List.sum_le_sum fun k _ => by rw [comp_add]; exact hls k _ _

/-- B3, all branches trusted: reads with `sum = side1 + side2` are reproduced unchanged -/
theorem diff_equal_fixed_on_constraint (w : World F) (i1 i2 isum : Nat) (a b s : Datum (State F))
    (h12 : i1 ≠ i2) (h1s : i1 ≠ isum) (h2s : i2 ≠ isum)
    (h1 : w.getState i1 = some a) (h2 : w.getState i2 = some b) (hs : w.getState isum = some s)
    (hc : s.value = State.add a.value b.value) :
    ((Differential.update .equal w i1 i2 isum).t i1).state = some ⟨max (max a.time b.time) s.time, a.value⟩ ∧
    ((Differential.update .equal w i1 i2 isum).t i2).state = some ⟨max (max a.time b.time) s.time, b.value⟩ ∧
    ((Differential.update .equal w i1 i2 isum).t isum).state = some ⟨max (max a.time b.time) s.time, s.value⟩ := by
  obtain ⟨ha, hb, hsm, _⟩ := diff_update_equal w i1 i2 isum a b s h12 h1s h2s h1 h2 hs
  have hv := comp_eqNew a.value b.value s.value
  have e1 : eqNew1 a.value b.value s.value = a.value := by
    apply state_ext; intro k; rw [(hv k).1, hc, comp_add]; ring
  have e2 : eqNew2 a.value b.value s.value = b.value := by
    apply state_ext; intro k; rw [(hv k).2.1, hc, comp_add]; ring
  have e3 : eqNewSum a.value b.value s.value = s.value := by
    apply state_ext; intro k; rw [(hv k).2.2, hc, comp_add]; ring
  rw [ha, hb, hsm, e1, e2, e3]
  exact ⟨rfl, rfl, rfl⟩

theorem comp_sumFrom (k : PosDer) (ds : List (Datum (State F))) : ∀ s0 : State F,
    comp k (sumFrom s0 ds) = comp k s0 + (ds.map (fun d => comp k d.value)).sum := by
  induction ds with
  | nil => intro s0; simp [sumFrom]
  | cons d ds ih =>
    intro s0
    have e : sumFrom s0 (d :: ds) = sumFrom (State.add s0 d.value) ds := rfl
    rw [e, ih, comp_add]
    simp only [List.map_cons, List.sum_cons]
    ring

theorem comp_axleDatum (k : PosDer) (ds : List (Datum (State F))) :
    comp k (axleDatum ds).value
      = (ds.map (fun d => comp k d.value)).sum / ((ds.map (fun d => comp k d.value)).length : F) := by
  simp only [axleDatum, comp_divF, comp_sumFrom, List.length_map]
  have : comp k (⟨c0, c0, c0⟩ : State F) = 0 := by cases k <;> exact c0_eq
  rw [this, zero_add, ExactScalar.ofInt_eq, Int.cast_natCast]

/-- B1 + B2, axle of any size -/
theorem axle_least_squares (w : World F) (is : List Nat) (h : ∃ i ∈ is, w.getState i ≠ none) :
    ∃ d : Datum (State F),
      (∀ i ∈ is, ((Axle.update w is).t i).state = some d) ∧
      d.time = maxTime i64Min (presentReads w is) ∧
      (∀ k, comp k d.value = ((presentReads w is).map (fun r => comp k r.value)).sum
                              / ((presentReads w is).length : F)) ∧
      (∀ (k : PosDer) (m' : F),
        sqDev ((presentReads w is).map (fun r => comp k r.value)) (comp k d.value)
          ≤ sqDev ((presentReads w is).map (fun r => comp k r.value)) m') := by
  obtain ⟨hb, _⟩ := axle_update_broadcast w is h
  have hne : presentReads w is ≠ [] := presentReads_ne_nil h
  refine ⟨axleDatum (presentReads w is), hb, rfl, ?_, ?_⟩
  · intro k; rw [comp_axleDatum, List.length_map]
  · intro k m'
    rw [comp_axleDatum]
    exact (scalar_mean_ls _ (by simpa using hne) m').2

/-- B3, axle -/
theorem axle_fixed_on_constraint (w : World F) (is : List Nat) (h : ∃ i ∈ is, w.getState i ≠ none)
    (v : State F) (hv : ∀ r ∈ presentReads w is, r.value = v) :
    ∀ i ∈ is, ((Axle.update w is).t i).state = some ⟨maxTime i64Min (presentReads w is), v⟩ := by
  obtain ⟨d, hb, ht, hm, _⟩ := axle_least_squares w is h
  have hne : (presentReads w is).length ≠ 0 := fun e => presentReads_ne_nil h (List.length_eq_zero_iff.1 e)
  have hval : d.value = v := by
    apply state_ext; intro k
    -- the mean of a constant list
    rw [hm k, List.map_congr_left fun r hr => congrArg (comp k) (hv r hr), List.map_const', List.sum_replicate,
      nsmul_eq_mul, mul_div_cancel_left₀ _ (Nat.cast_ne_zero.2 hne)]
  intro i hi
  rw [hb i hi, ← ht, ← hval]

/-- the sign factor of `GearTrain::new` is `(−1)^(N−1)` -/
theorem gear_ratio_sign (N : Nat) (hN : N ≥ 1) :
    (if N % 2 = 0 then (cm1 : F) else c1) = (-1) ^ (N - 1) := by
  rw [neg_one_pow_eq_pow_mod_two, cm1_eq, c1_eq]
  rcases Nat.mod_two_eq_zero_or_one (N - 1) with h | h
  · rw [h, pow_zero, if_neg (by omega)]
  · rw [h, pow_one, if_pos (by omega)]

theorem gear_ratio_from_teeth_pow (teeth : List F) (h : teeth.length ≥ 2) :
    ∃ first last, teeth.head? = some first ∧ teeth.getLast? = some last ∧
      GearTrain.ratioOfTeeth teeth = .ok (first / last * (-1) ^ (teeth.length - 1)) := by
  obtain ⟨f, l, h1, h2, h3⟩ := gear_ratio_from_teeth teeth h
  exact ⟨f, l, h1, h2, by rw [h3, gear_ratio_sign _ (by omega)]⟩

end R

/-! # Non-vacuity: every hypothesis pattern above is met by a concrete world over `ℚ`

Where a computed slot is compared with a literal it is projected first (`.time`, `comp .position`): `State` derives no
`DecidableEq`, so `decide` cannot compare the whole datum. -/
section Examples

/-- terminals 0, 1, 2 hold states (times 5, 7, 6); terminal 3 is empty; terminal 2 is linked to terminal 4,
which holds a newer state, so the state *read* at 2 (mean of both, time 9) differs from the one *held* by 2 -/
def wq : World ℚ := ⟨6, fun j =>
  if j = 0 then ⟨some ⟨5, ⟨1, 2, 3⟩⟩, none, none⟩
  else if j = 1 then ⟨some ⟨7, ⟨3, 0, 1⟩⟩, none, none⟩
  else if j = 2 then ⟨some ⟨6, ⟨2, 2, 2⟩⟩, none, some 4⟩
  else if j = 4 then ⟨some ⟨9, ⟨4, 0, 0⟩⟩, none, some 2⟩
  else ⟨none, none, none⟩⟩

/-- a world whose reads already satisfy all the constraints used below:
`s1 = −s0`, `s2 = 2·s0`, `s3 = s0`, `s4 = s0 + s2` -/
def wc : World ℚ := ⟨6, fun j =>
  if j = 0 then ⟨some ⟨5, ⟨1, 2, 3⟩⟩, none, none⟩
  else if j = 1 then ⟨some ⟨7, ⟨-1, -2, -3⟩⟩, none, none⟩
  else if j = 2 then ⟨some ⟨6, ⟨2, 4, 6⟩⟩, none, none⟩
  else if j = 3 then ⟨some ⟨2, ⟨1, 2, 3⟩⟩, none, none⟩
  else if j = 4 then ⟨some ⟨4, ⟨3, 6, 9⟩⟩, none, none⟩
  else ⟨none, none, none⟩⟩

example : wq.getState 0 = some ⟨5, ⟨1, 2, 3⟩⟩ := rfl
example : wq.getState 3 = none := rfl
example : (wq.getState 2).map (·.time) = some 9 := rfl

example := invert_update_none wq 3 5 rfl rfl
example := invert_update_one_right wq 3 0 _ rfl rfl
example := invert_update_one_left wq 0 3 _ rfl rfl
example := (invert_update_one wq 3 0 _).1 rfl rfl
example := (invert_update_one wq 0 3 _).2 rfl rfl
example := invert_update_both wq 0 2 _ _ (by decide) rfl rfl
example := invert_satisfies_constraint wq 0 2 _ _ (by decide) rfl rfl
example := invert_least_squares wq 0 2 _ _ (by decide) rfl rfl
example := invert_fixed_on_constraint wc 0 1 _ _ (by decide) rfl rfl rfl
example := (invert_one_sided_constraint wq 3 0 _).1 rfl rfl
example := (invert_one_sided_constraint wq 0 3 _).2 rfl rfl
example := gear_update_none (2 : ℚ) wq 3 5 rfl rfl
example := gear_update_one_right (2 : ℚ) wq 3 0 _ rfl rfl
example := gear_update_one_left (2 : ℚ) wq 0 3 _ rfl rfl
example := (gear_update_one (2 : ℚ) wq 0 3 _).1 rfl rfl
example := (gear_update_one (2 : ℚ) wq 3 0 _).2 rfl rfl
example := gear_update_both (2 : ℚ) wq 0 2 _ _ (by decide) rfl rfl
example := gear_least_squares (2 : ℚ) wq 0 2 _ _ (by decide) rfl rfl
example := gear_satisfies_constraint (2 : ℚ) wq 0 2 _ _ (by decide) rfl rfl
example := gear_fixed_on_constraint (2 : ℚ) wc 0 2 _ _ (by decide) rfl rfl (by norm_num [State.mulF])
example := (gear_one_sided_constraint (2 : ℚ) (by norm_num) wq 0 3 _).1 rfl rfl
example := (gear_one_sided_constraint (2 : ℚ) (by norm_num) wq 3 0 _).2 rfl rfl
-- axle (terminal 3 has no information and still receives the datum)
example := axle_update_none wq [3, 5] (by decide)
example := axle_update_broadcast wq [0, 3, 2, 1] ⟨0, .head _, Option.isSome_iff_ne_none.1 rfl⟩
example := axle_satisfies_constraint wq [0, 3, 2, 1] ⟨0, .head _, Option.isSome_iff_ne_none.1 rfl⟩
example := axle_least_squares wq [0, 3, 2, 1] ⟨0, .head _, Option.isSome_iff_ne_none.1 rfl⟩
example : presentReads wc [0, 5, 3] = [⟨5, ⟨1, 2, 3⟩⟩, ⟨2, ⟨1, 2, 3⟩⟩] := rfl
example := axle_fixed_on_constraint wc [0, 5, 3] ⟨0, .head _, Option.isSome_iff_ne_none.1 rfl⟩
  ⟨1, 2, 3⟩ (by
    intro r hr
    rw [show presentReads wc [0, 5, 3] = [⟨5, ⟨1, 2, 3⟩⟩, ⟨2, ⟨1, 2, 3⟩⟩] from rfl] at hr
    simp at hr; rcases hr with rfl | rfl <;> rfl)
example := axle_time_is_newest (F := ℚ) [⟨5, ⟨1, 2, 3⟩⟩, ⟨2, ⟨1, 2, 3⟩⟩] (List.cons_ne_nil _ _) (by decide)
/-- the axle's datum on a concrete world: time 9 (newest read), mean of the three present reads -/
example : (axleDatum (presentReads wq [0, 3, 2, 1])).time = 9 := by decide
example : comp .position (axleDatum (presentReads wq [0, 3, 2, 1])).value = (1 + 3 + 3) / 3 := by decide +kernel
example := diff_waits_for_trusted .side1 wq 0 3 1 ⟨3, by decide, rfl⟩
example := diff_waits_for_trusted .side2 wq 3 0 1 ⟨3, by decide, rfl⟩
example := diff_waits_for_trusted .sum wq 0 3 1 ⟨3, by decide, rfl⟩
example := diff_waits_for_trusted .equal wq 0 1 3 ⟨3, by decide, rfl⟩
example := diff_update_side1 wq 3 0 2 _ _ rfl rfl
example := diff_update_side2 wq 0 3 2 _ _ rfl rfl
example := diff_update_sum wq 0 1 3 _ _ rfl rfl
example := diff_update_equal wq 0 1 2 _ _ _ (by decide) (by decide) (by decide) rfl rfl rfl
example := diff_side1_satisfies_constraint wq 3 0 2 _ _ rfl rfl
example := diff_side2_satisfies_constraint wq 0 3 2 _ _ rfl rfl
example := diff_sum_satisfies_constraint wq 0 1 3 _ _ rfl rfl
example := diff_equal_least_squares wq 0 1 2 _ _ _ (by decide) (by decide) (by decide) rfl rfl rfl
example := diff_equal_fixed_on_constraint wc 0 2 4 _ _ _ (by decide) (by decide) (by decide) rfl rfl rfl
  (by norm_num [State.add])
example := gear_ratio_from_teeth ([20, 40, 10] : List ℚ) (by decide)
example := gear_ratio_too_few ([20] : List ℚ) (by decide)
example := gear_ratio_from_teeth_pow ([20, 40, 10, 5] : List ℚ) (by decide)
example : GearTrain.ratioOfTeeth ([20, 40, 10, 5] : List ℚ) = .ok (-4) := by decide +kernel
example : GearTrain.ratioOfTeeth ([20, 40, 10] : List ℚ) = .ok 2 := by decide +kernel
example := scalar_mean_ls ([1, 3, 3] : List ℚ) (by simp) 2

end Examples
end Rrtk.Thm.C08
