/-
C15 — Settable bookkeeping (`last_request`, following — including WHICH getter is followed), `GetterFromHistory` offsets, `ConstantGetter`,
`TimeGetterFromGetter`.  Tier S throughout: the payload type `T` is arbitrary, clocks and offsets are `Int`
(the property quantifies over clock values / offsets that do not overflow).
A history is any function `hist : Int → Option (Datum T)` from the time asked to the answer (the `History` trait's `get`): the
model has no list of samples, so nothing here speaks of sample times (increasing or not), and `gfh_query_time_unique`
quantifies over all such functions.
-/
import Rrtk.Settable
import Rrtk.Streams.Stateless
namespace Rrtk.Thm.C15
open Rrtk

variable {T : Type}

/-! Getters that can be followed are numbered (`Nat`); the settable's data remember WHICH one is followed
(`SettableS.following : Option Nat`), and an update is given the present output of every getter
(`gs : Nat → Output T`). -/

/-- The operation alphabet of the recording settable. The scripted result of `impl_set` (`acc`), the scripted outputs
of all getters (`gs i` = what getter number `i` returns now) and the scripted result of the settable's own `update`
body (`iu`) are carried by the operation; a change of a getter's output is simply a different `gs` in the next
`update`. `follow g` names the getter to follow. -/
inductive Op (T : Type) where
  | set (v : T) (acc : UpdRet)
  | follow (g : Nat)
  | stopFollowing
  | update (gs : Nat → Output T) (acc : UpdRet) (iu : UpdRet)

def step (s : SettableS T) : Op T → SettableS T
  | .set v acc => (s.set v acc).1
  | .follow g => s.follow g
  | .stopFollowing => s.stopFollowing
  | .update gs acc iu => (s.recUpdate gs acc iu).1

def run (s : SettableS T) (ops : List (Op T)) : SettableS T := ops.foldl step s

/-- the followed getter after one operation (specification side): `follow g` replaces it by `g` -/
def nextFlag (f : Option Nat) : Op T → Option Nat
  | .follow g => some g
  | .stopFollowing => none
  | _ => f

/-- the followed getter after an operation sequence (specification side): decided by the last
`follow`/`stop_following` in the list -/
def flagAfter (f : Option Nat) : List (Op T) → Option Nat
  | [] => f
  | op :: rest => flagAfter (nextFlag f op) rest

def presentVal : Output T → Option T
  | .ok (some d) => some d.value
  | _ => none

/-- the value an operation successfully sets, when executed while following `f`: a direct `set` that `impl_set`
accepts, or an `update` executed while following getter `i` whose output `gs i` is a present value that `impl_set`
accepts (the outputs of the other getters are irrelevant) -/
def succVal (f : Option Nat) : Op T → Option T
  | .set v (.ok _) => some v
  | .update gs (.ok _) _ => match f with | some i => presentVal (gs i) | none => none
  | _ => none

/-- Non-incremental specification: the value of the last operation of the list that is a successful set (the later
part of the list is consulted first; only if it has no successful set does the head count). `f` is the followed getter
before the list. -/
def lastSuccessfulFrom (f : Option Nat) : List (Op T) → Option T
  | [] => none
  | op :: rest =>
    match lastSuccessfulFrom (nextFlag f op) rest with
    | some v => some v
    | none => succVal f op

/-- from the initial state (not following) -/
def lastSuccessful (ops : List (Op T)) : Option T := lastSuccessfulFrom none ops

/-- two getters: number 0 returns `a`, every other number returns `b` (used in the examples) -/
def two (a b : Output T) : Nat → Output T
  | 0 => a
  | _ => b

theorem run_nil (s : SettableS T) : run s [] = s := rfl
theorem run_cons (s : SettableS T) (op : Op T) (ops : List (Op T)) : run s (op :: ops) = run (step s op) ops := rfl
theorem run_append (s : SettableS T) (a b : List (Op T)) : run s (a ++ b) = run (run s a) b := by
  simp [run, List.foldl_append]

theorem flagAfter_append (f : Option Nat) (a b : List (Op T)) :
    flagAfter f (a ++ b) = flagAfter (flagAfter f a) b := by
  induction a generalizing f with
  | nil => rfl
  | cons op rest ih => exact ih _

theorem update_following_data_spec (s : SettableS T) (gs : Nat → Output T) (acc : UpdRet) :
    (∀ i, s.following = some i →
      s.updateFollowingData gs acc =
        (match gs i with
         | .error e => (s, none, .error e)
         | .ok none => (s, none, .ok ())
         | .ok (some d) => s.set d.value acc)) ∧
    (s.following = none → s.updateFollowingData gs acc = (s, none, .ok ())) := by
  constructor
  · intro i hf
    simp only [SettableS.updateFollowingData, hf]
    cases gs i with
    | error e => rfl
    | ok o => cases o <;> rfl
  · intro hf; simp only [SettableS.updateFollowingData, hf]

example : (⟨some 1, some 1⟩ : SettableS Int).updateFollowingData (two (.ok (some ⟨0, 5⟩)) (.ok (some ⟨0, 6⟩))) (.ok ()) =
    (⟨some 6, some 1⟩, some 6, .ok ()) := by rfl

/-- `update_following_data` changes the data only by recording the value it hands to an accepting `impl_set` … -/
theorem updateFollowingData_fst (s : SettableS T) (gs : Nat → Output T) (acc : UpdRet) :
    (s.updateFollowingData gs acc).1 =
      (match (s.updateFollowingData gs acc).2.1 with | some v => { s with lastRequest := some v } | none => s) := by
  obtain ⟨lr, fl⟩ := s
  cases fl with
  | none => rfl
  | some i =>
    simp only [SettableS.updateFollowingData]
    cases gs i with
    | error e => rfl
    | ok o => cases o with
      | none => rfl
      | some d => cases acc <;> rfl

/-- … and that value is what the specification calls the successfully set value of the operation -/
theorem updateFollowingData_accepted (s : SettableS T) (gs : Nat → Output T) (acc iu : UpdRet) :
    (s.updateFollowingData gs acc).2.1 = succVal s.following (.update gs acc iu) := by
  obtain ⟨lr, fl⟩ := s
  cases fl with
  | none => cases acc <;> rfl
  | some i =>
    cases acc <;> simp only [SettableS.updateFollowingData, succVal] <;> cases gs i with
    | error e => rfl
    | ok o => cases o <;> rfl

theorem recUpdate_fst (s : SettableS T) (gs : Nat → Output T) (acc iu : UpdRet) :
    (s.recUpdate gs acc iu).1 = (s.updateFollowingData gs acc).1 := by
  simp only [SettableS.recUpdate]; split <;> rfl

theorem step_following (s : SettableS T) (op : Op T) : (step s op).following = nextFlag s.following op := by
  cases op with
  | set v acc => cases acc <;> rfl
  | follow g => rfl
  | stopFollowing => rfl
  | update gs acc iu =>
    show (s.recUpdate gs acc iu).1.following = s.following
    rw [recUpdate_fst, updateFollowingData_fst]
    cases (s.updateFollowingData gs acc).2.1 <;> rfl

theorem step_lastRequest (s : SettableS T) (op : Op T) :
    (step s op).lastRequest = (match succVal s.following op with | some v => some v | none => s.lastRequest) := by
  cases op with
  | set v acc => cases acc <;> rfl
  | follow g => rfl
  | stopFollowing => rfl
  | update gs acc iu =>
    show (s.recUpdate gs acc iu).1.lastRequest = _
    rw [recUpdate_fst, updateFollowingData_fst, updateFollowingData_accepted s gs acc iu]
    cases succVal s.following (.update gs acc iu) <;> rfl

theorem run_following (s : SettableS T) (ops : List (Op T)) :
    (run s ops).following = flagAfter s.following ops := by
  induction ops generalizing s with
  | nil => rfl
  | cons op rest ih => rw [run_cons, ih, step_following]; rfl

/-- from any starting state: the last successful set of the list, else what was there before -/
theorem run_lastRequest (s : SettableS T) (ops : List (Op T)) :
    (run s ops).lastRequest =
      (match lastSuccessfulFrom s.following ops with | some v => some v | none => s.lastRequest) := by
  induction ops generalizing s with
  | nil => rfl
  | cons op rest ih =>
    rw [run_cons, ih, step_following, step_lastRequest]
    simp only [lastSuccessfulFrom]
    cases lastSuccessfulFrom (nextFlag s.following op) rest <;> rfl

/-- C15, first sentence.  For every finite operation sequence, the last request of the settable is the argument of
the last set in the sequence that succeeded (directly, or through an update while following); `none` if there is none. -/
theorem last_request_is_last_successful_set (ops : List (Op T)) :
    (run SettableS.init ops).lastRequest = lastSuccessful ops := by
  rw [run_lastRequest]
  simp only [SettableS.init, lastSuccessful]
  cases lastSuccessfulFrom none ops <;> rfl

/-- the specification really is "the last successful one": no successful set anywhere in the list iff `none` -/
theorem lastSuccessfulFrom_eq_none_iff (f : Option Nat) (ops : List (Op T)) :
    lastSuccessfulFrom f ops = none ↔
      ∀ pre op post, ops = pre ++ op :: post → succVal (flagAfter f pre) op = none := by
  induction ops generalizing f with
  | nil =>
    constructor
    · intro _ pre op post h; cases pre <;> cases h
    · intro _; rfl
  | cons o rest ih =>
    simp only [lastSuccessfulFrom]
    constructor
    · intro h pre op post hdec
      cases hr : lastSuccessfulFrom (nextFlag f o) rest with
      | some v => rw [hr] at h; cases h
      | none =>
        rw [hr] at h
        -- the split is at `o` itself or inside `rest`
        rcases List.cons_eq_append_iff.1 hdec with ⟨rfl, hop⟩ | ⟨pre', rfl, rfl⟩
        · cases hop; exact h
        · exact (ih _).1 hr pre' op post rfl
    · intro h
      have hr : lastSuccessfulFrom (nextFlag f o) rest = none :=
        (ih _).2 (fun pre op post hdec => h (o :: pre) op post (by rw [hdec]; rfl))
      rw [hr]
      exact h [] o rest rfl

/-- … and it is `some v` iff the list splits as `pre ++ op :: post` where `op` (executed while following what is
followed after `pre`) successfully sets `v` and nothing in `post` is a successful set. -/
theorem lastSuccessfulFrom_eq_some_iff (f : Option Nat) (ops : List (Op T)) (v : T) :
    lastSuccessfulFrom f ops = some v ↔
      ∃ pre op post, ops = pre ++ op :: post ∧ succVal (flagAfter f pre) op = some v ∧
        lastSuccessfulFrom (flagAfter f (pre ++ [op])) post = none := by
  induction ops generalizing f with
  | nil =>
    constructor
    · intro h; cases h
    · rintro ⟨pre, op, post, h, _⟩; cases pre <;> cases h
  | cons o rest ih =>
    simp only [lastSuccessfulFrom]
    constructor
    · intro h
      cases hr : lastSuccessfulFrom (nextFlag f o) rest with
      | some w =>
        rw [hr] at h
        obtain rfl : w = v := Option.some.inj h
        obtain ⟨pre, op, post, h1, h2, h3⟩ := (ih _).1 hr
        exact ⟨o :: pre, op, post, by rw [h1]; rfl, h2, h3⟩
      | none =>
        rw [hr] at h
        exact ⟨[], o, rest, rfl, h, hr⟩
    · rintro ⟨pre, op, post, h1, h2, h3⟩
      rcases List.cons_eq_append_iff.1 h1 with ⟨rfl, hop⟩ | ⟨pre', rfl, rfl⟩
      · cases hop
        have h3' : lastSuccessfulFrom (nextFlag f o) rest = none := h3
        rw [h3']
        exact h2
      · have : lastSuccessfulFrom (nextFlag f o) (pre' ++ op :: post) = some v :=
          (ih _).2 ⟨pre', op, post, rfl, h2, h3⟩
        rw [this]

/-- non-vacuity of the specification: a failed set, a successful one, an update that is not following (ignored),
follow getter 0, a followed update (getter 0's value 8 wins, getter 1's 80 is ignored), follow getter 1 WITHOUT a stop
in between (now getter 1's value 90 wins over getter 0's 9), a later failed followed update and a stop -/
example : lastSuccessful
    [Op.set (1 : Int) (.error (.other 3)), .set 2 (.ok ()), .update (fun _ => .ok (some ⟨5, 7⟩)) (.ok ()) (.ok ()),
     .follow 0, .update (two (.ok (some ⟨6, 8⟩)) (.ok (some ⟨6, 80⟩))) (.ok ()) (.ok ()),
     .follow 1, .update (two (.ok (some ⟨6, 9⟩)) (.ok (some ⟨6, 90⟩))) (.ok ()) (.ok ()),
     .update (fun _ => .ok (some ⟨7, 10⟩)) (.error .fromNone) (.ok ()),
     .stopFollowing, .update (fun _ => .ok (some ⟨8, 11⟩)) (.ok ()) (.ok ())] = some 90 := by rfl
example : (run SettableS.init
    [Op.set (1 : Int) (.error (.other 3)), .set 2 (.ok ()), .update (fun _ => .ok (some ⟨5, 7⟩)) (.ok ()) (.ok ()),
     .follow 0, .update (two (.ok (some ⟨6, 8⟩)) (.ok (some ⟨6, 80⟩))) (.ok ()) (.ok ()),
     .follow 1, .update (two (.ok (some ⟨6, 9⟩)) (.ok (some ⟨6, 90⟩))) (.ok ()) (.ok ()),
     .update (fun _ => .ok (some ⟨7, 10⟩)) (.error .fromNone) (.ok ()),
     .stopFollowing, .update (fun _ => .ok (some ⟨8, 11⟩)) (.ok ()) (.ok ())]).lastRequest = some 90 := by rfl

/-- a successful set stores exactly its argument, hands it to `impl_set`, and returns `Ok` -/
theorem successful_set_records (s : SettableS T) (v : T) :
    s.set v (.ok ()) = ({ s with lastRequest := some v }, some v, .ok ()) := rfl

theorem last_request_after_successful_set (s : SettableS T) (ops : List (Op T)) (v : T) :
    (run s (ops ++ [.set v (.ok ())])).lastRequest = some v := by
  rw [run_append]; rfl

/-- a failed set leaves the whole settable data (so also `last_request`) unchanged, accepts nothing, and returns the
error of `impl_set` -/
theorem failed_set_keeps (s : SettableS T) (v : T) (e : Err) :
    s.set v (.error e) = (s, none, .error e) := rfl

theorem failed_set_keeps_run (s : SettableS T) (ops : List (Op T)) (v : T) (e : Err) :
    (run s (ops ++ [.set v (.error e)])).lastRequest = (run s ops).lastRequest := by
  rw [run_append]; rfl

/-- while following getter `i`, `update_following_data` on a present value of that getter is `set` of exactly that
value (whatever `impl_set` then answers, whatever the other getters return) -/
theorem follow_forwards_to_set (s : SettableS T) (i : Nat) (gs : Nat → Output T) (d : Datum T) (acc : UpdRet)
    (hf : s.following = some i) (hg : gs i = .ok (some d)) :
    s.updateFollowingData gs acc = s.set d.value acc := by
  simp [SettableS.updateFollowingData, hf, hg]

example : (SettableS.follow (SettableS.init : SettableS Int) 1).updateFollowingData
    (two (.error .fromNone) (.ok (some ⟨3, 42⟩))) (.error (.other 1)) = (⟨none, some 1⟩, none, .error (.other 1)) := by rfl

/-- while following getter `i`, an update with a present value of that getter and an accepting `impl_set` hands exactly
that value to `impl_set`, records it as the last request, keeps following, and returns the update body's own result -/
theorem follow_forwards (s : SettableS T) (i : Nat) (gs : Nat → Output T) (d : Datum T) (iu : UpdRet)
    (hf : s.following = some i) (hg : gs i = .ok (some d)) :
    s.recUpdate gs (.ok ()) iu = ({ s with lastRequest := some d.value }, some d.value, iu) := by
  simp [SettableS.recUpdate, SettableS.updateFollowingData, SettableS.set, hf, hg]

example : (SettableS.follow (SettableS.init : SettableS Int) 0).recUpdate
    (two (.ok (some ⟨3, 42⟩)) (.ok (some ⟨3, 43⟩))) (.ok ()) (.ok ()) = (⟨some 42, some 0⟩, some 42, .ok ()) := by rfl

/-- an absent value of the followed getter forwards nothing and changes nothing (following or not; the other getters
may return anything) -/
theorem follow_absent_noop (s : SettableS T) (gs : Nat → Output T) (acc iu : UpdRet)
    (hg : ∀ i, s.following = some i → gs i = .ok none) :
    s.recUpdate gs acc iu = (s, none, iu) := by
  cases hf : s.following with
  | none => simp [SettableS.recUpdate, SettableS.updateFollowingData, hf]
  | some i => simp [SettableS.recUpdate, SettableS.updateFollowingData, hf, hg i hf]

example : ∀ i, (⟨some 5, some 1⟩ : SettableS Int).following = some i →
    two (.ok (some ⟨1, (2 : Int)⟩)) (.ok none) i = .ok none := by
  intro i h; cases h; rfl
example : (⟨some 5, some 1⟩ : SettableS Int).recUpdate (two (.ok (some ⟨1, 2⟩)) (.ok none)) (.ok ()) (.ok ()) =
    (⟨some 5, some 1⟩, none, .ok ()) := by rfl

/-- while following getter `i`: an error of that getter is returned, nothing is forwarded, the state is unchanged; an
`impl_set` that rejects the forwarded value has its error returned and `last_request` (the whole data) unchanged -/
theorem follow_err_propagates (s : SettableS T) (i : Nat) (gs : Nat → Output T) (e : Err) (d : Datum T)
    (acc iu : UpdRet) (hf : s.following = some i) :
    (gs i = .error e → s.recUpdate gs acc iu = (s, none, .error e)) ∧
    (gs i = .ok (some d) → s.recUpdate gs (.error e) iu = (s, none, .error e)) := by
  constructor <;> intro hg <;> simp [SettableS.recUpdate, SettableS.updateFollowingData, SettableS.set, hf, hg]

example : (SettableS.follow (⟨some 5, none⟩ : SettableS Int) 0).recUpdate (two (.error (.other 9)) (.ok none)) (.ok ()) (.ok ()) =
    (⟨some 5, some 0⟩, none, .error (.other 9)) := by rfl
example : (SettableS.follow (⟨some 5, none⟩ : SettableS Int) 1).recUpdate (two (.error (.other 9)) (.ok (some ⟨1, 2⟩)))
    (.error (.other 4)) (.ok ()) = (⟨some 5, some 1⟩, none, .error (.other 4)) := by rfl

example : (SettableS.init : SettableS Int).recUpdate (fun _ => .error .fromNone) (.ok ()) (.ok ()) =
    (SettableS.init, none, .ok ()) := by rfl

/-- an operation list without `follow` -/
def noFollow : List (Op T) → Prop
  | [] => True
  | .follow _ :: _ => False
  | _ :: rest => noFollow rest

theorem flagAfter_none_of_noFollow (ops : List (Op T)) (h : noFollow ops) : flagAfter none ops = none := by
  induction ops with
  | nil => rfl
  | cons op rest ih =>
    cases op with
    | follow g => exact h.elim
    | set v acc => exact ih h
    | stopFollowing => exact ih h
    | update gs acc iu => exact ih h

/-- after `stop_following`, and whatever happens afterwards short of a new `follow` (sets, further stops, updates
with any getter outputs), every update forwards nothing and leaves the data alone -/
theorem stop_following_stops (s : SettableS T) (ops : List (Op T)) (h : noFollow ops)
    (gs : Nat → Output T) (acc iu : UpdRet) :
    (run s.stopFollowing ops).following = none ∧
    (run s.stopFollowing ops).recUpdate gs acc iu = (run s.stopFollowing ops, none, iu) := by
  have hf : (run s.stopFollowing ops).following = none := by
    rw [run_following]; exact flagAfter_none_of_noFollow ops h
  exact ⟨hf, follow_absent_noop _ gs acc iu fun i hi => nomatch hf.symm.trans hi⟩

example : noFollow [Op.set (1 : Int) (.ok ()), .update (fun _ => .ok (some ⟨1, 2⟩)) (.ok ()) (.ok ()), .stopFollowing] :=
  trivial

/-- … and the next `follow g` re-enables forwarding, of getter `g`'s values -/
theorem follow_after_stop_forwards (s : SettableS T) (g : Nat) (gs : Nat → Output T) (d : Datum T) (iu : UpdRet)
    (hg : gs g = .ok (some d)) :
    ((s.stopFollowing).follow g).recUpdate gs (.ok ()) iu =
      (⟨some d.value, some g⟩, some d.value, iu) := by
  simp [SettableS.recUpdate, SettableS.updateFollowingData, SettableS.set, SettableS.follow, SettableS.stopFollowing, hg]

example : two (.ok none) (.ok (some ⟨1, (2 : Int)⟩)) 1 = .ok (some ⟨1, 2⟩) := rfl

theorem last_request_changes_only_by_successful_set (s : SettableS T) (op : Op T)
    (h : succVal s.following op = none) : (step s op).lastRequest = s.lastRequest := by
  rw [step_lastRequest, h]

example : succVal (some 0) (Op.update (fun _ => .ok none) (.ok ()) (.ok ()) : Op Int) = none := rfl
/-- getter 1 has a present value, but getter 0 is the followed one and it is absent -/
example : succVal (some 0) (Op.update (two (.ok none) (.ok (some ⟨1, 2⟩))) (.ok ()) (.ok ()) : Op Int) = none := rfl

theorem update_uses_only_followed (s : SettableS T) (gs gs' : Nat → Output T) (acc : UpdRet)
    (h : ∀ i, s.following = some i → gs i = gs' i) :
    s.updateFollowingData gs acc = s.updateFollowingData gs' acc := by
  cases hf : s.following with
  | none => simp only [SettableS.updateFollowingData, hf]
  | some i => simp only [SettableS.updateFollowingData, hf, h i hf]

/-- non-vacuity: following getter 1, the two assignments differ on getter 0 only -/
example : ∀ i, (⟨none, some 1⟩ : SettableS Int).following = some i →
    two (.ok (some ⟨1, (2 : Int)⟩)) (.ok (some ⟨1, 3⟩)) i = two (.error .fromNone) (.ok (some ⟨1, 3⟩)) i := by
  intro i h; cases h; rfl
/-- … and it does depend on the followed one -/
example : ((⟨none, some 1⟩ : SettableS Int).updateFollowingData (two (.ok none) (.ok (some ⟨1, 3⟩))) (.ok ())).2.1 = some 3 ∧
    ((⟨none, some 1⟩ : SettableS Int).updateFollowingData (two (.ok none) (.ok (some ⟨1, 4⟩))) (.ok ())).2.1 = some 4 :=
  ⟨rfl, rfl⟩

theorem rec_update_uses_only_followed (s : SettableS T) (gs gs' : Nat → Output T) (acc iu : UpdRet)
    (h : ∀ i, s.following = some i → gs i = gs' i) :
    s.recUpdate gs acc iu = s.recUpdate gs' acc iu := by
  simp only [SettableS.recUpdate, update_uses_only_followed s gs gs' acc h]

/-- `follow` replaces the followed getter: after `follow g1` then `follow g2` (no `stop_following` in between) the
settable's data are those of a settable that only ever followed `g2`, and so is every later update. -/
theorem follow_replaces (s : SettableS T) (g1 g2 : Nat) (ops : List (Op T)) (gs : Nat → Output T) (acc iu : UpdRet) :
    (s.follow g1).follow g2 = s.follow g2 ∧
    (run ((s.follow g1).follow g2) ops).recUpdate gs acc iu = (run (s.follow g2) ops).recUpdate gs acc iu :=
  ⟨rfl, rfl⟩

/-- `follow g1`, `follow g2`, update: getter 1's value (90) is forwarded, not getter 0's (9) -/
example : (((SettableS.init : SettableS Int).follow 0).follow 1).recUpdate
    (two (.ok (some ⟨6, 9⟩)) (.ok (some ⟨6, 90⟩))) (.ok ()) (.ok ()) = (⟨some 90, some 1⟩, some 90, .ok ()) := by rfl

/-- an operation list without `follow` and without `stop_following` -/
def keepsFollowed : List (Op T) → Prop
  | [] => True
  | .follow _ :: _ => False
  | .stopFollowing :: _ => False
  | _ :: rest => keepsFollowed rest

theorem flagAfter_of_keepsFollowed (f : Option Nat) (ops : List (Op T)) (h : keepsFollowed ops) :
    flagAfter f ops = f := by
  induction ops with
  | nil => rfl
  | cons op rest ih =>
    cases op with
    | follow g => exact h.elim
    | stopFollowing => exact h.elim
    | set v acc => exact ih h
    | update gs acc iu => exact ih h

/-- The most recently followed getter is the one forwarded: whatever happened before (`pre`: any operations, including
following other getters, with or without stops), after `follow g` and any further sets and updates (`post`),
`update_following_data` is decided by getter `g`'s output alone. -/
theorem latest_follow_wins (s : SettableS T) (pre post : List (Op T)) (g : Nat) (hpost : keepsFollowed post)
    (gs : Nat → Output T) (acc : UpdRet) :
    (run s (pre ++ .follow g :: post)).following = some g ∧
    (run s (pre ++ .follow g :: post)).updateFollowingData gs acc =
      (match gs g with
       | .error e => (run s (pre ++ .follow g :: post), none, .error e)
       | .ok none => (run s (pre ++ .follow g :: post), none, .ok ())
       | .ok (some d) => (run s (pre ++ .follow g :: post)).set d.value acc) := by
  have hf : (run s (pre ++ .follow g :: post)).following = some g := by
    rw [run_append, run_cons, run_following, step_following]
    exact flagAfter_of_keepsFollowed _ post hpost
  exact ⟨hf, (update_following_data_spec _ gs acc).1 g hf⟩

example : keepsFollowed [Op.set (1 : Int) (.ok ()), .update (fun _ => .ok (some ⟨1, 2⟩)) (.ok ()) (.ok ())] :=
  trivial
example : (run (SettableS.init : SettableS Int)
    ([.follow 0, .update (fun _ => .ok (some ⟨1, 2⟩)) (.ok ()) (.ok ())] ++ .follow 1 :: [.set 3 (.ok ())])).updateFollowingData
    (two (.ok (some ⟨1, 10⟩)) (.ok (some ⟨1, 11⟩))) (.ok ()) = (⟨some 11, some 1⟩, some 11, .ok ()) := by rfl

/-- `stop_following` then `follow g` behaves like `follow g`: same data, hence the same behaviour under all later
operations and updates -/
theorem follow_after_stop (s : SettableS T) (g : Nat) (ops : List (Op T)) (gs : Nat → Output T) (acc iu : UpdRet) :
    (s.stopFollowing).follow g = s.follow g ∧
    (run ((s.stopFollowing).follow g) ops).recUpdate gs acc iu = (run (s.follow g) ops).recUpdate gs acc iu :=
  ⟨rfl, rfl⟩

example : (((⟨some 4, some 0⟩ : SettableS Int).stopFollowing).follow 1).recUpdate
    (two (.ok (some ⟨6, 9⟩)) (.ok (some ⟨6, 90⟩))) (.ok ()) (.ok ()) = (⟨some 90, some 1⟩, some 90, .ok ()) := by rfl

def restamp (now : Int) (d : Datum T) : Datum T := ⟨now, d.value⟩

/-- `get`: the history is asked at `now + delta` and its answer is restamped with `now`; a clock error propagates
(and the history is not consulted) -/
theorem gfh_get (hist : Int → Option (Datum T)) (delta now : Int) :
    Gfh.get hist delta (.ok now) = .ok ((hist (now + delta)).map (restamp now)) ∧
    ∀ e, Gfh.get hist delta (.error e) = .error e := by
  refine ⟨?_, fun _ => rfl⟩
  simp only [Gfh.get]
  cases hist (now + delta) <;> rfl

/-- the time handed to the history is determined by `gfh_get`: if a getter built with offset `delta` answers, for
every history, with the history's value at `t`, then `t = now + delta` (`v` only inhabits `T`) -/
theorem gfh_query_time_unique (v : T) (delta now t : Int)
    (h : ∀ hist : Int → Option (Datum T), Gfh.get hist delta (.ok now) = .ok ((hist t).map (restamp now))) :
    t = now + delta := by
  -- a history with a value at `now + delta` and nowhere else tells that time from every other `t`
  have h1 := h (fun x => if x = now + delta then some ⟨0, v⟩ else none)
  rw [(gfh_get _ delta now).1] at h1
  by_cases ht : t = now + delta
  · exact ht
  · simp [ht] at h1

/-- the hypothesis of `gfh_query_time_unique` is satisfiable (by `t = now + delta`, and only by it) -/
example : ∀ hist : Int → Option (Datum Int), Gfh.get hist 4 (.ok 10) = .ok ((hist 14).map (restamp 10)) :=
  fun hist => (gfh_get hist 4 10).1

theorem gfh_no_delta (hist : Int → Option (Datum T)) (now : Int) :
    Gfh.get hist Gfh.newNoDelta (.ok now) = .ok ((hist now).map (restamp now)) := by
  rw [(gfh_get hist _ now).1]; simp [Gfh.newNoDelta]

/-- `new_start_at_zero` at clock `now₀`: offset `-now₀`; the history is asked at `now - now₀`, in particular at `0`
at the moment of construction; with an erroring clock the constructor returns that error -/
theorem gfh_start_at_zero (hist : Int → Option (Datum T)) (now₀ now : Int) (e : Err) :
    Gfh.newStartAtZero (.ok now₀) = .ok (-now₀) ∧
    Gfh.get hist (-now₀) (.ok now) = .ok ((hist (now - now₀)).map (restamp now)) ∧
    Gfh.get hist (-now₀) (.ok now₀) = .ok ((hist 0).map (restamp now₀)) ∧
    Gfh.newStartAtZero (.error e) = .error e := by
  refine ⟨rfl, ?_, ?_, rfl⟩
  · rw [(gfh_get hist _ now).1, Int.sub_eq_add_neg]
  · rw [(gfh_get hist _ now₀).1, Int.add_right_neg]

/-- the offset `t - now₁` that `new_custom_start t` and `set_time t` leave at clock `now₁`: the history is asked at `t` plus
the time elapsed since then, so at `t` itself at clock `now₁` -/
theorem gfh_get_sub (hist : Int → Option (Datum T)) (t now₁ now : Int) :
    Gfh.get hist (t - now₁) (.ok now) = .ok ((hist (t + (now - now₁))).map (restamp now)) ∧
    Gfh.get hist (t - now₁) (.ok now₁) = .ok ((hist t).map (restamp now₁)) := by
  constructor
  · rw [(gfh_get hist _ now).1, show now + (t - now₁) = t + (now - now₁) by omega]
  · rw [(gfh_get hist _ now₁).1, show now₁ + (t - now₁) = t by omega]

/-- `new_custom_start start` at clock `now₀`: offset `start - now₀`; the history is asked at `start + (now - now₀)`,
in particular at `start` at the moment of construction; erroring clock: that error -/
theorem gfh_custom_start (hist : Int → Option (Datum T)) (start now₀ now : Int) (e : Err) :
    Gfh.newCustomStart (.ok now₀) start = .ok (start - now₀) ∧
    Gfh.get hist (start - now₀) (.ok now) = .ok ((hist (start + (now - now₀))).map (restamp now)) ∧
    Gfh.get hist (start - now₀) (.ok now₀) = .ok ((hist start).map (restamp now₀)) ∧
    Gfh.newCustomStart (.error e) start = .error e :=
  ⟨rfl, (gfh_get_sub hist start now₀ now).1, (gfh_get_sub hist start now₀ now).2, rfl⟩

theorem gfh_custom_delta (hist : Int → Option (Datum T)) (δ now : Int) :
    Gfh.get hist (Gfh.newCustomDelta δ) (.ok now) = .ok ((hist (now + δ)).map (restamp now)) :=
  (gfh_get hist δ now).1

/-- the offset of a `GetterFromHistory` under `set_delta` / `set_time` sequences (the clock reading of each `set_time`
is carried by the operation; clock advances are differences between successive readings) -/
inductive GOp where
  | setDelta (δ : Int)
  | setTime (clk : TimeOutput) (t : Int)

def gstep (delta : Int) : GOp → Int
  | .setDelta δ => Gfh.newCustomDelta δ
  | .setTime clk t => (Gfh.setTime delta clk t).1
def grun (delta : Int) (ops : List GOp) : Int := ops.foldl gstep delta

/-- `set_delta δ` after any history of the object: the history is asked at `now + δ` -/
theorem gfh_set_delta (hist : Int → Option (Datum T)) (delta₀ : Int) (ops : List GOp) (δ now : Int) :
    grun delta₀ (ops ++ [.setDelta δ]) = δ ∧
    Gfh.get hist (grun delta₀ (ops ++ [.setDelta δ])) (.ok now) = .ok ((hist (now + δ)).map (restamp now)) := by
  have h : grun delta₀ (ops ++ [.setDelta δ]) = δ := by simp [grun, List.foldl_append, gstep, Gfh.newCustomDelta]
  exact ⟨h, by rw [h]; exact (gfh_get hist δ now).1⟩

/-- `set_time t` at clock `now₁`, after any history of the object (any previous offset `delta`): returns `Ok`, and at
a later clock `now` the history is asked at `t + (now - now₁)` — at `t` at the moment of the call.  On a clock error
the offset is unchanged and the error is returned. -/
theorem gfh_set_time (hist : Int → Option (Datum T)) (delta t now₁ now : Int) (e : Err) :
    Gfh.setTime delta (.ok now₁) t = (t - now₁, .ok ()) ∧
    Gfh.get hist (Gfh.setTime delta (.ok now₁) t).1 (.ok now) = .ok ((hist (t + (now - now₁))).map (restamp now)) ∧
    Gfh.get hist (Gfh.setTime delta (.ok now₁) t).1 (.ok now₁) = .ok ((hist t).map (restamp now₁)) ∧
    Gfh.setTime delta (.error e) t = (delta, .error e) :=
  ⟨rfl, (gfh_get_sub hist t now₁ now).1, (gfh_get_sub hist t now₁ now).2, rfl⟩

/-- over operation sequences: the offset is the one fixed by the last `set_delta` / successful `set_time`; a
`set_time` whose clock errors changes nothing -/
theorem gfh_offset_after_ops (delta₀ : Int) (ops : List GOp) (δ t now₁ : Int) (e : Err) :
    grun delta₀ (ops ++ [.setDelta δ]) = δ ∧
    grun delta₀ (ops ++ [.setTime (.ok now₁) t]) = t - now₁ ∧
    grun delta₀ (ops ++ [.setTime (.error e) t]) = grun delta₀ ops := by
  refine ⟨?_, ?_, ?_⟩ <;> simp [grun, List.foldl_append, gstep, Gfh.newCustomDelta, Gfh.setTime]

example : Gfh.get (fun t => some (⟨t, 10 * t⟩ : Datum Int)) (grun 0 [.setDelta 3, .setTime (.error .fromNone) 0,
    .setTime (.ok 100) 7]) (.ok 105) = .ok (some ⟨105, 120⟩) := by rfl

theorem constant_getter_get (s : ConstGetterS T) (now : Int) (e : Err) :
    s.get (.ok now) = .ok (some ⟨now, s.value⟩) ∧ s.get (.error e) = .error e := ⟨rfl, rfl⟩

/-- the two models of `ConstantGetter::get` (this one and the stream one) agree -/
theorem constant_getter_get_eq_stream (s : ConstGetterS T) (clk : TimeOutput) :
    s.get clk = Stream.constantGetter clk s.value := by
  cases clk <;> rfl

theorem stream_constant_getter_get (v : T) (now : Int) (e : Err) :
    Stream.constantGetter (.ok now) v = .ok (some ⟨now, v⟩) ∧
    Stream.constantGetter (.error e) v = (.error e : Output T) := ⟨rfl, rfl⟩

theorem constant_getter_init (v : T) (now : Int) :
    (ConstGetterS.init v).get (.ok now) = .ok (some ⟨now, v⟩) ∧
    (ConstGetterS.init v).sd.lastRequest = none ∧ (ConstGetterS.init v).sd.following = none := ⟨rfl, rfl, rfl⟩

theorem constant_getter_set (s : ConstGetterS T) (v : T) (now : Int) :
    (s.set v).value = v ∧ (s.set v).sd.lastRequest = some v ∧ (s.set v).sd.following = s.sd.following ∧
    (s.set v).get (.ok now) = .ok (some ⟨now, v⟩) := ⟨rfl, rfl, rfl, rfl⟩

/-- `update`: a present value of the followed getter becomes the value (and the last request); absent is ignored; its
error is returned with the state unchanged; not following, nothing happens -/
theorem constant_getter_update (s : ConstGetterS T) (i : Nat) (d : Datum T) (e : Err) (gs : Nat → Output T) :
    (s.sd.following = some i → gs i = .ok (some d) → s.update gs = (s.set d.value, .ok ())) ∧
    ((∀ j, s.sd.following = some j → gs j = .ok none) → s.update gs = (s, .ok ())) ∧
    (s.sd.following = some i → gs i = .error e → s.update gs = (s, .error e)) ∧
    (s.sd.following = none → s.update gs = (s, .ok ())) := by
  refine ⟨?_, ?_, ?_, ?_⟩
  · intro hf hg; simp [ConstGetterS.update, hf, hg]
  · intro hg
    cases hf : s.sd.following with
    | none => simp [ConstGetterS.update, hf]
    | some j => simp [ConstGetterS.update, hf, hg j hf]
  · intro hf hg; simp [ConstGetterS.update, hf, hg]
  · intro hf; simp [ConstGetterS.update, hf]

example : (ConstGetterS.mk (1 : Int) ⟨none, some 1⟩).update (two (.ok (some ⟨4, 8⟩)) (.ok (some ⟨4, 9⟩))) =
    (⟨9, ⟨some 9, some 1⟩⟩, .ok ()) := by rfl
example : (ConstGetterS.mk (1 : Int) ⟨none, some 0⟩).update (two (.error (.other 2)) (.ok (some ⟨4, 9⟩))) =
    (⟨1, ⟨none, some 0⟩⟩, .error (.other 2)) := by rfl
example : (ConstGetterS.mk (1 : Int) ⟨none, some 1⟩).update (two (.error (.other 2)) (.ok none)) =
    (⟨1, ⟨none, some 1⟩⟩, .ok ()) := by rfl
example : (ConstGetterS.mk (1 : Int) ⟨none, none⟩).update (fun _ => .error (.other 2)) = (⟨1, ⟨none, none⟩⟩, .ok ()) := by rfl

theorem constant_getter_update_uses_only_followed (s : ConstGetterS T) (gs gs' : Nat → Output T)
    (h : ∀ i, s.sd.following = some i → gs i = gs' i) : s.update gs = s.update gs' := by
  cases hf : s.sd.following with
  | none => simp only [ConstGetterS.update, hf]
  | some i => simp only [ConstGetterS.update, hf, h i hf]

example : ∀ i, (ConstGetterS.mk (1 : Int) ⟨none, some 1⟩).sd.following = some i →
    two (.ok (some ⟨1, (2 : Int)⟩)) (.ok (some ⟨1, 3⟩)) i = two (.error .fromNone) (.ok (some ⟨1, 3⟩)) i := by
  intro i h; cases h; rfl

/-- operations on a constant getter (its `impl_set` cannot fail, its `update` body is just `update_following_data`) -/
inductive COp (T : Type) where
  | set (v : T)
  | follow (g : Nat)
  | stopFollowing
  | update (gs : Nat → Output T)

def cstep (s : ConstGetterS T) : COp T → ConstGetterS T
  | .set v => s.set v
  | .follow g => { s with sd := s.sd.follow g }
  | .stopFollowing => { s with sd := s.sd.stopFollowing }
  | .update gs => (s.update gs).1
def crun (s : ConstGetterS T) (ops : List (COp T)) : ConstGetterS T := ops.foldl cstep s

/-- the same operation seen as an operation of the generic settable with an always-accepting `impl_set` -/
def COp.toOp : COp T → Op T
  | .set v => .set v (.ok ())
  | .follow g => .follow g
  | .stopFollowing => .stopFollowing
  | .update gs => .update gs (.ok ()) (.ok ())

/-- a constant getter's `update` is `update_following_data` of its settable data with an accepting `impl_set`; the value
handed to `impl_set`, if any, becomes the getter's value -/
theorem constant_getter_update_eq (s : ConstGetterS T) (gs : Nat → Output T) :
    s.update gs = (⟨(s.sd.updateFollowingData gs (.ok ())).2.1.getD s.value, (s.sd.updateFollowingData gs (.ok ())).1⟩,
      (s.sd.updateFollowingData gs (.ok ())).2.2) := by
  obtain ⟨v, lr, fl⟩ := s
  cases fl with
  | none => rfl
  | some i =>
    simp only [ConstGetterS.update, SettableS.updateFollowingData]
    cases gs i with
    | error e => rfl
    | ok o => cases o <;> rfl

theorem constant_getter_refines_settable (s : ConstGetterS T) (op : COp T) :
    (cstep s op).sd = step s.sd op.toOp := by
  cases op with
  | update gs =>
    show (s.update gs).1.sd = (s.sd.recUpdate gs (.ok ()) (.ok ())).1
    rw [constant_getter_update_eq, recUpdate_fst]
  | _ => rfl

theorem constant_getter_update_ret (s : ConstGetterS T) (gs : Nat → Output T) :
    (s.update gs).2 = (s.sd.updateFollowingData gs (.ok ())).2.2 := by rw [constant_getter_update_eq]

theorem cstep_value (s : ConstGetterS T) (op : COp T) :
    (cstep s op).value = (match succVal s.sd.following op.toOp with | some v => v | none => s.value) := by
  cases op with
  | update gs =>
    show (s.update gs).1.value =
      (match succVal s.sd.following (.update gs (.ok ()) (.ok ())) with | some v => v | none => s.value)
    rw [constant_getter_update_eq, updateFollowingData_accepted s.sd gs (.ok ()) (.ok ())]
    cases succVal s.sd.following (.update gs (.ok ()) (.ok ())) <;> rfl
  | _ => rfl

theorem crun_sd (s : ConstGetterS T) (ops : List (COp T)) : (crun s ops).sd = run s.sd (ops.map COp.toOp) := by
  induction ops generalizing s with
  | nil => rfl
  | cons op rest ih =>
    show (crun (cstep s op) rest).sd = run (step s.sd op.toOp) (rest.map COp.toOp)
    rw [ih, constant_getter_refines_settable]

/-- over operation sequences: the value of a constant getter is the last value set — directly or by following —
and the constructor's (starting) value if there was none; its last request is that same last value (if any) -/
theorem constant_getter_value_is_last_set (s : ConstGetterS T) (ops : List (COp T)) :
    (crun s ops).value =
      (match lastSuccessfulFrom s.sd.following (ops.map COp.toOp) with | some v => v | none => s.value) ∧
    (crun s ops).sd.lastRequest =
      (match lastSuccessfulFrom s.sd.following (ops.map COp.toOp) with | some v => some v | none => s.sd.lastRequest) := by
  refine ⟨?_, by rw [crun_sd, run_lastRequest]⟩
  induction ops generalizing s with
  | nil => rfl
  | cons op rest ih =>
    show (crun (cstep s op) rest).value = _
    rw [ih, constant_getter_refines_settable, step_following, cstep_value]
    simp only [List.map_cons, lastSuccessfulFrom]
    cases lastSuccessfulFrom (nextFlag s.sd.following op.toOp) (List.map COp.toOp rest) <;> rfl

theorem constant_getter_get_after_ops (v₀ : T) (ops : List (COp T)) (now : Int) :
    (crun (ConstGetterS.init v₀) ops).get (.ok now) =
      .ok (some ⟨now, (lastSuccessful (ops.map COp.toOp)).getD v₀⟩) := by
  have h := (constant_getter_value_is_last_set (ConstGetterS.init v₀) ops).1
  show (Except.ok (some (Datum.mk now (crun (ConstGetterS.init v₀) ops).value)) : Output T) = _
  rw [h]
  simp only [lastSuccessful, ConstGetterS.init, SettableS.init]
  cases lastSuccessfulFrom none (List.map COp.toOp ops) <;> rfl

example : (crun (ConstGetterS.init (0 : Int))
    [.update (fun _ => .ok (some ⟨1, 5⟩)), .set 2, .follow 0, .update (fun _ => .ok none),
     .update (two (.ok (some ⟨2, 6⟩)) (.ok (some ⟨2, 60⟩))), .follow 1,
     .update (two (.ok (some ⟨2, 7⟩)) (.ok (some ⟨2, 70⟩))),
     .update (fun _ => .error .fromNone), .stopFollowing, .update (fun _ => .ok (some ⟨3, 8⟩))]).get (.ok 11) =
    .ok (some ⟨11, 70⟩) := by rfl
example : (crun (ConstGetterS.init (4 : Int)) [.update (fun _ => .ok (some ⟨1, 5⟩)), .stopFollowing]).get (.ok 11) =
    .ok (some ⟨11, 4⟩) := by rfl

/-- the constant getter too: `follow g1` then `follow g2` is `follow g2` (so every later `get`/`update` agrees) -/
theorem constant_getter_follow_replaces (s : ConstGetterS T) (g1 g2 : Nat) (ops : List (COp T)) :
    crun s (.follow g1 :: .follow g2 :: ops) = crun s (.follow g2 :: ops) := rfl

theorem time_getter_from_getter_get (d : Datum T) (e : Err) :
    Stream.timeGetterFromGetter (.ok (some d)) = .ok d.time ∧
    Stream.timeGetterFromGetter (.ok none : Output T) = .error .fromNone ∧
    Stream.timeGetterFromGetter (.error e : Output T) = .error e := ⟨rfl, rfl, rfl⟩

/-- the `expect` in the source is never reached: the inner `NoneToError` never yields `Ok(None)` -/
theorem time_getter_from_getter_no_panic (inp : Output T) : Stream.noneToError inp ≠ .ok none := by
  cases inp with
  | error e => simp [Stream.noneToError]
  | ok o => cases o <;> simp [Stream.noneToError]

theorem time_getter_from_getter_ignores_value (t : Int) (v w : T) :
    Stream.timeGetterFromGetter (.ok (some ⟨t, v⟩)) = Stream.timeGetterFromGetter (.ok (some ⟨t, w⟩)) := rfl

theorem time_getter_from_constant_getter (clk : TimeOutput) (v : T) :
    Stream.timeGetterFromGetter (Stream.constantGetter clk v) = clk := by
  cases clk <;> rfl

end Rrtk.Thm.C15
