/-
C18 — Time and integer quantities: exact integer arithmetic, faithful float conversion.
Tier S.  Integer operators are modelled in a debug build (overflow / division by zero panic): the theorems say
the result is the exact mathematical integer whenever it is representable, and that nothing else is ever returned.
The conversion *accuracy* clauses (two ulps, monotone, round-trip bound) are about binary32 rounding. They are proved
(a) for an abstract rounding function under the IEEE contract (`Lemmas/C18Rounding.lean`) and (b) with NO rounding
hypothesis for the concrete, kernel-transparent round-to-nearest-even function `Rrtk.Soft.rne32` (`Rrtk/SoftFloat.lean`;
`Lemmas/C18Soft.lean`: `*_binary32` theorems, including that no intermediate result overflows, so `rne32` is the hardware
result at every step).  What remains trusted is that the CPU's binary32 `+ - * /`, `as f32`, `as i64` coincide with `rne32`
— compared bit-for-bit on every run (group `sf`).
-/
import Rrtk.Thm.Lemmas.Dim
set_option linter.unusedSectionVars false
namespace Rrtk.Thm.C18
open Rrtk

/-! ### exact i64 arithmetic

Every operator is the range check `chkI64` of the exact result (`Lemmas/Dim.lean`: `chkI64_ok_iff`). -/
theorem add_exact (a b : Int) (h : inI64 (a + b)) : I64.add a b = .ok (a + b) := (chkI64_ok_iff _ _).2 ⟨rfl, h⟩
theorem sub_exact (a b : Int) (h : inI64 (a - b)) : I64.sub a b = .ok (a - b) := (chkI64_ok_iff _ _).2 ⟨rfl, h⟩
theorem mul_exact (a b : Int) (h : inI64 (a * b)) : I64.mul a b = .ok (a * b) := (chkI64_ok_iff _ _).2 ⟨rfl, h⟩
theorem neg_exact (a : Int) (h : inI64 (-a)) : I64.neg a = .ok (-a) := (chkI64_ok_iff _ _).2 ⟨rfl, h⟩
theorem div_exact (a b : Int) (hb : b ≠ 0) (h : inI64 (Int.tdiv a b)) : I64.div a b = .ok (Int.tdiv a b) := by
  rw [I64.div, if_neg hb]; exact (chkI64_ok_iff _ _).2 ⟨rfl, h⟩
theorem div_zero (a : Int) : I64.div a 0 = .error .div0 := if_pos rfl

/-- an operator never returns anything but the exact result -/
theorem chkI64_sound {n r : Int} (h : chkI64 n = .ok r) : r = n ∧ inI64 r := by
  obtain ⟨rfl, hr⟩ := (chkI64_ok_iff _ _).1 h; exact ⟨rfl, hr⟩
theorem add_sound (a b r : Int) (h : I64.add a b = .ok r) : r = a + b ∧ inI64 r := chkI64_sound h
theorem sub_sound (a b r : Int) (h : I64.sub a b = .ok r) : r = a - b ∧ inI64 r := chkI64_sound h
theorem mul_sound (a b r : Int) (h : I64.mul a b = .ok r) : r = a * b ∧ inI64 r := chkI64_sound h
theorem neg_sound (a r : Int) (h : I64.neg a = .ok r) : r = -a ∧ inI64 r := chkI64_sound h
theorem div_sound (a b r : Int) (h : I64.div a b = .ok r) : b ≠ 0 ∧ r = Int.tdiv a b ∧ inI64 r := by
  unfold I64.div at h
  split at h
  · cases h
  · exact ⟨‹_›, chkI64_sound h⟩
/-- the only overflowing quotient of two i64 values is `MIN / -1` -/
theorem div_overflow_only (a b : Int) (ha : inI64 a) (hb : inI64 b) (hb0 : b ≠ 0)
    (h : ¬ (a = -9223372036854775808 ∧ b = -1)) : inI64 (Int.tdiv a b) := by
  unfold inI64 at *
  by_cases hb1 : b = -1
  · -- `a / -1 = -a`, in range unless `a = MIN`
    have : a ≠ -9223372036854775808 := fun e => h ⟨e, hb1⟩
    rw [hb1, Int.tdiv_neg, Int.tdiv_one]; omega
  · by_cases hb2 : b = 1
    · rw [hb2, Int.tdiv_one]; exact ha
    · -- `2 ≤ |b|` halves the magnitude
      have h1 : (Int.tdiv a b).natAbs = a.natAbs / b.natAbs := Int.natAbs_tdiv a b
      have h2 : a.natAbs / b.natAbs ≤ a.natAbs / 2 := Nat.div_le_div_left (by omega) (by omega)
      omega

/-! ### converting to and from `i64` is the identity

The model has NO separate type for `Time(i64)` / `DimensionlessInteger(i64)`: both are represented by the `Int` that is the
`i64` inside (with the range predicate `inI64` carried by the operators, `chkI64`).  So `From<i64>` / `Into<i64>` are the
identity on the representation — written down here as the spec helpers `timeOfI64 … dimIntToI64` (NOT model functions; the
model has nothing to unfold) — and the clause is true by construction.  What has content is that the representation
invariant survives: every result an integer operator returns is again `inI64`, so it can be converted back out. -/
/-- `impl From<i64> for Time` (`Time(was)`): identity on the representation -/
def timeOfI64 (n : Int) : Int := n
/-- `impl From<Time> for i64` (`was.0`) -/
def timeToI64 (t : Int) : Int := t
/-- `impl From<i64> for DimensionlessInteger` -/
def dimIntOfI64 (n : Int) : Int := n
/-- `impl From<DimensionlessInteger> for i64` -/
def dimIntToI64 (d : Int) : Int := d

/-- the first four conjuncts hold by construction of the model (see above); the last says that whatever an integer
operator of `Time` / `DimensionlessInteger` returns is again an `i64`, so the conversion out is defined on it -/
theorem i64_roundtrip (n : Int) (hn : inI64 n) :
    timeToI64 (timeOfI64 n) = n ∧ timeOfI64 (timeToI64 n) = n ∧
    dimIntToI64 (dimIntOfI64 n) = n ∧ dimIntOfI64 (dimIntToI64 n) = n ∧
    inI64 (timeToI64 (timeOfI64 n)) ∧ inI64 (dimIntToI64 (dimIntOfI64 n)) ∧
    (∀ a b r : Int, I64.add a b = .ok r ∨ I64.sub a b = .ok r ∨ I64.mul a b = .ok r ∨ I64.div a b = .ok r ∨
        I64.neg a = .ok r → inI64 r ∧ timeToI64 (timeOfI64 r) = r) := by
  refine ⟨rfl, rfl, rfl, rfl, hn, hn, ?_⟩
  intro a b r h
  refine ⟨?_, rfl⟩
  rcases h with h | h | h | h | h
  · exact (add_sound a b r h).2
  · exact (sub_sound a b r h).2
  · exact (mul_sound a b r h).2
  · exact (div_sound a b r h).2.2
  · exact (neg_sound a r h).2

/-- non-vacuity: `i64::MAX` is in range, and an operator result to which the last clause applies -/
example : inI64 9223372036854775807 := by decide
example : I64.add 9223372036854775806 1 = .ok 9223372036854775807 := by rfl
example : I64.add 9223372036854775807 1 = .error .overflow := by rfl

section S
variable {F : Type} [Add F] [Sub F] [Mul F] [Div F] [Neg F] [LT F] [LE F] [BEq F]
  [DecidableLT F] [DecidableLE F] [FloatLike F]

/-! ### conversions: which expression is computed, and when they succeed -/
theorem time_to_quantity (chk : Bool) (t : Int) :
    (Quantity.ofTime chk t : Quantity F).value = (FloatLike.ofInt t : F) / c1e9 ∧
    (Quantity.ofTime true t : Quantity F).unit = ⟨0, 1⟩ := ⟨rfl, rfl⟩
theorem dimint_to_quantity (chk : Bool) (n : Int) :
    (Quantity.ofDimInt chk n : Quantity F).value = (FloatLike.ofInt n : F) ∧
    (Quantity.ofDimInt true n : Quantity F).unit = ⟨0, 0⟩ := ⟨rfl, rfl⟩

theorem tryfrom_dimint (q : Quantity F) :
    DimInt.tryOfQuantity true q = if q.unit = ⟨0, 0⟩ then some (FloatLike.toInt q.value) else none :=
  DimInt.tryOfQuantity_true q
/-- round trip, structurally: back-conversion of a converted time is `((t as f32 / 1e9) * 1e9) as i64` -/
theorem roundtrip_expr (t : Int) :
    Time.tryOfQuantity true (Quantity.ofTime true t : Quantity F) =
      some (FloatLike.toInt (((FloatLike.ofInt t : F) / c1e9) * c1e9)) := by
  rw [Time.tryOfQuantity_true]; exact if_pos rfl

/-! ### every mixed operator that yields a Quantity = the Quantity operator on the converted operands

True by `rfl`: the source writes these impls as `self + Self::from(rhs)` and `Dim.lean` models them so; that the model is the source
is the correspondence check's part. -/
theorem q_time (chk : Bool) (q : Quantity F) (t : Int) :
    Quantity.addTime chk q t = Quantity.add chk q (Quantity.ofTime chk t) ∧
    Quantity.subTime chk q t = Quantity.sub chk q (Quantity.ofTime chk t) ∧
    Quantity.mulTime chk q t = Quantity.mul chk q (Quantity.ofTime chk t) ∧
    Quantity.divTime chk q t = Quantity.div chk q (Quantity.ofTime chk t) := ⟨rfl, rfl, rfl, rfl⟩
theorem q_dimint (chk : Bool) (q : Quantity F) (n : Int) :
    Quantity.addDimInt chk q n = Quantity.add chk q (Quantity.ofDimInt chk n) ∧
    Quantity.subDimInt chk q n = Quantity.sub chk q (Quantity.ofDimInt chk n) ∧
    Quantity.mulDimInt chk q n = Quantity.mul chk q (Quantity.ofDimInt chk n) ∧
    Quantity.divDimInt chk q n = Quantity.div chk q (Quantity.ofDimInt chk n) := ⟨rfl, rfl, rfl, rfl⟩
theorem time_q (chk : Bool) (t : Int) (q : Quantity F) :
    Time.addQ chk t q = Quantity.add chk (Quantity.ofTime chk t) q ∧
    Time.subQ chk t q = Quantity.sub chk (Quantity.ofTime chk t) q ∧
    Time.divQ chk t q = Quantity.div chk (Quantity.ofTime chk t) q := ⟨rfl, rfl, rfl⟩
theorem dimint_q (chk : Bool) (n : Int) (q : Quantity F) :
    DimInt.addQ chk n q = Quantity.add chk (Quantity.ofDimInt chk n) q ∧
    DimInt.subQ chk n q = Quantity.sub chk (Quantity.ofDimInt chk n) q ∧
    DimInt.divQ chk n q = Quantity.div chk (Quantity.ofDimInt chk n) q := ⟨rfl, rfl, rfl⟩
theorem time_time (chk : Bool) (a b : Int) :
    (Time.mulTime chk a b : Quantity F) = Quantity.mul chk (Quantity.ofTime chk a) (Quantity.ofTime chk b) ∧
    (Time.divTime chk a b : Quantity F) = Quantity.div chk (Quantity.ofTime chk a) (Quantity.ofTime chk b) ∧
    (DimInt.divTime chk a b : Quantity F) = Quantity.div chk (Quantity.ofDimInt chk a) (Quantity.ofTime chk b) := ⟨rfl, rfl, rfl⟩
/-- the two impls the source writes commuted (`rhs * self`) agree with the converted form when `*` commutes (tier L) -/
theorem commuted_mul (chk : Bool) (n : Int) (q : Quantity F) (hcomm : ∀ x y : F, x * y = y * x) :
    Time.mulQ chk n q = Quantity.mul chk (Quantity.ofTime chk n) q ∧
    DimInt.mulQ chk n q = Quantity.mul chk (Quantity.ofDimInt chk n) q :=
  ⟨Quantity.mul_comm hcomm chk q _, Quantity.mul_comm hcomm chk q _⟩
end S

/-- non-vacuity: in-range and out-of-range instances -/
example : I64.add 9223372036854775807 1 = .error .overflow := by rfl
example : I64.div (-9223372036854775808) (-1) = .error .overflow := by rfl
example : I64.div (-7) 2 = .ok (-3) := by rfl
example : inI64 (Int.tdiv (-9223372036854775808) 1) := by decide

end Rrtk.Thm.C18
