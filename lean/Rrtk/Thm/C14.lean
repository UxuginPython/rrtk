/-
C14 — State kinematics and State/Command/Quantity conversions are exact and consistent.
Tier R for the kinematics (closed form over an ordered field), tier S for everything structural.
-/
import Rrtk.Thm.Lemmas.Exact
import Rrtk.Thm.Lemmas.Dim
set_option linter.unusedSectionVars false
namespace Rrtk.Thm.C14
open Rrtk

section R
variable {F : Type} [Field F] [LinearOrder F] [IsStrictOrderedRing F] [FloatLike F] [ExactScalar F]

/-- seconds in `dt` nanoseconds -/
def sec (dt : Int) : F := (dt : F) / 1000000000

/-- `v' = v + a·dt`, `p' = p + v·dt + a·dt²/2`, `a' = a` — for every sign of `dt`. -/
theorem state_update_closed_form (s : State F) (dt : Int) :
    (State.update s dt).velocity = s.velocity + s.acceleration * sec dt ∧
    (State.update s dt).position = s.position + s.velocity * sec dt + s.acceleration * (sec dt) ^ 2 / 2 ∧
    (State.update s dt).acceleration = s.acceleration := by
  refine ⟨?_, ?_, rfl⟩ <;> simp only [State.update, sec, ExactScalar.ofInt_eq] <;> ring

theorem state_update_zero_dt (s : State F) : State.update s 0 = s := by
  cases s with
  | mk p v a => simp only [State.update, ExactScalar.ofInt_eq, Int.cast_zero, zero_div, zero_mul, add_zero]

/-- under constant acceleration the update is a flow: two steps are one step over the summed time, for any signs -/
theorem state_update_add (s : State F) (a b : Int) : State.update (State.update s a) b = State.update s (a + b) := by
  cases s with
  | mk p v acc =>
    simp only [State.update, ExactScalar.ofInt_eq, Int.cast_add]
    congr 1 <;> ring

theorem state_update_reversible (s : State F) (dt : Int) :
    State.update (State.update s dt) (-dt) = s := by
  rw [state_update_add, Int.add_right_neg, state_update_zero_dt]

/-- the Quantity-level code path (through the unit-checked operators) never panics and computes the same numbers -/
theorem state_updateQ_eq (chk : Bool) (s : State F) (dt : Int) :
    State.updateQ chk s dt = .ok (State.update s dt) :=
  State.updateQ_eq chk s dt
end R

section S
variable {F : Type} [Add F] [Sub F] [Mul F] [Div F] [Neg F] [LT F] [LE F] [BEq F]
  [DecidableLT F] [DecidableLE F] [FloatLike F]

/-- setting a constant position zeroes velocity and acceleration; a wrongly dimensioned argument is rejected
and the state is untouched -/
theorem set_const_position (s : State F) (q : Quantity F) :
    State.setConstantPosition true s q =
      if q.unit = ⟨1, 0⟩ then (⟨q.value, c0, c0⟩, true) else (s, false) :=
  State.setConstantPosition_true s q

theorem set_const_velocity (s : State F) (q : Quantity F) :
    State.setConstantVelocity true s q =
      if q.unit = ⟨1, -1⟩ then (⟨s.position, q.value, c0⟩, true) else (s, false) :=
  State.setConstantVelocity_true s q

theorem set_const_acceleration (s : State F) (q : Quantity F) :
    State.setConstantAcceleration true s q =
      if q.unit = ⟨1, -2⟩ then (⟨s.position, s.velocity, q.value⟩, true) else (s, false) :=
  State.setConstantAcceleration_true s q

theorem set_raw (s : State F) (x : F) :
    State.setConstantPositionRaw s x = ⟨x, c0, c0⟩ ∧
    State.setConstantVelocityRaw s x = ⟨s.position, x, c0⟩ ∧
    State.setConstantAccelerationRaw s x = ⟨s.position, s.velocity, x⟩ := ⟨rfl, rfl, rfl⟩

theorem state_new_ok (p v a : Quantity F) (hp : p.unit = ⟨1, 0⟩) (hv : v.unit = ⟨1, -1⟩) (ha : a.unit = ⟨1, -2⟩) :
    State.new true p v a = .ok ⟨p.value, v.value, a.value⟩ := by
  rw [State.new_true, if_pos ⟨hp, hv, ha⟩]
theorem state_new_rejects (p v a : Quantity F) (h : p.unit ≠ ⟨1, 0⟩ ∨ v.unit ≠ ⟨1, -1⟩ ∨ a.unit ≠ ⟨1, -2⟩) :
    State.new true p v a = .error .dim := by
  rw [State.new_true, if_neg (by tauto)]

/-- a command built from a state is, in the property's words, its "lowest non-zero derivative": the acceleration unless that is zero,
else the velocity unless that is zero, else the position (with the code's `== 0.0` tests) -/
theorem command_from_state_lowest (s : State F) :
    Command.ofState s =
      if s.acceleration == c0 then (if s.velocity == c0 then .position s.position else .velocity s.velocity)
      else .acceleration s.acceleration := rfl
/-- the `false` is immaterial: `chk` only chooses the unit `getValue` attaches, and the statement reads `.value` -/
theorem command_from_state_kind_value (s : State F) :
    (Command.ofState s).raw = (State.getValue false s (Command.ofState s).kind).value := by
  simp only [Command.ofState]
  split
  · split <;> rfl
  · rfl

theorem command_new_kind_raw (pd : PosDer) (v : F) : (Command.new pd v).kind = pd ∧ (Command.new pd v).raw = v :=
  ⟨Command.kind_new pd v, Command.raw_new pd v⟩
theorem command_roundtrip_new (c : Command F) : Command.new c.kind c.raw = c := Command.new_kind_raw c
/-- at `chk = true`, unit first: `C01.command_to_quantity_unit` -/
theorem command_quantity_consistent (chk : Bool) (c : Command F) :
    (Command.toQuantity chk c).value = c.raw ∧ (Command.toQuantity chk c).unit = DUnit.ofPosDer chk c.kind := by
  cases c <;> cases chk <;> exact ⟨rfl, rfl⟩
/-- `Command.tryOfQuantity_toQuantity` (`Lemmas/Dim.lean`), under C14's name; C01 has it as `command_quantity_roundtrip` -/
theorem command_roundtrip_quantity (c : Command F) :
    Command.tryOfQuantity (Command.toQuantity true c) = some c := Command.tryOfQuantity_toQuantity c
theorem command_accessors (chk : Bool) (c : Command F) :
    (Command.getPosition chk c = match c with | .position v => some ⟨v, MILLIMETER chk⟩ | _ => none) ∧
    (Command.getVelocity chk c = match c with
        | .position _ => some ⟨c0, MILLIMETER_PER_SECOND chk⟩
        | .velocity v => some ⟨v, MILLIMETER_PER_SECOND chk⟩
        | .acceleration _ => none) ∧
    (Command.getAcceleration chk c = match c with
        | .acceleration v => ⟨v, MILLIMETER_PER_SECOND_SQUARED chk⟩
        | _ => ⟨c0, MILLIMETER_PER_SECOND_SQUARED chk⟩) := by
  cases c <;> exact ⟨rfl, rfl, rfl⟩
theorem command_own_accessor (chk : Bool) (c : Command F) :
    match c.kind with
    | .position => Command.getPosition chk c = some ⟨c.raw, MILLIMETER chk⟩
    | .velocity => Command.getVelocity chk c = some ⟨c.raw, MILLIMETER_PER_SECOND chk⟩
    | .acceleration => Command.getAcceleration chk c = ⟨c.raw, MILLIMETER_PER_SECOND_SQUARED chk⟩ := by
  cases c <;> rfl

theorem state_arith_componentwise (a b : State F) (x : F) :
    State.add a b = ⟨a.position + b.position, a.velocity + b.velocity, a.acceleration + b.acceleration⟩ ∧
    State.sub a b = ⟨a.position - b.position, a.velocity - b.velocity, a.acceleration - b.acceleration⟩ ∧
    State.mulF a x = ⟨a.position * x, a.velocity * x, a.acceleration * x⟩ ∧
    State.divF a x = ⟨a.position / x, a.velocity / x, a.acceleration / x⟩ ∧
    State.neg a = ⟨-a.position, -a.velocity, -a.acceleration⟩ := ⟨rfl, rfl, rfl, rfl, rfl⟩

theorem command_scale_keeps_kind (c : Command F) (x : F) :
    (Command.mulF c x).kind = c.kind ∧ (Command.mulF c x).raw = c.raw * x ∧
    (Command.divF c x).kind = c.kind ∧ (Command.divF c x).raw = c.raw / x ∧
    (Command.neg c).kind = c.kind ∧ (Command.neg c).raw = -c.raw := by
  cases c <;> exact ⟨rfl, rfl, rfl, rfl, rfl, rfl⟩
theorem command_add_eq (a b : Command F) :
    Command.add a b = if a.kind = b.kind then .ok (Command.new a.kind (a.raw + b.raw)) else .error .kind := rfl
theorem command_sub_eq (a b : Command F) :
    Command.sub a b = if a.kind = b.kind then .ok (Command.new a.kind (a.raw - b.raw)) else .error .kind := rfl
theorem command_add_panics_iff (a b : Command F) :
    (∃ p, Command.add a b = .error p) ↔ a.kind ≠ b.kind := by
  rw [command_add_eq]
  exact Except.exists_ite_ok_error_eq_error_iff
theorem command_sub_panics_iff (a b : Command F) :
    (∃ p, Command.sub a b = .error p) ↔ a.kind ≠ b.kind := by
  rw [command_sub_eq]
  exact Except.exists_ite_ok_error_eq_error_iff
end S

/-- non-vacuity: the test-suite's own update example over the rationals: (1,2,3) advanced 2 s -/
example : State.update (⟨1, 2, 3⟩ : State ℚ) 2000000000 = ⟨11, 8, 3⟩ := by
  simp only [State.update, c1e9, c2, FloatLike.ofInt]; norm_num

end Rrtk.Thm.C14
