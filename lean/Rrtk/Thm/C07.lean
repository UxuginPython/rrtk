/-
C07 — the profile is a valid trapezoid.

* Tier S (arbitrary scalar): the three velocity formulas are ONE formula evaluated at a tent-shaped integer time, so velocity
  is continuous at `t1`, `t2` as an identity of terms; after completion the accessors return the end state with no arithmetic.
* Tier R (`F` an ordered field with exact `ofInt`/`absF`): position is the exact integral of velocity on each piece, the
  velocity bound, continuity of position at `t2` and, for even `t1`, at `t1` (for odd `t1` the `i64` halving `-t1 / 2` makes
  the code jump by `max_acc · t1 · 0.5 ns`: `pos_jump_t1_odd`), arrival at the end state, acceptance of moves with room.
  Units are carried (any `chk`, hypothesis `WF chk mp`, which `C06.new_wf` provides for every constructed profile).
  NOT proved (and not provable in exact arithmetic): the truncation of `t1, t2, t3` to whole nanoseconds and the binary32
  rounding, i.e. the "within a rounding tolerance" part of the property.  Each `_partial` theorem names the exactness
  hypothesis it uses instead.
* Mirror symmetry for strictly ordered positions is tier L (`mirror_of_laws`): any scalar under the twelve laws `NegLaws`
  (negation commutes with each operation the code uses and is an involution, `<` is asymmetric); no associativity,
  distributivity or commutativity, and no fact about `as i64`, since the mirrored constructor computes `t1, t2, t3` from
  the same terms.  An ordered field satisfies the laws (`negLaws_exact`), binary32 too (`Thm/Ext/C07.lean`); at equal
  positions the claim is false of the code (`mirror_fails_at_equal_positions`).
-/
import Rrtk.Thm.C06
set_option linter.unusedSectionVars false
namespace Rrtk.Thm.C07
open Rrtk Rrtk.Thm.MpL MotionProfile

section S
variable {F : Type} [Add F] [Sub F] [Mul F] [Div F] [Neg F] [LT F] [LE F] [BEq F]
  [DecidableLT F] [DecidableLE F] [FloatLike F]

theorem acc_values (chk : Bool) (mp : MotionProfile F) (t : Int) :
    (getPiece mp t = .initialAcceleration → getAcceleration chk mp t = some mp.maxAcc) ∧
    (getPiece mp t = .constantVelocity →
      getAcceleration chk mp t = some ⟨c0, MILLIMETER_PER_SECOND_SQUARED chk⟩) ∧
    (getPiece mp t = .endAcceleration → getAcceleration chk mp t = some (Quantity.neg mp.maxAcc)) := by
  rw [getAcceleration_eq]
  refine ⟨fun h => ?_, fun h => ?_, fun h => ?_⟩ <;> rw [h] <;> rfl

/-- the stored `max_acc` has the sign of the displacement, `+` when the displacement is zero -/
theorem acc_sign (chk : Bool) (s e : State F) (mv ma : Quantity F) (mp : MotionProfile F)
    (h : MotionProfile.new chk s e mv ma = .ok mp) :
    mp.maxAcc.value = FloatLike.absF ma.value * (if e.position < s.position then cm1 else c1) ∧
    mp.maxAcc.unit = MILLIMETER_PER_SECOND_SQUARED chk := by
  obtain ⟨-, -, -, rfl⟩ := new_ok h
  exact ⟨rfl, rfl⟩

theorem new_start_fields (chk : Bool) (s e : State F) (mv ma : Quantity F) (mp : MotionProfile F)
    (h : MotionProfile.new chk s e mv ma = .ok mp) :
    mp.startPos = s.getPosition chk ∧ mp.startVel = s.getVelocity chk := by
  obtain ⟨-, -, -, rfl⟩ := new_ok h
  exact ⟨rfl, rfl⟩

/-- the integer time at which the ONE velocity formula is evaluated: `t`, then `t1`, then `t1 + t2 - t` -/
def velArg (mp : MotionProfile F) (t : Int) : Int :=
  if t < mp.t1 then t else if t < mp.t2 then mp.t1 else mp.t1 + mp.t2 - t

/-- during the move (`0 ≤ t` and one of `t1, t2, t3` still ahead) the velocity accessor is the same formula at the
tent-shaped time `velArg` (any profile value; same term, so bit-identical) -/
theorem vel_tent (chk : Bool) (mp : MotionProfile F) (t : Int)
    (h0 : 0 ≤ t) (h3 : t < mp.t1 ∨ t < mp.t2 ∨ t < mp.t3) :
    getVelocity chk mp t = velFormula chk mp (velArg mp t) := by
  rw [getVelocity_eq]
  rcases C06.piece_cases mp t with
    ⟨hneg, -⟩ | ⟨-, h1, hp⟩ | ⟨-, h1, h2, hp⟩ | ⟨-, h1, h2, -, hp⟩ | ⟨-, h1, h2, hc, -⟩
  · omega
  · rw [hp, velArg, if_pos h1]; rfl
  · rw [hp, velArg, if_neg (Int.not_lt.2 h1), if_pos h2]; rfl
  · rw [hp, velArg, if_neg (Int.not_lt.2 h1), if_neg (Int.not_lt.2 h2)]; rfl
  · omega

/-- the tent is 1-Lipschitz on the integer grid when `t1 ≤ t2`: from one nanosecond to the next the formula's time
argument moves by at most one nanosecond, across the joins included -/
theorem velArg_step (mp : MotionProfile F) (t : Int) (h12 : mp.t1 ≤ mp.t2) :
    velArg mp (t + 1) - velArg mp t = 1 ∨ velArg mp (t + 1) - velArg mp t = 0 ∨
    velArg mp (t + 1) - velArg mp t = -1 := by
  unfold velArg
  omega

/-- continuity at `t1`: AT `t1` (constant-velocity piece, or end-acceleration piece when `t1 = t2`) the accessor returns
the initial-acceleration formula evaluated at `t1` — the same term -/
theorem vel_cont_t1 (chk : Bool) (mp : MotionProfile F)
    (h0 : 0 ≤ mp.t1) (h12 : mp.t1 ≤ mp.t2) (h13 : mp.t1 < mp.t3) :
    getVelocity chk mp mp.t1 = velFormula chk mp mp.t1 := by
  rw [vel_tent chk mp _ h0 (by omega), show velArg mp mp.t1 = mp.t1 by unfold velArg; omega]

/-- continuity at `t2`: the end-acceleration formula evaluated at `t = t2` is the constant-velocity value, as the
same term (`t1 + t2 - t2 = t1` in `Int`) -/
theorem vel_cont_t2 (chk : Bool) (mp : MotionProfile F)
    (h0 : 0 ≤ mp.t1) (h12 : mp.t1 ≤ mp.t2) (h23 : mp.t2 < mp.t3) :
    getVelocity chk mp mp.t2 = velFormula chk mp mp.t1 ∧
    (∀ t, getPiece mp t = .constantVelocity → getVelocity chk mp t = velFormula chk mp mp.t1) := by
  refine ⟨?_, fun t ht => ?_⟩
  · rw [vel_tent chk mp _ (by omega) (by omega), show velArg mp mp.t2 = mp.t1 by unfold velArg; omega]
  · rw [getVelocity_eq, ht]; rfl

/-! ### after completion: the end state exactly, whatever the rounding of the times -/
section
variable {F' : Type} [Add F'] [Sub F'] [Mul F'] [Div F'] [Neg F'] [LT F'] [LE F'] [BEq F']
  [DecidableLT F'] [DecidableLE F'] [FloatLike F']

/-- end state at rest (`acceleration == 0`, `velocity == 0`): at and after completion the accessors return the end
position and zero velocity -/
theorem arrival_exact_when_end_at_rest (chk : Bool) (s e : State F') (mv ma : Quantity F') (mp : MotionProfile F')
    (h : MotionProfile.new chk s e mv ma = .ok mp)
    (ha : (e.acceleration == c0) = true) (hv : (e.velocity == c0) = true)
    (t : Int) (hc : getPiece mp t = .complete) :
    getPosition chk mp t = .ok (some ⟨e.position, MILLIMETER chk⟩) ∧
    getVelocity chk mp t = .ok (some ⟨c0, MILLIMETER_PER_SECOND chk⟩) := by
  obtain ⟨-, -, hvel, hpos, -⟩ := C06.new_complete chk s e mv ma mp h t hc
  rw [Command.ofState_rest ha hv] at hvel hpos
  exact ⟨hpos, hvel⟩

/-- end state moving (`acceleration == 0.0`, NOT `velocity == 0.0`): velocity and history are the end velocity, the
mode is `Velocity`, the acceleration the literal `0.0 mm/s²`, and `get_position` is `None`: the code does not
report `end.position` in this case -/
theorem arrival_exact_when_end_velocity (chk : Bool) (s e : State F') (mv ma : Quantity F') (mp : MotionProfile F')
    (h : MotionProfile.new chk s e mv ma = .ok mp)
    (ha : (e.acceleration == c0) = true) (hv : (e.velocity == c0) = false)
    (t : Int) (hc : getPiece mp t = .complete) :
    getVelocity chk mp t = .ok (some ⟨e.velocity, MILLIMETER_PER_SECOND chk⟩) ∧
    historyGet chk mp t = .ok (some ⟨t, .velocity e.velocity⟩) ∧
    getMode mp t = some .velocity ∧
    getPosition chk mp t = .ok none ∧
    getAcceleration chk mp t = some ⟨c0, MILLIMETER_PER_SECOND_SQUARED chk⟩ := by
  have r := C06.new_complete chk s e mv ma mp h t hc
  rw [show Command.ofState e = .velocity e.velocity by simp [Command.ofState, ha, hv]] at r
  obtain ⟨hmode, hacc, hvel, hpos, hhist⟩ := r
  exact ⟨hvel, hhist, hmode, hpos, hacc⟩
end

end S

/-! ### the arithmetic of a signed trapezoid and of a linear function on an interval (variables only) -/
section OrderedField
variable {F : Type} [Field F] [LinearOrder F] [IsStrictOrderedRing F]

def IsSign (σ : F) : Prop := σ = 1 ∨ σ = -1

/-- with `|x| ≤ m`, ramping from `x` to the signed speed `m·σ` at the signed rate `a·σ` takes non-negative time -/
theorem ramp_time_nonneg {σ m a x : F} (hσ : IsSign σ) (ha : 0 ≤ a) (hx : |x| ≤ m) :
    0 ≤ (m * σ - x) / (a * σ) := by
  obtain ⟨l, u⟩ := abs_le.1 hx
  rcases hσ with rfl | rfl
  · rw [mul_one, mul_one]; exact div_nonneg (sub_nonneg.2 u) ha
  · rw [mul_neg_one, mul_neg_one]; exact div_nonneg_of_nonpos (sub_nonpos.2 l) (neg_nonpos.2 ha)

/-- if the two ramps together cover at most `|Δ|` and the direction `σ` is that of `Δ`, what is left of `Δ`, divided by
the signed cruise speed, is non-negative -/
theorem cruise_time_nonneg {σ m Δ d1 d3 : F} (hσΔ : |Δ| = Δ * σ) (hσ : IsSign σ) (hm : 0 ≤ m)
    (hroom : |d1| + |d3| ≤ |Δ|) : 0 ≤ (Δ - (d1 + d3)) / (m * σ) := by
  -- `|d1 + d3| ≤ Δ·σ`, read for `σ = 1` and for `σ = -1`
  obtain ⟨l, u⟩ := abs_le.1 ((abs_add_le d1 d3).trans (hroom.trans hσΔ.le))
  rcases hσ with rfl | rfl
  · rw [mul_one] at u ⊢; exact div_nonneg (sub_nonneg.2 u) hm
  · rw [mul_neg_one, neg_neg] at l; rw [mul_neg_one]
    exact div_nonneg_of_nonpos (sub_nonpos.2 l) (neg_nonpos.2 hm)

omit [LinearOrder F] [IsStrictOrderedRing F] in
/-- ramp up for `t1`, ramp down for `t3 - t2`: the end-acceleration velocity formula reaches `ve` at `t3` -/
theorem ramp_arrival {v0 A V ve t1 t2 t3 : F} (h1 : v0 + A * t1 = V) (h3 : V - A * (t3 - t2) = ve) :
    v0 + A * (t1 + t2 - t3) = ve := by
  rw [← h3, ← h1]; ring

/-- the three trapezoid areas add up to the displacement: the end-acceleration position formula (in the shape
`pos3F_closed` gives it, `-t1 / 2` exact) reaches `p0 + Δ` at `t3 = t1 + d2 + d3` -/
theorem trapezoid_arrival {p0 v0 A V ve Δ t1 d2 d3 : F}
    (h1 : v0 + A * t1 = V) (h3 : V - A * d3 = ve)
    (h2 : V * d2 = Δ - ((v0 + V) / 2 * t1 + (V + ve) / 2 * d3)) :
    p0 + v0 * (t1 + d2 + d3) + A * t1 * (-t1 / 2 + (t1 + d2))
      - A * ((t1 + d2 + d3) - (t1 + d2)) * ((t1 + d2 + d3) - 2 * t1 - (t1 + d2)) / 2 = p0 + Δ := by
  subst h1 h3
  rw [eq_sub_iff_add_eq] at h2
  rw [← h2]; ring

private theorem lin_between (v0 a lo hi x : F) (h1 : lo ≤ x) (h2 : x ≤ hi) :
    min (v0 + a * lo) (v0 + a * hi) ≤ v0 + a * x ∧ v0 + a * x ≤ max (v0 + a * lo) (v0 + a * hi) := by
  rcases le_total 0 a with ha | ha
  · exact ⟨min_le_of_left_le ((add_le_add_iff_left v0).2 (mul_le_mul_of_nonneg_left h1 ha)),
      le_max_of_le_right ((add_le_add_iff_left v0).2 (mul_le_mul_of_nonneg_left h2 ha))⟩
  · exact ⟨min_le_of_right_le ((add_le_add_iff_left v0).2 (mul_le_mul_of_nonpos_left h2 ha)),
      le_max_of_le_left ((add_le_add_iff_left v0).2 (mul_le_mul_of_nonpos_left h1 ha))⟩

private theorem abs_le_of_between {p q x : F} (h1 : min p q ≤ x) (h2 : x ≤ max p q) : |x| ≤ max |p| |q| :=
  (abs_le_max_abs_abs h1 h2).trans (max_le abs_min_le_max_abs_abs abs_max_le_max_abs_abs)

end OrderedField

section R
variable {F : Type} [Field F] [LinearOrder F] [IsStrictOrderedRing F] [FloatLike F] [ExactScalar F]

/-- seconds in `t` nanoseconds: the same function as `Rrtk.sec` (`Lemmas/Exact.lean`), whose algebra is cited below under local names;
likewise `secF` is `secs` -/
def sec (t : Int) : F := (t : F) / 1000000000

theorem secF_eq (t : Int) : (secF t : F) = sec t := secs_eq t
private theorem sec_zero : (sec 0 : F) = 0 := Rrtk.sec_zero
private theorem sec_add (a b : Int) : (sec (a + b) : F) = sec a + sec b := Rrtk.sec_add a b
private theorem sec_sub (a b : Int) : (sec (a - b) : F) = sec a - sec b := Rrtk.sec_sub a b
private theorem sec_mono {a b : Int} (h : a ≤ b) : (sec a : F) ≤ sec b := Rrtk.sec_mono h
/-- for even `t1` the truncating halving is exact -/
theorem sec_half_even (t1 : Int) (h : 2 ∣ t1) : (sec (Int.tdiv (-t1) 2) : F) = - sec t1 / 2 := by
  obtain ⟨k, rfl⟩ := h
  rw [← Int.mul_neg, Int.mul_tdiv_cancel_left _ (by decide), sec, sec, Int.cast_neg, Int.cast_mul, Int.cast_ofNat]
  ring

theorem velF_closed (mp : MotionProfile F) (τ : Int) :
    velF mp τ = mp.startVel.value + mp.maxAcc.value * sec τ := by
  simp only [velF, secF_eq]; ring
theorem pos1F_closed (mp : MotionProfile F) (t : Int) :
    pos1F mp t = mp.startPos.value + mp.startVel.value * sec t + mp.maxAcc.value * sec t ^ 2 / 2 := by
  simp only [pos1F, secF_eq, chalf_eq]; ring
theorem pos2F_closed (mp : MotionProfile F) (t : Int) :
    pos2F mp t = mp.startPos.value + mp.startVel.value * sec t +
      mp.maxAcc.value * sec mp.t1 * (sec (Int.tdiv (-mp.t1) 2) + sec t) := by
  simp only [pos2F, secF_eq, sec_add]; ring
theorem pos3F_closed (mp : MotionProfile F) (t : Int) :
    pos3F mp t = mp.startPos.value + mp.startVel.value * sec t +
      mp.maxAcc.value * sec mp.t1 * (sec (Int.tdiv (-mp.t1) 2) + sec mp.t2) -
      mp.maxAcc.value * (sec t - sec mp.t2) * (sec t - 2 * sec mp.t1 - sec mp.t2) / 2 := by
  simp only [pos3F, secF_eq, sec_add, sec_sub, Int.two_mul, chalf_eq]; ring

/-- the velocity accessor on the whole move: `v₀ + a·τ` at the tent time `τ = velArg t` (seconds) -/
theorem vel_moving (chk : Bool) (mp : MotionProfile F) (hwf : WF chk mp) (t : Int)
    (h0 : 0 ≤ t) (h3 : t < mp.t1 ∨ t < mp.t2 ∨ t < mp.t3) :
    getVelocity chk mp t =
      .ok (some ⟨mp.startVel.value + mp.maxAcc.value * sec (velArg mp t), MILLIMETER_PER_SECOND chk⟩) := by
  rw [vel_tent chk mp t h0 h3, velFormula_wf hwf, velF_closed]

/-- the same piece by piece: `τ = t`, `t1`, `t1 + t2 − t` -/
theorem vel_closed_form (chk : Bool) (mp : MotionProfile F) (hwf : WF chk mp) (t : Int) :
    (getPiece mp t = .initialAcceleration → getVelocity chk mp t =
      .ok (some ⟨mp.startVel.value + mp.maxAcc.value * sec t, MILLIMETER_PER_SECOND chk⟩)) ∧
    (getPiece mp t = .constantVelocity → getVelocity chk mp t =
      .ok (some ⟨mp.startVel.value + mp.maxAcc.value * sec mp.t1, MILLIMETER_PER_SECOND chk⟩)) ∧
    (getPiece mp t = .endAcceleration → getVelocity chk mp t =
      .ok (some ⟨mp.startVel.value + mp.maxAcc.value * (sec mp.t1 + sec mp.t2 - sec t),
        MILLIMETER_PER_SECOND chk⟩)) := by
  rw [getVelocity_wf hwf t]
  unfold velOpt
  refine ⟨fun h => ?_, fun h => ?_, fun h => ?_⟩ <;> simp only [h, velF_closed, sec_add, sec_sub]

/-- the position accessor piece by piece; `sec (−t1 / 2)` keeps the truncating `i64` division explicit -/
theorem pos_closed_form (chk : Bool) (mp : MotionProfile F) (hwf : WF chk mp) (t : Int) :
    (getPiece mp t = .initialAcceleration → getPosition chk mp t =
      .ok (some ⟨mp.startPos.value + mp.startVel.value * sec t + mp.maxAcc.value * sec t ^ 2 / 2,
        MILLIMETER chk⟩)) ∧
    (getPiece mp t = .constantVelocity → getPosition chk mp t =
      .ok (some ⟨mp.startPos.value + mp.startVel.value * sec t +
        mp.maxAcc.value * sec mp.t1 * (sec (Int.tdiv (-mp.t1) 2) + sec t), MILLIMETER chk⟩)) ∧
    (getPiece mp t = .endAcceleration → getPosition chk mp t =
      .ok (some ⟨mp.startPos.value + mp.startVel.value * sec t +
        mp.maxAcc.value * sec mp.t1 * (sec (Int.tdiv (-mp.t1) 2) + sec mp.t2) -
        mp.maxAcc.value * (sec t - sec mp.t2) * (sec t - 2 * sec mp.t1 - sec mp.t2) / 2, MILLIMETER chk⟩)) := by
  rw [getPosition_wf hwf t]
  unfold posOpt
  refine ⟨fun h => ?_, fun h => ?_, fun h => ?_⟩ <;>
    simp only [h, pos1F_closed, pos2F_closed, pos3F_closed]

/-- with an even `t1` the constant-velocity piece is the textbook `p(t1) + v_max·(t − t1)` -/
theorem pos_closed_form_piece2_even (chk : Bool) (mp : MotionProfile F) (hwf : WF chk mp) (t : Int)
    (heven : 2 ∣ mp.t1) (hp : getPiece mp t = .constantVelocity) :
    getPosition chk mp t = .ok (some
      ⟨(mp.startPos.value + mp.startVel.value * sec mp.t1 + mp.maxAcc.value * sec mp.t1 ^ 2 / 2) +
        (mp.startVel.value + mp.maxAcc.value * sec mp.t1) * (sec t - sec mp.t1), MILLIMETER chk⟩) := by
  rw [(pos_closed_form chk mp hwf t).2.1 hp, sec_half_even _ heven]
  congr 3; ring

/-- whichever piece `t = 0` falls in -/
theorem vel_at_zero (chk : Bool) (mp : MotionProfile F) (hwf : WF chk mp)
    (h1 : 0 ≤ mp.t1) (h12 : mp.t1 ≤ mp.t2) (h3 : 0 < mp.t3) :
    getVelocity chk mp 0 = .ok (some mp.startVel) := by
  rw [vel_moving chk mp hwf 0 le_rfl (by omega), show velArg mp 0 = 0 by unfold velArg; omega, sec_zero, mul_zero, add_zero,
    ← hwf.2.1]

theorem pos_at_zero (chk : Bool) (mp : MotionProfile F) (hwf : WF chk mp)
    (h1 : 0 ≤ mp.t1) (h12 : mp.t1 ≤ mp.t2) (h3 : 0 < mp.t3) :
    getPosition chk mp 0 = .ok (some mp.startPos) := by
  have e : mp.startPos = ⟨mp.startPos.value, MILLIMETER chk⟩ := by
    rw [← hwf.1]
  obtain ⟨p1, p2, p3⟩ := pos_closed_form chk mp hwf 0
  -- whichever piece `0` falls in, the joins before it are at `0`, and every term but `p₀` has a factor `sec 0`
  rcases C06.piece_cases mp 0 with
    ⟨hneg, -⟩ | ⟨-, -, hp⟩ | ⟨-, h10, -, hp⟩ | ⟨-, h10, h20, -, hp⟩ | ⟨-, -, -, hc, -⟩
  · omega
  · rw [p1 hp, e]; simp [sec_zero]
  · have a1 : mp.t1 = 0 := by omega
    rw [p2 hp, e, a1]; simp [sec_zero]
  · have a1 : mp.t1 = 0 := by omega
    have a2 : mp.t2 = 0 := by omega
    rw [p3 hp, e, a1, a2]; simp [sec_zero]
  · omega

/-! ### position is the exact integral of the (piecewise linear) velocity -/
/-- initial acceleration: for any two grid times `s`, `t` of the piece, `p(t) − p(s) = (t − s)·(v(s) + v(t))/2`
(trapezoid rule = exact integral of a linear function) -/
theorem pos_integral_piece1 (chk : Bool) (mp : MotionProfile F) (hwf : WF chk mp) (s t : Int)
    (hs : getPiece mp s = .initialAcceleration) (ht : getPiece mp t = .initialAcceleration) :
    ∃ ps pt vs vt : F,
      getPosition chk mp s = .ok (some ⟨ps, MILLIMETER chk⟩) ∧ getPosition chk mp t = .ok (some ⟨pt, MILLIMETER chk⟩) ∧
      getVelocity chk mp s = .ok (some ⟨vs, MILLIMETER_PER_SECOND chk⟩) ∧
      getVelocity chk mp t = .ok (some ⟨vt, MILLIMETER_PER_SECOND chk⟩) ∧
      pt - ps = (sec t - sec s) * (vs + vt) / 2 :=
  ⟨_, _, _, _, (pos_closed_form chk mp hwf s).1 hs, (pos_closed_form chk mp hwf t).1 ht,
    (vel_closed_form chk mp hwf s).1 hs, (vel_closed_form chk mp hwf t).1 ht, by ring⟩

/-- constant velocity: the integer halving `−t1/2` cancels in the difference -/
theorem pos_integral_piece2 (chk : Bool) (mp : MotionProfile F) (hwf : WF chk mp) (s t : Int)
    (hs : getPiece mp s = .constantVelocity) (ht : getPiece mp t = .constantVelocity) :
    ∃ ps pt vs vt : F,
      getPosition chk mp s = .ok (some ⟨ps, MILLIMETER chk⟩) ∧ getPosition chk mp t = .ok (some ⟨pt, MILLIMETER chk⟩) ∧
      getVelocity chk mp s = .ok (some ⟨vs, MILLIMETER_PER_SECOND chk⟩) ∧
      getVelocity chk mp t = .ok (some ⟨vt, MILLIMETER_PER_SECOND chk⟩) ∧
      pt - ps = (sec t - sec s) * (vs + vt) / 2 :=
  ⟨_, _, _, _, (pos_closed_form chk mp hwf s).2.1 hs, (pos_closed_form chk mp hwf t).2.1 ht,
    (vel_closed_form chk mp hwf s).2.1 hs, (vel_closed_form chk mp hwf t).2.1 ht, by ring⟩

theorem pos_integral_piece3 (chk : Bool) (mp : MotionProfile F) (hwf : WF chk mp) (s t : Int)
    (hs : getPiece mp s = .endAcceleration) (ht : getPiece mp t = .endAcceleration) :
    ∃ ps pt vs vt : F,
      getPosition chk mp s = .ok (some ⟨ps, MILLIMETER chk⟩) ∧ getPosition chk mp t = .ok (some ⟨pt, MILLIMETER chk⟩) ∧
      getVelocity chk mp s = .ok (some ⟨vs, MILLIMETER_PER_SECOND chk⟩) ∧
      getVelocity chk mp t = .ok (some ⟨vt, MILLIMETER_PER_SECOND chk⟩) ∧
      pt - ps = (sec t - sec s) * (vs + vt) / 2 :=
  ⟨_, _, _, _, (pos_closed_form chk mp hwf s).2.2 hs, (pos_closed_form chk mp hwf t).2.2 ht,
    (vel_closed_form chk mp hwf s).2.2 hs, (vel_closed_form chk mp hwf t).2.2 ht, by ring⟩

/-! ### continuity of position at the joins -/
/-- at `t2`, unconditionally: the end-acceleration formula at `t = t2` equals the constant-velocity formula at `t2`
(the product term vanishes) -/
theorem pos_cont_t2 (mp : MotionProfile F) : pos3F mp mp.t2 = pos2F mp mp.t2 := by
  rw [pos3F_closed, pos2F_closed]; ring

theorem pos_cont_t2_accessor (chk : Bool) (mp : MotionProfile F) (hwf : WF chk mp)
    (hp : getPiece mp mp.t2 = .endAcceleration) :
    getPosition chk mp mp.t2 = .ok (some ⟨pos2F mp mp.t2, MILLIMETER chk⟩) := by
  rw [getPosition_wf hwf, posOpt, hp, pos_cont_t2]

theorem pos_jump_t1 (mp : MotionProfile F) :
    pos2F mp mp.t1 - pos1F mp mp.t1 =
      mp.maxAcc.value * sec mp.t1 * (sec (Int.tdiv (-mp.t1) 2) + sec mp.t1 / 2) := by
  rw [pos1F_closed, pos2F_closed]; ring

/-- at `t1`: the formulas agree when `t1` is EVEN (then `−t1/2` is exact).
MISSING for the full claim: for odd `t1 > 0` the truncating `i64` division gives `−(t1−1)/2`, and the two formulas
differ by exactly `max_acc · t1 · 0.5 ns` (`pos_jump_t1_odd`), a genuine (tiny) discontinuity of the code. -/
theorem pos_cont_t1_partial (mp : MotionProfile F) (heven : 2 ∣ mp.t1) : pos2F mp mp.t1 = pos1F mp mp.t1 := by
  refine sub_eq_zero.1 ?_
  rw [pos_jump_t1, sec_half_even _ heven]; ring

theorem pos_cont_t1_accessor_partial (chk : Bool) (mp : MotionProfile F) (hwf : WF chk mp) (heven : 2 ∣ mp.t1)
    (hp : getPiece mp mp.t1 = .constantVelocity) :
    getPosition chk mp mp.t1 = .ok (some ⟨pos1F mp mp.t1, MILLIMETER chk⟩) := by
  rw [getPosition_wf hwf, posOpt, hp, pos_cont_t1_partial mp heven]

/-- for odd positive `t1` the jump at `t1` is exactly `a · t1 · (0.5 ns)` -/
theorem pos_jump_t1_odd (mp : MotionProfile F) (hpos : 0 ≤ mp.t1) (hodd : ¬ 2 ∣ mp.t1) :
    pos2F mp mp.t1 - pos1F mp mp.t1 = mp.maxAcc.value * sec mp.t1 * (1 / 2000000000) := by
  rw [pos_jump_t1]
  obtain ⟨k, hk⟩ : ∃ k, mp.t1 = 2 * k + 1 := ⟨mp.t1 / 2, by omega⟩
  have hk0 : 0 ≤ k := by omega
  have : Int.tdiv (-mp.t1) 2 = -k := by
    rw [hk, Int.neg_tdiv, Int.tdiv_eq_ediv_of_nonneg (by omega)]
    omega
  rw [this, hk]
  simp only [sec]; push_cast; ring

/-! ### the velocity never leaves the hull of its corner values -/
/-- with ordered times: on pieces 1–2 `|v(t)| ≤ max |v₀| |v₀ + a·t1|`; on piece 3 `v(t)` lies between
`v₀ + a·t1` (the cruise velocity) and `v₀ + a·(t1 + t2 − t3)` (the value the formula reaches at `t3`) -/
theorem vel_bound (chk : Bool) (mp : MotionProfile F) (hwf : WF chk mp)
    (hord : 0 ≤ mp.t1 ∧ mp.t1 ≤ mp.t2 ∧ mp.t2 ≤ mp.t3) (t : Int) (ht0 : 0 ≤ t) (ht3 : t < mp.t3) :
    ∃ v : F, getVelocity chk mp t = .ok (some ⟨v, MILLIMETER_PER_SECOND chk⟩) ∧
      (t < mp.t2 → |v| ≤ max |mp.startVel.value| |mp.startVel.value + mp.maxAcc.value * sec mp.t1|) ∧
      (mp.t2 ≤ t →
        min (mp.startVel.value + mp.maxAcc.value * sec mp.t1)
            (mp.startVel.value + mp.maxAcc.value * sec (mp.t1 + mp.t2 - mp.t3)) ≤ v ∧
        v ≤ max (mp.startVel.value + mp.maxAcc.value * sec mp.t1)
            (mp.startVel.value + mp.maxAcc.value * sec (mp.t1 + mp.t2 - mp.t3))) := by
  refine ⟨_, vel_moving chk mp hwf t ht0 (.inr (.inr ht3)), fun h => ?_, fun h => ?_⟩
  · -- before `t2` the tent time is in `[0, t1]`
    have b := lin_between mp.startVel.value mp.maxAcc.value (sec 0) (sec mp.t1) (sec (velArg mp t))
      (sec_mono (by unfold velArg; omega)) (sec_mono (by unfold velArg; omega))
    rw [sec_zero, mul_zero, add_zero] at b
    exact abs_le_of_between b.1 b.2
  · -- from `t2` on it comes down from `t1` to `t1 + t2 − t3`
    have b := lin_between mp.startVel.value mp.maxAcc.value (sec (mp.t1 + mp.t2 - mp.t3)) (sec mp.t1)
      (sec (velArg mp t)) (sec_mono (by unfold velArg; omega)) (sec_mono (by unfold velArg; omega))
    rwa [min_comm, max_comm] at b

theorem vel_bound_abs (chk : Bool) (mp : MotionProfile F) (hwf : WF chk mp)
    (hord : 0 ≤ mp.t1 ∧ mp.t1 ≤ mp.t2 ∧ mp.t2 ≤ mp.t3) (t : Int) (ht0 : 0 ≤ t) (ht3 : t < mp.t3) :
    ∃ v : F, getVelocity chk mp t = .ok (some ⟨v, MILLIMETER_PER_SECOND chk⟩) ∧
      |v| ≤ max (max |mp.startVel.value| |mp.startVel.value + mp.maxAcc.value * sec mp.t1|)
        |mp.startVel.value + mp.maxAcc.value * sec (mp.t1 + mp.t2 - mp.t3)| := by
  obtain ⟨v, hv, b12, b3⟩ := vel_bound chk mp hwf hord t ht0 ht3
  refine ⟨v, hv, ?_⟩
  rcases lt_or_ge t mp.t2 with h | h
  · exact (b12 h).trans (le_max_left _ _)
  · obtain ⟨l, u⟩ := b3 h
    exact (abs_le_of_between l u).trans (max_le_max (le_max_right _ _) (le_refl _))

/-! ### the constructor's signed quantities and three durations -/
theorem sgn_cases (s e : State F) :
    (e.position < s.position ∧ sgn s e = -1) ∨ (¬ e.position < s.position ∧ sgn s e = 1) := by
  unfold sgn
  by_cases h : e.position < s.position <;> simp [h]

theorem sgn_isSign (s e : State F) : IsSign (sgn s e) :=
  (sgn_cases s e).elim (fun h => .inr h.2) (fun h => .inl h.2)

/-- the direction `new` picks is that of the displacement (`+` when the displacement is zero) -/
theorem abs_disp_eq (s e : State F) : |e.position - s.position| = (e.position - s.position) * sgn s e := by
  rcases sgn_cases s e with ⟨h, hs⟩ | ⟨h, hs⟩ <;> rw [hs]
  · rw [abs_of_neg (sub_neg.2 h), mul_neg_one]
  · rw [abs_of_nonneg (sub_nonneg.2 (not_lt.1 h)), mul_one]

theorem sgn_ne_zero (s e : State F) : sgn s e ≠ 0 := by
  rcases sgn_isSign s e with h | h <;> rw [h] <;> norm_num
/-- `vMax` and `aMax` are the same function of the limit: `|x|` with the sign of the displacement -/
theorem signed_ne_zero (s e : State F) {x : F} (h : x ≠ 0) : FloatLike.absF x * sgn s e ≠ 0 := by
  rw [ExactScalar.absF_eq]; exact mul_ne_zero (abs_ne_zero.2 h) (sgn_ne_zero s e)
theorem aMax_ne_zero (s e : State F) {ma : F} (h : ma ≠ 0) : aMax s e ma ≠ 0 := signed_ne_zero s e h
theorem vMax_ne_zero (s e : State F) {mv : F} (h : mv ≠ 0) : vMax s e mv ≠ 0 := signed_ne_zero s e h
theorem abs_vMax (s e : State F) (mv : F) : |vMax s e mv| = |mv| := by
  rw [vMax, ExactScalar.absF_eq, abs_mul, abs_abs]
  rcases sgn_isSign s e with h | h <;> rw [h] <;> simp

theorem T1_nonneg {s e : State F} {mv ma : F} (hv0 : |s.velocity| ≤ |mv|) : 0 ≤ T1 s e mv ma := by
  simp only [T1, vMax, aMax, ExactScalar.absF_eq]
  exact ramp_time_nonneg (sgn_isSign s e) (abs_nonneg ma) hv0

theorem D3_nonneg {s e : State F} {mv ma : F} (hve : |e.velocity| ≤ |mv|) : 0 ≤ D3 s e mv ma := by
  simp only [D3, vMax, aMax, ExactScalar.absF_eq]
  rw [← neg_div_neg_eq, neg_neg, neg_sub]
  exact ramp_time_nonneg (sgn_isSign s e) (abs_nonneg ma) hve

theorem D2_nonneg {s e : State F} {mv ma : F}
    (hroom : |(s.velocity + vMax s e mv) / 2 * T1 s e mv ma| + |(vMax s e mv + e.velocity) / 2 * D3 s e mv ma|
      ≤ |e.position - s.position|) : 0 ≤ D2 s e mv ma := by
  have h := cruise_time_nonneg (m := |mv|) (abs_disp_eq s e) (sgn_isSign s e) (abs_nonneg mv) hroom
  -- back to the constructor's spelling `absF`, `c2`: this is `D2` unfolded
  rwa [← ExactScalar.absF_eq, ← c2_eq] at h

theorem T1_spec (s e : State F) (mv : F) {ma : F} (hma : ma ≠ 0) :
    s.velocity + aMax s e ma * T1 s e mv ma = vMax s e mv := by
  rw [T1, mul_div_cancel₀ _ (aMax_ne_zero s e hma)]; ring

theorem D3_spec (s e : State F) (mv : F) {ma : F} (hma : ma ≠ 0) :
    vMax s e mv - aMax s e ma * D3 s e mv ma = e.velocity := by
  rw [D3, div_neg, mul_neg, mul_div_cancel₀ _ (aMax_ne_zero s e hma)]; ring

theorem D2_spec (s e : State F) {mv : F} (ma : F) (hmv : mv ≠ 0) :
    vMax s e mv * D2 s e mv ma = (e.position - s.position) -
      ((s.velocity + vMax s e mv) / 2 * T1 s e mv ma + (vMax s e mv + e.velocity) / 2 * D3 s e mv ma) := by
  rw [D2, mul_div_cancel₀ _ (vMax_ne_zero s e hmv), c2_eq]

/-! ### arrival at the end state -/
/-- **arrival, velocity.** Full claim: `v(t3⁻) = v_end`. Proved under the hypothesis that the stored integer
nanosecond times reproduce the real-valued durations exactly: `sec t1 = T1` and `sec t3 − sec t2 = D3`
(`T1 = (v_max − v₀)/a`, `D3 = (v_end − v_max)/(−a)` with the signed `v_max`, `a` that `new` computes), and `max_acc ≠ 0`.
MISSING: `t1..t3` are truncated to whole ns by `as i64`, so in general the equality holds only up to
`|a|·1 ns` (plus binary32 rounding); that error bound is tested, not proved. -/
theorem arrival_vel_partial (chk : Bool) (s e : State F) (mv ma : Quantity F) (mp : MotionProfile F)
    (h : MotionProfile.new chk s e mv ma = .ok mp) (hma : ma.value ≠ 0)
    (hex1 : (sec mp.t1 : F) = T1 s e mv.value ma.value)
    (hex3 : (sec mp.t3 : F) - sec mp.t2 = D3 s e mv.value ma.value) :
    velF mp (mp.t1 + mp.t2 - mp.t3) = e.velocity := by
  obtain ⟨-, -, -, rfl⟩ := new_ok h
  rw [velF_closed, sec_sub, sec_add]
  exact ramp_arrival (hex1 ▸ T1_spec s e mv.value hma) (hex3 ▸ D3_spec s e mv.value hma)

/-- **arrival, position.** Full claim: `p(t3⁻) = p_end`. Proved under: `sec t1 = T1`, `sec t2 = T2`, `sec t3 = T3`
(stored times are the exact real instants), `t1` even (so the integer halving is exact), `max_vel ≠ 0`, `max_acc ≠ 0`.
MISSING: truncation to ns / the odd-`t1` half-nanosecond / binary32 rounding (tested, not proved). -/
theorem arrival_pos_partial (chk : Bool) (s e : State F) (mv ma : Quantity F) (mp : MotionProfile F)
    (h : MotionProfile.new chk s e mv ma = .ok mp) (hmv : mv.value ≠ 0) (hma : ma.value ≠ 0)
    (heven : 2 ∣ mp.t1)
    (hex1 : (sec mp.t1 : F) = T1 s e mv.value ma.value)
    (hex2 : (sec mp.t2 : F) = T2 s e mv.value ma.value)
    (hex3 : (sec mp.t3 : F) = T3 s e mv.value ma.value) :
    pos3F mp mp.t3 = e.position := by
  obtain ⟨-, -, -, rfl⟩ := new_ok h
  rw [pos3F_closed, sec_half_even _ heven, hex1, hex2, hex3, T3, T2]
  exact (trapezoid_arrival (T1_spec s e _ hma) (D3_spec s e _ hma) (D2_spec s e _ hmv)).trans (add_sub_cancel _ _)

/-- **speed limit.** Full claim: during the move `|v(t)| ≤ max(|v₀|, |max_vel|, |v_end|)`. Proved under ordered times and
the same exactness hypotheses as `arrival_vel_partial` (then the corner values of `vel_bound` are exactly `v₀`,
`±|max_vel|`, `v_end`). MISSING: truncation of the times to ns and binary32 rounding. -/
theorem vel_bound_limits_partial (chk : Bool) (s e : State F) (mv ma : Quantity F) (mp : MotionProfile F)
    (h : MotionProfile.new chk s e mv ma = .ok mp) (hma : ma.value ≠ 0)
    (hord : 0 ≤ mp.t1 ∧ mp.t1 ≤ mp.t2 ∧ mp.t2 ≤ mp.t3)
    (hex1 : (sec mp.t1 : F) = T1 s e mv.value ma.value)
    (hex3 : (sec mp.t3 : F) - sec mp.t2 = D3 s e mv.value ma.value)
    (t : Int) (ht0 : 0 ≤ t) (ht3 : t < mp.t3) :
    ∃ v : F, getVelocity chk mp t = .ok (some ⟨v, MILLIMETER_PER_SECOND chk⟩) ∧
      |v| ≤ max (max |s.velocity| |mv.value|) |e.velocity| := by
  obtain ⟨v, hv, hb⟩ := vel_bound_abs chk mp (C06.new_wf chk s e mv ma mp h) hord t ht0 ht3
  refine ⟨v, hv, ?_⟩
  -- the corner values of `vel_bound_abs` are `v₀`, the signed `max_vel`, and `v_end`
  have hend := arrival_vel_partial chk s e mv ma mp h hma hex1 hex3
  rw [velF_closed] at hend
  obtain ⟨-, -, -, rfl⟩ := new_ok h
  rwa [hend, newResult_startVel_value, newResult_maxAcc_value, hex1, T1_spec s e mv.value hma, abs_vMax] at hb

/-- **a move with room is accepted.** With `max_vel ≠ 0`, `max_acc ≠ 0`, start and end speeds within `|max_vel|`, and
`|Δp| ≥ |d_acc| + |d_dec|` (the acceleration and deceleration distances exactly as `new` computes them, signs
included), none of the three asserts fires: the value-level constructor returns, and so does `new` itself without
dimension checking (any units) and with dimension checking for limits in mm/s and mm/s².
Why `hmv`: at `mv = 0` the statement would hold in a field only because `x / 0 = 0` there (`d_t2 = … / max_vel`), whereas the
Rust computes `0.0 / 0.0 = NaN` and the third assert panics.  With `hmv` and `hma` the two divisors of the constructor are
non-zero (first conjunct), so every division in it is a genuine one. -/
theorem accepted_when_room (s e : State F) (mv ma : F) (hmv : mv ≠ 0) (hma : ma ≠ 0)
    (hv0 : |s.velocity| ≤ |mv|) (hve : |e.velocity| ≤ |mv|)
    (hroom : |(s.velocity + vMax s e mv) / 2 * T1 s e mv ma| + |(vMax s e mv + e.velocity) / 2 * D3 s e mv ma|
      ≤ |e.position - s.position|) :
    (vMax s e mv ≠ 0 ∧ aMax s e ma ≠ 0) ∧
    ((0 : F) ≤ T1 s e mv ma ∧ (0 : F) ≤ D3 s e mv ma ∧ (0 : F) ≤ D2 s e mv ma) ∧
    (∀ chk, newSpec chk s e mv ma = .ok (newResult chk s e mv ma)) ∧
    (∀ u u' : DUnit, MotionProfile.new false s e ⟨mv, u⟩ ⟨ma, u'⟩ = .ok (newResult false s e mv ma)) ∧
    MotionProfile.new true s e ⟨mv, ⟨1, -1⟩⟩ ⟨ma, ⟨1, -2⟩⟩ = .ok (newResult true s e mv ma) := by
  have k1 : 0 ≤ T1 s e mv ma := T1_nonneg hv0
  have k3 : 0 ≤ D3 s e mv ma := D3_nonneg hve
  have k2 : 0 ≤ D2 s e mv ma := D2_nonneg hroom
  have hspec chk : newSpec chk s e mv ma = .ok (newResult chk s e mv ma) :=
    newSpec_of_nonneg chk (by rwa [c0_eq]) (by rwa [c0_eq]) (by rwa [c0_eq])
  exact ⟨⟨vMax_ne_zero s e hmv, aMax_ne_zero s e hma⟩, ⟨k1, k3, k2⟩, hspec,
    fun _ _ => (new_false ..).trans (hspec false), (new_true_good ..).trans (hspec true)⟩

end R

/-! ## mirror symmetry, tier L: from named laws of negation -/
section L
variable {F : Type} [Add F] [Sub F] [Mul F] [Div F] [Neg F] [LT F] [LE F] [BEq F]
  [DecidableLT F] [DecidableLE F] [FloatLike F]

/-- the laws of the scalar type the mirror theorem uses: negation commutes with every operation of the constructor and
of the accessors.  All hold in every ordered field (`negLaws_exact`) and for the binary32 numbers `SF`
(`negLaws_binary32`); in the hardware format `neg_c0`, and `neg_add`/`neg_sub` at an exactly cancelling sum, hold up to
the sign of the zero result (`-0.0 == 0.0`), the others bit for bit on non-NaN operands. -/
structure NegLaws (F : Type) [Add F] [Sub F] [Mul F] [Div F] [Neg F] [LT F] [BEq F] [FloatLike F] : Prop where
  neg_add : ∀ a b : F, -a + -b = -(a + b)
  neg_sub : ∀ a b : F, -a - -b = -(a - b)
  neg_mul : ∀ a b : F, -a * b = -(a * b)
  mul_neg : ∀ a b : F, a * -b = -(a * b)
  neg_div : ∀ a b : F, -a / b = -(a / b)
  div_neg : ∀ a b : F, a / -b = -(a / b)
  neg_neg : ∀ a : F, - -a = a
  neg_c0 : -(c0 : F) = c0
  neg_c1 : -(c1 : F) = cm1
  neg_lt_neg : ∀ a b : F, -a < -b ↔ b < a
  lt_asymm : ∀ a b : F, a < b → ¬ b < a
  neg_beq_neg : ∀ a b : F, (-a == -b) = (a == b)

/-- the mirrored profile: positions, velocities and accelerations negated, times kept -/
def mirrorProfile (mp : MotionProfile F) : MotionProfile F :=
  ⟨Quantity.neg mp.startPos, Quantity.neg mp.startVel, mp.t1, mp.t2, mp.t3, Quantity.neg mp.maxAcc,
    Command.neg mp.endCommand⟩

/-- what "negates every output" means: `mp'` answers every accessor, at every time, with the negation of what `mp`
answers — same piece, same mode, same panic if any, same time stamp -/
def Mirrored (chk : Bool) (mp mp' : MotionProfile F) : Prop :=
  mp'.t1 = mp.t1 ∧ mp'.t2 = mp.t2 ∧ mp'.t3 = mp.t3 ∧
  ∀ t : Int,
    getPiece mp' t = getPiece mp t ∧
    getMode mp' t = getMode mp t ∧
    getAcceleration chk mp' t = (getAcceleration chk mp t).map Quantity.neg ∧
    getVelocity chk mp' t = (getVelocity chk mp t).map (Option.map Quantity.neg) ∧
    getPosition chk mp' t = (getPosition chk mp t).map (Option.map Quantity.neg) ∧
    historyGet chk mp' t = (historyGet chk mp t).map (Option.map (fun d => ⟨d.time, Command.neg d.value⟩))

theorem sgn_neg_of_laws (L : NegLaws F) (s e : State F)
    (hord : s.position < e.position ∨ e.position < s.position) :
    sgn (State.neg s) (State.neg e) = - sgn s e := by
  simp only [sgn, State.neg, L.neg_lt_neg]
  rcases hord with h | h
  · have h' : ¬ e.position < s.position := L.lt_asymm _ _ h
    simp only [h, h', if_true, if_false]
    exact L.neg_c1.symm
  · have h' : ¬ s.position < e.position := L.lt_asymm _ _ h
    simp only [h, h', if_true, if_false]
    rw [← L.neg_c1, L.neg_neg]

private theorem vMax_negL (L : NegLaws F) (s e : State F) (mv : F)
    (hord : s.position < e.position ∨ e.position < s.position) :
    vMax (State.neg s) (State.neg e) mv = - vMax s e mv := by
  simp only [vMax, sgn_neg_of_laws L s e hord, L.mul_neg]
private theorem aMax_negL (L : NegLaws F) (s e : State F) (ma : F)
    (hord : s.position < e.position ∨ e.position < s.position) :
    aMax (State.neg s) (State.neg e) ma = - aMax s e ma :=
  vMax_negL L s e ma hord
private theorem T1_negL (L : NegLaws F) (s e : State F) (mv ma : F)
    (hord : s.position < e.position ∨ e.position < s.position) :
    T1 (State.neg s) (State.neg e) mv ma = T1 s e mv ma := by
  simp only [T1, vMax_negL L s e mv hord, aMax_negL L s e ma hord]
  simp only [State.neg, L.neg_sub, L.neg_div, L.div_neg, L.neg_neg]
private theorem D3_negL (L : NegLaws F) (s e : State F) (mv ma : F)
    (hord : s.position < e.position ∨ e.position < s.position) :
    D3 (State.neg s) (State.neg e) mv ma = D3 s e mv ma := by
  simp only [D3, vMax_negL L s e mv hord, aMax_negL L s e ma hord]
  simp only [State.neg, L.neg_sub, L.neg_div, L.div_neg, L.neg_neg]
private theorem D2_negL (L : NegLaws F) (s e : State F) (mv ma : F)
    (hord : s.position < e.position ∨ e.position < s.position) :
    D2 (State.neg s) (State.neg e) mv ma = D2 s e mv ma := by
  simp only [D2, T1_negL L s e mv ma hord, D3_negL L s e mv ma hord, vMax_negL L s e mv hord]
  simp only [State.neg, L.neg_sub, L.neg_add, L.neg_div, L.neg_mul, L.div_neg, L.neg_neg]

/-- `Command::from(-state) = -Command::from(state)`: the `== 0.0` tests do not see the sign -/
theorem ofState_neg_of_laws (L : NegLaws F) (e : State F) :
    Command.ofState (State.neg e) = Command.neg (Command.ofState e) := by
  have hb : ∀ a : F, (-a == (c0 : F)) = (a == (c0 : F)) := fun a => by
    have := L.neg_beq_neg a c0
    rwa [L.neg_c0] at this
  simp only [Command.ofState, State.neg, hb]
  cases (e.acceleration == (c0 : F)) <;> cases (e.velocity == (c0 : F)) <;> rfl

theorem newResult_neg_of_laws (L : NegLaws F) (chk : Bool) (s e : State F) (mv ma : F)
    (hord : s.position < e.position ∨ e.position < s.position) :
    newResult chk (State.neg s) (State.neg e) mv ma = mirrorProfile (newResult chk s e mv ma) := by
  simp only [newResult, mirrorProfile, T2, T3, T1_negL L s e mv ma hord, D3_negL L s e mv ma hord,
    D2_negL L s e mv ma hord, aMax_negL L s e ma hord, ofState_neg_of_laws L]
  rfl

theorem newSpec_neg_of_laws (L : NegLaws F) (chk : Bool) (s e : State F) (mv ma : F)
    (hord : s.position < e.position ∨ e.position < s.position) :
    newSpec chk (State.neg s) (State.neg e) mv ma = (newSpec chk s e mv ma).map mirrorProfile := by
  unfold newSpec
  rw [T1_negL L s e mv ma hord, D3_negL L s e mv ma hord, D2_negL L s e mv ma hord,
    newResult_neg_of_laws L chk s e mv ma hord]
  -- the same three asserts on both sides; `map` goes through them
  rw [apply_ite (Except.map mirrorProfile), apply_ite (Except.map mirrorProfile), apply_ite (Except.map mirrorProfile)]
  rfl

theorem mirror_new_of_laws (L : NegLaws F) (chk : Bool) (s e : State F) (mv ma : Quantity F) (mp : MotionProfile F)
    (hord : s.position < e.position ∨ e.position < s.position)
    (h : MotionProfile.new chk s e mv ma = .ok mp) :
    MotionProfile.new chk (State.neg s) (State.neg e) mv ma = .ok (mirrorProfile mp) := by
  have hu := goodLimits_of_ok h
  rw [new_eq_newSpec hu, newSpec_neg_of_laws L chk s e _ _ hord, ← new_eq_newSpec hu, h]
  rfl

/-- without dimension checking the panics coincide too: the mirrored constructor fails the same assert -/
theorem mirror_new_false_of_laws (L : NegLaws F) (s e : State F) (mv ma : Quantity F)
    (hord : s.position < e.position ∨ e.position < s.position) :
    MotionProfile.new false (State.neg s) (State.neg e) mv ma =
      (MotionProfile.new false s e mv ma).map mirrorProfile := by
  rw [new_false, new_false, newSpec_neg_of_laws L false s e _ _ hord]

/-- the SIGN of the two limits is irrelevant (`new` takes their `abs` first), given `abs (-x) = abs x` -/
theorem new_neg_limits (habs : ∀ x : F, FloatLike.absF (-x) = FloatLike.absF x)
    (chk : Bool) (s e : State F) (mv ma : Quantity F) :
    MotionProfile.new chk s e (Quantity.neg mv) (Quantity.neg ma) = MotionProfile.new chk s e mv ma := by
  have h1 : (Quantity.neg mv).abs = mv.abs := by simp only [Quantity.abs, Quantity.neg, habs]
  have h2 : (Quantity.neg ma).abs = ma.abs := by simp only [Quantity.abs, Quantity.neg, habs]
  unfold MotionProfile.new
  rw [h1, h2]

theorem mirrorProfile_wf (chk : Bool) (mp : MotionProfile F) (hwf : WF chk mp) : WF chk (mirrorProfile mp) := hwf
theorem mirrorProfile_piece (mp : MotionProfile F) (t : Int) : getPiece (mirrorProfile mp) t = getPiece mp t := rfl
theorem mirrorProfile_mode (mp : MotionProfile F) (t : Int) : getMode (mirrorProfile mp) t = getMode mp t := by
  have : (Command.neg mp.endCommand).kind = mp.endCommand.kind := by cases mp.endCommand <;> rfl
  simp only [getMode, mirrorProfile, this]

private theorem velF_negL (L : NegLaws F) (mp : MotionProfile F) (τ : Int) :
    velF (mirrorProfile mp) τ = - velF mp τ := by
  simp only [velF, mirrorProfile, Quantity.neg, L.neg_mul, L.neg_add]
private theorem pos1F_negL (L : NegLaws F) (mp : MotionProfile F) (t : Int) :
    pos1F (mirrorProfile mp) t = - pos1F mp t := by
  simp only [pos1F, mirrorProfile, Quantity.neg, L.mul_neg, L.neg_mul, L.neg_add]
private theorem pos2F_negL (L : NegLaws F) (mp : MotionProfile F) (t : Int) :
    pos2F (mirrorProfile mp) t = - pos2F mp t := by
  simp only [pos2F, mirrorProfile, Quantity.neg, L.neg_mul, L.neg_add]
private theorem pos3F_negL (L : NegLaws F) (mp : MotionProfile F) (t : Int) :
    pos3F (mirrorProfile mp) t = - pos3F mp t := by
  simp only [pos3F, mirrorProfile, Quantity.neg, L.mul_neg, L.neg_mul, L.neg_sub, L.neg_add]

/-- acceleration accessor, ANY profile value (uses only `-0.0 = 0.0`, for the literal of the constant-velocity piece and
of a non-acceleration end command) -/
theorem mirror_acceleration_of_laws (L : NegLaws F) (chk : Bool) (mp : MotionProfile F) (t : Int) :
    getAcceleration chk (mirrorProfile mp) t = (getAcceleration chk mp t).map Quantity.neg := by
  have hz : (⟨c0, MILLIMETER_PER_SECOND_SQUARED chk⟩ : Quantity F) =
      Quantity.neg ⟨c0, MILLIMETER_PER_SECOND_SQUARED chk⟩ := by
    simp only [Quantity.neg, L.neg_c0]
  have hc : (Command.neg mp.endCommand).getAcceleration chk = Quantity.neg (mp.endCommand.getAcceleration chk) := by
    cases mp.endCommand
    · exact hz
    · exact hz
    · rfl
  rw [getAcceleration_eq, getAcceleration_eq, mirrorProfile_piece]
  cases getPiece mp t
  case constantVelocity => exact congrArg some hz
  case complete => exact congrArg some hc
  all_goals rfl

private theorem endcmd_vel_negL (L : NegLaws F) (chk : Bool) (c : Command F) :
    (Command.neg c).getVelocity chk = (c.getVelocity chk).map Quantity.neg := by
  cases c
  · simp only [Command.neg, Command.getVelocity, Option.map, Quantity.neg, L.neg_c0]
  · rfl
  · rfl
private theorem endcmd_pos_negL (chk : Bool) (c : Command F) :
    (Command.neg c).getPosition chk = (c.getPosition chk).map Quantity.neg := by
  cases c <;> rfl

theorem mirror_velocity_of_laws (L : NegLaws F) (chk : Bool) (mp : MotionProfile F) (hwf : WF chk mp) (t : Int) :
    getVelocity chk (mirrorProfile mp) t = (getVelocity chk mp t).map (Option.map Quantity.neg) := by
  rw [getVelocity_wf (mirrorProfile_wf chk mp hwf), getVelocity_wf hwf]
  simp only [velOpt, mirrorProfile_piece, velF_negL L]
  have hc : (mirrorProfile mp).endCommand.getVelocity chk = (mp.endCommand.getVelocity chk).map Quantity.neg :=
    endcmd_vel_negL L chk mp.endCommand
  cases getPiece mp t
  case complete => simp only [hc]; rfl
  all_goals rfl

theorem mirror_position_of_laws (L : NegLaws F) (chk : Bool) (mp : MotionProfile F) (hwf : WF chk mp) (t : Int) :
    getPosition chk (mirrorProfile mp) t = (getPosition chk mp t).map (Option.map Quantity.neg) := by
  rw [getPosition_wf (mirrorProfile_wf chk mp hwf), getPosition_wf hwf]
  simp only [posOpt, mirrorProfile_piece, pos1F_negL L, pos2F_negL L, pos3F_negL L]
  have hc : (mirrorProfile mp).endCommand.getPosition chk = (mp.endCommand.getPosition chk).map Quantity.neg :=
    endcmd_pos_negL chk mp.endCommand
  cases getPiece mp t
  case complete => simp only [hc]; rfl
  all_goals rfl

theorem mirror_history_of_laws (L : NegLaws F) (chk : Bool) (mp : MotionProfile F) (hwf : WF chk mp) (t : Int) :
    historyGet chk (mirrorProfile mp) t =
      (historyGet chk mp t).map (Option.map (fun d => ⟨d.time, Command.neg d.value⟩)) := by
  rw [C06.history_wf chk _ (mirrorProfile_wf chk mp hwf), C06.history_wf chk mp hwf]
  simp only [mirrorProfile_piece, velF_negL L]
  cases getPiece mp t <;> rfl

theorem mirrored_mirrorProfile (L : NegLaws F) (chk : Bool) (mp : MotionProfile F) (hwf : WF chk mp) :
    Mirrored chk mp (mirrorProfile mp) :=
  ⟨rfl, rfl, rfl, fun t => ⟨mirrorProfile_piece mp t, mirrorProfile_mode mp t, mirror_acceleration_of_laws L chk mp t,
    mirror_velocity_of_laws L chk mp hwf t, mirror_position_of_laws L chk mp hwf t,
    mirror_history_of_laws L chk mp hwf t⟩⟩

/-- **mirror symmetry, tier L.**  If `new` accepts a move whose start and end positions are strictly ordered, it accepts the
move with both states negated (same limits), and the profile it returns has the same `t1, t2, t3` and answers `get_piece`,
`get_mode` identically and `get_acceleration`, `get_velocity`, `get_position`, `History::get` with the exact negation, at
every time `t` (before the start and after completion included).
NOT covered: `start.position == end.position` (or unordered: NaN), where the statement is false of the code
(`mirror_fails_at_equal_positions`). -/
theorem mirror_of_laws (L : NegLaws F) (chk : Bool) (s e : State F) (mv ma : Quantity F) (mp : MotionProfile F)
    (hord : s.position < e.position ∨ e.position < s.position)
    (h : MotionProfile.new chk s e mv ma = .ok mp) :
    ∃ mp', MotionProfile.new chk (State.neg s) (State.neg e) mv ma = .ok mp' ∧ mp' = mirrorProfile mp ∧
      Mirrored chk mp mp' :=
  ⟨mirrorProfile mp, mirror_new_of_laws L chk s e mv ma mp hord h, rfl,
    mirrored_mirrorProfile L chk mp (C06.new_wf chk s e mv ma mp h)⟩

/-- the same with the two limits negated as well ("negating ALL velocities"), given additionally `abs (-x) = abs x`:
the constructor does not see the sign of the limits -/
theorem mirror_of_laws_neg_limits (L : NegLaws F) (habs : ∀ x : F, FloatLike.absF (-x) = FloatLike.absF x)
    (chk : Bool) (s e : State F) (mv ma : Quantity F) (mp : MotionProfile F)
    (hord : s.position < e.position ∨ e.position < s.position)
    (h : MotionProfile.new chk s e mv ma = .ok mp) :
    ∃ mp', MotionProfile.new chk (State.neg s) (State.neg e) (Quantity.neg mv) (Quantity.neg ma) = .ok mp' ∧
      mp' = mirrorProfile mp ∧ Mirrored chk mp mp' := by
  rw [new_neg_limits habs]
  exact mirror_of_laws L chk s e mv ma mp hord h

end L

/-! ## mirror symmetry, tier R: an ordered field satisfies the laws -/
section R
variable {F : Type} [Field F] [LinearOrder F] [IsStrictOrderedRing F] [FloatLike F] [ExactScalar F]

theorem negLaws_exact : NegLaws F where
  neg_add a b := by ring
  neg_sub a b := by ring
  neg_mul a b := by ring
  mul_neg a b := by ring
  neg_div a b := neg_div b a
  div_neg a b := div_neg a
  neg_neg a := neg_neg a
  neg_c0 := by simp only [c0_eq, neg_zero]
  neg_c1 := by simp only [c1_eq, cm1_eq]
  neg_lt_neg a b := neg_lt_neg_iff
  lt_asymm a b h := lt_asymm h
  neg_beq_neg a b := by simp

/-- the same function as `mirrorProfile` (`mirrorProfile_eq_negProfile`), the name in the tier-R statements -/
def negProfile (mp : MotionProfile F) : MotionProfile F :=
  ⟨Quantity.neg mp.startPos, Quantity.neg mp.startVel, mp.t1, mp.t2, mp.t3, Quantity.neg mp.maxAcc,
    Command.neg mp.endCommand⟩

theorem mirrorProfile_eq_negProfile (mp : MotionProfile F) : mirrorProfile mp = negProfile mp := rfl

/-- **mirror symmetry of the constructor**, for `start.position ≠ end.position`: negating both states yields the
profile with the same `t1, t2, t3` and negated `start_pos`, `start_vel`, `max_acc`, end command; without dimension
checking even the panics coincide.
MISSING for the full claim ("negating all positions and velocities negates every output"): the case
`start.position = end.position`, where the claim is FALSE for the code (`mirror_fails_at_equal_positions`): `sign` is
`+1` for a move and for its mirror. -/
theorem mirror_partial (chk : Bool) (s e : State F) (mv ma : Quantity F) (mp : MotionProfile F)
    (hne : s.position ≠ e.position) (h : MotionProfile.new chk s e mv ma = .ok mp) :
    MotionProfile.new chk (State.neg s) (State.neg e) mv ma = .ok (negProfile mp) :=
  mirror_new_of_laws negLaws_exact chk s e mv ma mp (lt_or_gt_of_ne hne) h

theorem mirror_false_partial (s e : State F) (mv ma : Quantity F) (hne : s.position ≠ e.position) :
    MotionProfile.new false (State.neg s) (State.neg e) mv ma =
      (MotionProfile.new false s e mv ma).map negProfile :=
  mirror_new_false_of_laws negLaws_exact s e mv ma (lt_or_gt_of_ne hne)

/-! #### every accessor of the mirrored profile is the negation -/
theorem negProfile_piece (mp : MotionProfile F) (t : Int) : getPiece (negProfile mp) t = getPiece mp t := rfl
theorem negProfile_mode (mp : MotionProfile F) (t : Int) : getMode (negProfile mp) t = getMode mp t :=
  mirrorProfile_mode mp t

theorem mirror_acceleration (chk : Bool) (mp : MotionProfile F) (t : Int) :
    getAcceleration chk (negProfile mp) t = (getAcceleration chk mp t).map Quantity.neg :=
  mirror_acceleration_of_laws negLaws_exact chk mp t

theorem mirror_velocity (chk : Bool) (mp : MotionProfile F) (hwf : WF chk mp) (t : Int) :
    getVelocity chk (negProfile mp) t = (getVelocity chk mp t).map (Option.map Quantity.neg) :=
  mirror_velocity_of_laws negLaws_exact chk mp hwf t

theorem mirror_position (chk : Bool) (mp : MotionProfile F) (hwf : WF chk mp) (t : Int) :
    getPosition chk (negProfile mp) t = (getPosition chk mp t).map (Option.map Quantity.neg) :=
  mirror_position_of_laws negLaws_exact chk mp hwf t

theorem mirror_history (chk : Bool) (mp : MotionProfile F) (hwf : WF chk mp) (t : Int) :
    historyGet chk (negProfile mp) t =
      (historyGet chk mp t).map (Option.map (fun d => ⟨d.time, Command.neg d.value⟩)) :=
  mirror_history_of_laws negLaws_exact chk mp hwf t

end R

/-! ## non-vacuity and the counterexample at `start.position = end.position` -/
section Examples
open Rrtk.Thm.C06 in
/-- the test-suite profile 0 → 3 mm over `ℚ` (from `C06.new_example`): all hypotheses used above are satisfiable -/
def mpQ : MotionProfile ℚ :=
  ⟨⟨0, MILLIMETER true⟩, ⟨0, MILLIMETER_PER_SECOND true⟩, 10000000000, 30000000000, 40000000000,
    ⟨1/100, MILLIMETER_PER_SECOND_SQUARED true⟩, .position 3⟩

example : MotionProfile.new true (⟨0, 0, 0⟩ : State ℚ) ⟨3, 0, 0⟩ ⟨1/10, ⟨1, -1⟩⟩ ⟨1/100, ⟨1, -2⟩⟩ = .ok mpQ :=
  C06.new_example
example : WF true mpQ := ⟨rfl, rfl, rfl⟩
example : 0 ≤ mpQ.t1 ∧ mpQ.t1 ≤ mpQ.t2 ∧ mpQ.t2 ≤ mpQ.t3 ∧ 0 < mpQ.t3 ∧ (2 : Int) ∣ mpQ.t1 := by
  simp only [mpQ]; refine ⟨by norm_num, by norm_num, by norm_num, by norm_num, by norm_num⟩
example : getPiece mpQ 5 = .initialAcceleration ∧ getPiece mpQ 7 = .initialAcceleration ∧
    getPiece mpQ 10000000000 = .constantVelocity ∧ getPiece mpQ 20000000000 = .constantVelocity ∧
    getPiece mpQ 30000000000 = .endAcceleration ∧ getPiece mpQ 35000000000 = .endAcceleration ∧
    getPiece mpQ 40000000000 = .complete := by decide
/-- the exactness hypotheses of the arrival theorems hold for this profile: 10 s, 30 s, 40 s are whole nanoseconds -/
example : (sec mpQ.t1 : ℚ) = 10 ∧ (sec mpQ.t2 : ℚ) = 30 ∧ (sec mpQ.t3 : ℚ) = 40 := by
  simp only [sec, mpQ]; norm_num
/-- the first three hypotheses of `accepted_when_room` at the same inputs (the room hypothesis: below) -/
example : (1/10 : ℚ) ≠ 0 ∧ (1/100 : ℚ) ≠ 0 ∧ |(0 : ℚ)| ≤ |(1/10 : ℚ)| := by norm_num

/-- the zero-displacement "move" of finding F5 and its mirror image -/
def sF5 : State ℚ := ⟨0, 1/10, 0⟩
def sF5m : State ℚ := ⟨0, -1/10, 0⟩
def mpF5 : MotionProfile ℚ :=
  ⟨⟨0, MILLIMETER false⟩, ⟨1/10, MILLIMETER_PER_SECOND false⟩, 0, 0, 0,
    ⟨1/100, MILLIMETER_PER_SECOND_SQUARED false⟩, .velocity (1/10)⟩
def mpF5m : MotionProfile ℚ :=
  ⟨⟨0, MILLIMETER false⟩, ⟨-1/10, MILLIMETER_PER_SECOND false⟩, 20000000000, 20000000000, 40000000000,
    ⟨1/100, MILLIMETER_PER_SECOND_SQUARED false⟩, .velocity (-1/10)⟩

private theorem sF5_neg : State.neg sF5 = sF5m := by simp [State.neg, sF5, sF5m]; norm_num

private theorem new_F5 (u u' : DUnit) : MotionProfile.new false sF5 sF5 ⟨1/10, u⟩ ⟨1/100, u'⟩ = .ok mpF5 := by
  -- the intermediate values and the three asserts are closed facts about rationals: evaluated
  rw [new_false, newSpec_of_values false sF5 sF5 (1/10) (1/100) (v := 1/10) (a := 1/100) (t1 := 0) (d3 := 0) (d2 := 0)
    (by decide +kernel) (by decide +kernel) (by decide +kernel) (by decide +kernel) (by decide +kernel)
    (by decide +kernel) (by decide +kernel) (by decide +kernel)]
  have hc : Command.ofState sF5 = .velocity (1/10) := by
    simp [Command.ofState, sF5, c0, FloatLike.ofInt]
  rw [hc]
  simp [mpF5, sF5, FloatLike.toInt]

private theorem new_F5m (u u' : DUnit) : MotionProfile.new false sF5m sF5m ⟨1/10, u⟩ ⟨1/100, u'⟩ = .ok mpF5m := by
  rw [new_false, newSpec_of_values false sF5m sF5m (1/10) (1/100) (v := 1/10) (a := 1/100) (t1 := 20) (d3 := 20) (d2 := 0)
    (by decide +kernel) (by decide +kernel) (by decide +kernel) (by decide +kernel) (by decide +kernel)
    (by decide +kernel) (by decide +kernel) (by decide +kernel)]
  have hc : Command.ofState sF5m = .velocity (-1/10) := by
    simp [Command.ofState, sF5m, c0, FloatLike.ofInt]
  have i1 : FloatLike.toInt ((20 : ℚ) * c1e9) = 20000000000 := by decide +kernel
  have i2 : FloatLike.toInt (((20 : ℚ) + 0) * c1e9) = 20000000000 := by decide +kernel
  have i3 : FloatLike.toInt (((20 : ℚ) + 0 + 20) * c1e9) = 40000000000 := by decide +kernel
  rw [hc, i1, i2, i3]
  rfl

/-- **the mirror clause fails at `start.position = end.position`** (finding F5). Start `(0 mm, +0.1 mm/s)` → end
`(0 mm, +0.1 mm/s)` with limits `0.1 mm/s`, `0.01 mm/s²` is accepted with `t1 = t2 = t3 = 0`; the mirrored input
`(0, −0.1) → (0, −0.1)` is accepted with `t1 = t2 = 20 s`, `t3 = 40 s`. So the mirrored profile is not the negation:
at `t = 5 s` the velocity is `+0.1` for the move and `−0.05` (not `−0.1`) for its mirror. -/
theorem mirror_fails_at_equal_positions :
    sF5.position = sF5.position ∧
    MotionProfile.new false sF5 sF5 ⟨1/10, ⟨0, 0⟩⟩ ⟨1/100, ⟨0, 0⟩⟩ = .ok mpF5 ∧
    MotionProfile.new false (State.neg sF5) (State.neg sF5) ⟨1/10, ⟨0, 0⟩⟩ ⟨1/100, ⟨0, 0⟩⟩ = .ok mpF5m ∧
    (mpF5.t1, mpF5.t2, mpF5.t3) = (0, 0, 0) ∧
    (mpF5m.t1, mpF5m.t2, mpF5m.t3) = (20000000000, 20000000000, 40000000000) ∧
    mpF5m.t3 ≠ (negProfile mpF5).t3 ∧
    getVelocity false mpF5 5000000000 = .ok (some ⟨1/10, MILLIMETER_PER_SECOND false⟩) ∧
    getVelocity false mpF5m 5000000000 = .ok (some ⟨-1/20, MILLIMETER_PER_SECOND false⟩) := by
  refine ⟨rfl, new_F5 _ _, ?_, rfl, rfl, by decide, ?_, ?_⟩
  · rw [sF5_neg]; exact new_F5m _ _
  · rfl
  · rw [((vel_closed_form false mpF5m ⟨rfl, rfl, rfl⟩ 5000000000).1 (by decide))]
    simp only [mpF5m, sec]; norm_num

/-- non-vacuity of `mirror_partial`: the 0 → 3 mm move has distinct end points and is accepted -/
example : (⟨0, 0, 0⟩ : State ℚ).position ≠ (⟨3, 0, 0⟩ : State ℚ).position := by norm_num

private theorem vals_Q :
    vMax (⟨0, 0, 0⟩ : State ℚ) ⟨3, 0, 0⟩ (1/10) = 1/10 ∧ aMax (⟨0, 0, 0⟩ : State ℚ) ⟨3, 0, 0⟩ (1/100) = 1/100 ∧
    T1 (⟨0, 0, 0⟩ : State ℚ) ⟨3, 0, 0⟩ (1/10) (1/100) = 10 ∧ D3 (⟨0, 0, 0⟩ : State ℚ) ⟨3, 0, 0⟩ (1/10) (1/100) = 10 ∧
    D2 (⟨0, 0, 0⟩ : State ℚ) ⟨3, 0, 0⟩ (1/10) (1/100) = 20 :=
  C06.vals_Q

/-- the hypotheses of `accepted_when_room` at the 0 → 3 mm move: both limits non-zero, `0.5 + 0.5 ≤ 3` -/
example :
    (1/10 : ℚ) ≠ 0 ∧ (1/100 : ℚ) ≠ 0 ∧ |(⟨0, 0, 0⟩ : State ℚ).velocity| ≤ |(1/10 : ℚ)| ∧ |(⟨3, 0, 0⟩ : State ℚ).velocity| ≤ |(1/10 : ℚ)| ∧
    |((⟨0, 0, 0⟩ : State ℚ).velocity + vMax (⟨0, 0, 0⟩ : State ℚ) ⟨3, 0, 0⟩ (1/10)) / 2 *
        T1 (⟨0, 0, 0⟩ : State ℚ) ⟨3, 0, 0⟩ (1/10) (1/100)| +
      |(vMax (⟨0, 0, 0⟩ : State ℚ) ⟨3, 0, 0⟩ (1/10) + (⟨3, 0, 0⟩ : State ℚ).velocity) / 2 *
        D3 (⟨0, 0, 0⟩ : State ℚ) ⟨3, 0, 0⟩ (1/10) (1/100)|
      ≤ |(⟨3, 0, 0⟩ : State ℚ).position - (⟨0, 0, 0⟩ : State ℚ).position| := by
  obtain ⟨hv, _, h1, h3, _⟩ := vals_Q
  rw [hv, h1, h3]
  norm_num

/-- the exactness hypotheses of `arrival_vel_partial` / `arrival_pos_partial` at the 0 → 3 mm move -/
private theorem exact_Q :
    (sec mpQ.t1 : ℚ) = T1 (⟨0, 0, 0⟩ : State ℚ) ⟨3, 0, 0⟩ (1/10) (1/100) ∧
    (sec mpQ.t2 : ℚ) = T2 (⟨0, 0, 0⟩ : State ℚ) ⟨3, 0, 0⟩ (1/10) (1/100) ∧
    (sec mpQ.t3 : ℚ) = T3 (⟨0, 0, 0⟩ : State ℚ) ⟨3, 0, 0⟩ (1/10) (1/100) ∧
    (sec mpQ.t3 : ℚ) - sec mpQ.t2 = D3 (⟨0, 0, 0⟩ : State ℚ) ⟨3, 0, 0⟩ (1/10) (1/100) := by decide +kernel

example :
    (sec mpQ.t1 : ℚ) = T1 (⟨0, 0, 0⟩ : State ℚ) ⟨3, 0, 0⟩ (1/10) (1/100) ∧
    (sec mpQ.t2 : ℚ) = T2 (⟨0, 0, 0⟩ : State ℚ) ⟨3, 0, 0⟩ (1/10) (1/100) ∧
    (sec mpQ.t3 : ℚ) = T3 (⟨0, 0, 0⟩ : State ℚ) ⟨3, 0, 0⟩ (1/10) (1/100) ∧
    (sec mpQ.t3 : ℚ) - sec mpQ.t2 = D3 (⟨0, 0, 0⟩ : State ℚ) ⟨3, 0, 0⟩ (1/10) (1/100) := exact_Q

/-- … and what the arrival theorems then give for it: the end-acceleration formulas reach `v = 0`, `p = 3` at `t3` -/
example : velF mpQ (mpQ.t1 + mpQ.t2 - mpQ.t3) = 0 ∧ pos3F mpQ mpQ.t3 = 3 := by
  obtain ⟨e1, e2, e3, e3'⟩ := exact_Q
  exact ⟨arrival_vel_partial true _ _ ⟨1/10, ⟨1, -1⟩⟩ ⟨1/100, ⟨1, -2⟩⟩ mpQ C06.new_example (by norm_num) e1 e3',
    arrival_pos_partial true _ _ ⟨1/10, ⟨1, -1⟩⟩ ⟨1/100, ⟨1, -2⟩⟩ mpQ C06.new_example (by norm_num) (by norm_num)
      (by simp only [mpQ]; norm_num) e1 e2 e3⟩

/-- an odd `t1` really breaks position continuity at `t1` (so the evenness hypothesis of `pos_cont_t1_partial`
cannot be dropped): `t1 = 1 ns`, `a = 1`: the two formulas differ by `1 ns · 0.5 ns` -/
example :
    pos2F (⟨⟨0, ⟨0, 0⟩⟩, ⟨0, ⟨0, 0⟩⟩, 1, 2, 3, ⟨1, ⟨0, 0⟩⟩, .position 0⟩ : MotionProfile ℚ) 1 -
    pos1F (⟨⟨0, ⟨0, 0⟩⟩, ⟨0, ⟨0, 0⟩⟩, 1, 2, 3, ⟨1, ⟨0, 0⟩⟩, .position 0⟩ : MotionProfile ℚ) 1 =
      1 / 1000000000 * (1 / 2000000000) := by
  have := pos_jump_t1_odd (⟨⟨0, ⟨0, 0⟩⟩, ⟨0, ⟨0, 0⟩⟩, 1, 2, 3, ⟨1, ⟨0, 0⟩⟩, .position 0⟩ : MotionProfile ℚ)
    (by norm_num) (by norm_num)
  rw [this]; simp only [sec]; norm_num

end Examples

end Rrtk.Thm.C07
