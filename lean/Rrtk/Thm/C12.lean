/-
C12 — moving-average and EWMA streams.  Tier S (any payload type) for what is structural: queue, weights in
nanoseconds, which formula, panics; tier R (exact field) for convexity, constants, first sample; tier L (the one law
`0 + x = x`) for the agreement of the f32 and Quantity moving averages.  The tier-S EWMA part and `runE` are in
`Lemmas/C12Ewma.lean`.
Clause labels in the comments — moving average, tier S: A1 no panic, A2 the queue after an update, A3/A4 the weights,
A5 error and absent events, A6 the output formula; B: EWMA, tier S; C1/C2: convexity of EWMA / moving average, tier R;
D: the variants agree.
A5 and B speak of one step; over a history, what absent and error events do to these two streams (an absent event can be
deleted, an error resets, no stale error) is C05's: `C05.ma_filterSim`, `C05.ma_reset` (`Thm/C05.lean`), `ma_absent_deletion`,
`ma_reset_erases_history`, `ma_no_stale_err` (`Thm/Ext/C05.lean`), `ewma_…` likewise.
Moving average: with `window > 0` the pushed sample survives the trim, so an update is an equation over `maWindow`
(`ma_step_present`); over a history the queue and the samples since the last error give the same window to every
later sample (`ma_run_window`); that history is sorted, so the window is a `filter` (`ma_last_step`), hence a
`WinQueue`, on which the weights facts and convexity rest.
Names: `…_f32` is the generic implementation at payload type `T = F` (what the crate runs at `f32`), whatever the scalar `F`;
binary32 rounding is `…_binary32` (`Lemmas/C12Rounding.lean`).
-/
import Rrtk.Streams.Stateful
import Rrtk.Thm.Lemmas.Exact
import Rrtk.Thm.Lemmas.C12Ewma
set_option linter.unusedSectionVars false
namespace Rrtk.Thm.C12
open Rrtk

def presentTimes {T : Type} : List (Output T) → List Int
  | [] => []
  | .ok (some d) :: es => d.time :: presentTimes es
  | .ok none :: es => presentTimes es
  | .error _ :: es => presentTimes es

/-- the histories the property quantifies over: timestamps of the present samples never decrease (repeats allowed) -/
def NonDecr {T : Type} (evs : List (Output T)) : Prop := (presentTimes evs).Pairwise (· ≤ ·)

/-- present samples since the last error event (what the moving average may still hold) -/
def sinceReset {T : Type} : List (Datum T) → List (Output T) → List (Datum T)
  | acc, [] => acc
  | acc, .ok (some d) :: es => sinceReset (acc ++ [d]) es
  | acc, .ok none :: es => sinceReset acc es
  | _, .error _ :: es => sinceReset [] es

theorem presentTimes_append {T : Type} (l₁ l₂ : List (Output T)) :
    presentTimes (l₁ ++ l₂) = presentTimes l₁ ++ presentTimes l₂ := by
  induction l₁ with
  | nil => rfl
  | cons e es ih =>
    match e with
    | .ok (some d) => exact congrArg (d.time :: ·) ih
    | .ok none => exact ih
    | .error _ => exact ih

theorem mem_presentTimes {T : Type} (evs : List (Output T)) (t : Int) :
    t ∈ presentTimes evs ↔ ∃ d, Except.ok (some d) ∈ evs ∧ d.time = t := by
  induction evs with
  | nil => exact ⟨fun h => (by cases h), fun ⟨_, h, _⟩ => (by cases h)⟩
  | cons e es ih =>
    match e with
    | .ok (some d) =>
      rw [presentTimes, List.mem_cons, ih]
      constructor
      · rintro (rfl | ⟨d', h, rfl⟩)
        · exact ⟨d, List.mem_cons_self, rfl⟩
        · exact ⟨d', List.mem_cons_of_mem _ h, rfl⟩
      · rintro ⟨d', h, rfl⟩
        rcases List.mem_cons.1 h with h | h
        · cases h; exact .inl rfl
        · exact .inr ⟨d', h, rfl⟩
    | .ok none | .error _ =>
      -- not a present sample: nothing is added on either side
      exact ih.trans (exists_congr fun d => and_congr_left'
        (List.mem_cons.trans (or_iff_right (fun h => by cases h))).symm)

/-- The induction over a history that carries the samples since the last error along: a relation `R` between state
and that list which an error event establishes for `[]`, an absent event keeps, and a present sample not older
than the list extends to `acc ++ [o]`, holds at the end for `sinceReset acc evs`. -/
theorem runE_sinceReset {S T : Type} (step : S → Output T → Except Panic (S × UpdRet))
    (R : S → List (Datum T) → Prop)
    (herr : ∀ s e r, step s (.error e) = .ok r → R r.1 [])
    (habs : ∀ s acc r, R s acc → step s (.ok none) = .ok r → R r.1 acc)
    (hpres : ∀ s acc o r, R s acc → (∀ d ∈ acc, d.time ≤ o.time) → step s (.ok (some o)) = .ok r →
      R r.1 (acc ++ [o]))
    (evs : List (Output T)) (s s' : S) (acc : List (Datum T))
    (hmono : (acc.map (·.time) ++ presentTimes evs).Pairwise (· ≤ ·)) (h0 : R s acc)
    (hrun : runE step s evs = .ok s') : R s' (sinceReset acc evs) := by
  induction evs generalizing s acc with
  | nil => cases hrun; exact h0
  | cons e es ih =>
    obtain ⟨r, hstep, hrest⟩ := runE_cons_ok ((runE_eq _ _ _).symm.trans hrun)
    rw [← runE_eq] at hrest
    match e with
    | .error _ => exact ih r.1 [] (List.pairwise_append.1 hmono).2.1 (herr s _ r hstep) hrest
    | .ok none => exact ih r.1 acc hmono (habs s acc r h0 hstep) hrest
    | .ok (some o) =>
      have hle : ∀ d ∈ acc, d.time ≤ o.time := fun d hd =>
        (List.pairwise_append.1 hmono).2.2 _ (List.mem_map_of_mem hd) _ List.mem_cons_self
      exact ih r.1 (acc ++ [o]) (by simpa [presentTimes] using hmono) (hpres s acc o r h0 hle hstep) hrest

section S
variable {F : Type}
/-! `F` enters the moving average only through `secs` (`Div`, `FloatLike`): the block `Window` assumes no more of it, and its
lemmas are used from tier S and tier R alike.  The block `AllClasses` after it states five theorems under the full list of
scalar classes, as the files of the other streams do throughout. -/
section Window
variable [Div F] [FloatLike F] {T : Type}

def Sorted (q : List (Datum T)) : Prop := q.Pairwise (fun a b => a.time ≤ b.time)

/-- what the queue looks like right after the present sample `o` has been processed -/
def WinQueue (window : Int) (o : Datum T) (q : List (Datum T)) : Prop :=
  q ≠ [] ∧ Sorted q ∧ (∀ d ∈ q, o.time - window < d.time ∧ d.time ≤ o.time) ∧ ∃ q', q = q' ++ [o]

/-- the pairs `(value_i, weight_i in f32 seconds)` the accumulation loop runs over -/
def maTerms (cut : Int) (q : List (Datum T)) : List (T × F) :=
  (q.map (·.value)).zip ((Ma.weightsNs cut q).map (fun n => (secs n : F)))

/-- the window as a non-incremental function: push, then drop the front while it is not newer than the cut -/
def maWindow (window : Int) (queue : List (Datum T)) (o : Datum T) : List (Datum T) :=
  (queue ++ [o]).dropWhile (fun d => decide (d.time ≤ o.time - window))

theorem trim_eq_dropWhile (cut : Int) (l : List (Datum T)) :
    Ma.trim cut l = match l.dropWhile (fun d => decide (d.time ≤ cut)) with
      | [] => .error .oob
      | d :: ds => .ok (d :: ds) := by
  induction l with
  | nil => rfl
  | cons d ds ih =>
    simp only [Ma.trim, List.dropWhile_cons]
    by_cases h : d.time ≤ cut
    · simp [h, ih]
    · simp [h]

/-- with a positive window the pushed sample survives the trim -/
theorem maWindow_eq (window : Int) (hw : 0 < window) (queue : List (Datum T)) (o : Datum T) :
    maWindow window queue o = queue.dropWhile (fun d => decide (d.time ≤ o.time - window)) ++ [o] := by
  have ho : ¬ o.time ≤ o.time - window := by omega
  rw [maWindow, List.dropWhile_append]
  split
  next h => rw [List.isEmpty_iff.1 h, List.dropWhile_cons_of_neg (by simpa using ho)]; rfl
  next => rfl

theorem trim_snoc (window : Int) (hw : 0 < window) (queue : List (Datum T)) (o : Datum T) :
    Ma.trim (o.time - window) (queue ++ [o]) = .ok (maWindow window queue o) := by
  rw [trim_eq_dropWhile, ← maWindow, maWindow_eq window hw]
  split
  next h => exact absurd h (by simp)
  next h => rw [h]

theorem forall_mem_maWindow (window : Int) (hw : 0 < window) (queue : List (Datum T)) (o : Datum T)
    (P : Datum T → Prop) (hq : ∀ d ∈ queue, P d) (ho : P o) : ∀ d ∈ maWindow window queue o, P d := by
  intro d hd
  rw [maWindow_eq window hw, List.mem_append, List.mem_singleton] at hd
  rcases hd with hd | rfl
  · exact hq d ((List.dropWhile_sublist _).mem hd)
  · exact ho

theorem sorted_dropWhile_eq_filter (c : Int) (l : List (Datum T)) (hs : Sorted l) :
    l.dropWhile (fun d => decide (d.time ≤ c)) = l.filter (fun d => decide (c < d.time)) := by
  induction l with
  | nil => rfl
  | cons x xs ih =>
    obtain ⟨hx_le, hxs⟩ := List.pairwise_cons.1 hs
    by_cases hx : x.time ≤ c
    · rw [List.dropWhile_cons_of_pos (by simpa using hx), List.filter_cons_of_neg (by simpa using hx), ih hxs]
    · -- sorted: what follows `x` is newer than `c` as well, so the filter keeps all of it
      rw [List.dropWhile_cons_of_neg (by simpa using hx), List.filter_cons_of_pos (by simpa using hx),
        List.filter_eq_self.2 fun d hd => decide_eq_true (by have := hx_le d hd; omega)]

theorem winQueue_filter (window : Int) (hw : 0 < window) (h : List (Datum T)) (o : Datum T)
    (hs : Sorted (h ++ [o])) :
    WinQueue window o ((h ++ [o]).filter (fun d => decide (o.time - window < d.time))) := by
  have he : (h ++ [o]).filter (fun d => decide (o.time - window < d.time)) =
      h.filter (fun d => decide (o.time - window < d.time)) ++ [o] := by
    rw [List.filter_append, List.filter_cons_of_pos (p := fun d : Datum T => decide (o.time - window < d.time))
      (decide_eq_true (by omega : o.time - window < o.time))]; rfl
  refine ⟨he ▸ List.append_ne_nil_of_right_ne_nil _ (List.cons_ne_nil _ _), hs.filter _, fun d hd => ?_, _, he⟩
  obtain ⟨hd, hc⟩ := List.mem_filter.1 hd
  refine ⟨of_decide_eq_true hc, ?_⟩
  rcases List.mem_append.1 hd with hd | hd
  · exact (List.pairwise_append.1 hs).2.2 d hd o (List.mem_singleton_self o)
  · rw [List.mem_singleton.1 hd]

/-- **A2, one update**: pushing a sample not older than anything in a sorted queue and trimming leaves a `WinQueue` -/
theorem winQueue_maWindow (window : Int) (hw : 0 < window) (q : List (Datum T)) (o : Datum T)
    (hsort : Sorted q) (hle : ∀ d ∈ q, d.time ≤ o.time) : WinQueue window o (maWindow window q o) := by
  have hS : Sorted (q ++ [o]) := List.pairwise_append.2 ⟨hsort, List.pairwise_singleton _ _, fun a ha b hb => by
    rw [List.mem_singleton.1 hb]; exact hle a ha⟩
  rw [maWindow, sorted_dropWhile_eq_filter _ _ hS]
  exact winQueue_filter window hw q o hS

theorem dropWhile_dropWhile_append {α : Type} (p p' : α → Bool) (hpp : ∀ x, p x = true → p' x = true)
    (l m : List α) : (l.dropWhile p ++ m).dropWhile p' = (l ++ m).dropWhile p' := by
  induction l with
  | nil => rfl
  | cons x xs ih =>
    by_cases hx : p x = true
    · rw [List.dropWhile_cons_of_pos hx, ih, List.cons_append, List.dropWhile_cons_of_pos (hpp x hx)]
    · rw [List.dropWhile_cons_of_neg hx]

theorem maWindow_maWindow (window : Int) (h : List (Datum T)) (o o' : Datum T) (hoo : o.time ≤ o'.time) :
    maWindow window (maWindow window h o) o' = maWindow window (h ++ [o]) o' :=
  dropWhile_dropWhile_append _ _ (fun d hd => by simp only [decide_eq_true_eq] at hd ⊢; omega) _ _

/-- no condition on `window` (the variants theorem has none); with `window > 0` see `ma_step_present` -/
theorem ma_step_present_iff (scale : T → F → T) (add : T → T → Except Panic T) (fin : T → F → T)
    (zero : Option T) (window : Int) (s : MaS T) (o : Datum T) (r : MaS T × UpdRet) :
    Ma.step scale add fin zero window s (.ok (some o)) = .ok r ↔
      ∃ q v, Ma.trim (o.time - window) (s.queue ++ [o]) = .ok q ∧
        Ma.accumulate scale add zero (maTerms (o.time - window) q) = .ok (some v) ∧
        r = (⟨.ok (some ⟨o.time, fin v (secs window)⟩), q⟩, .ok ()) := by
  constructor
  · intro h
    rw [Ma.step] at h
    split at h
    · cases h
    next q ht =>
      simp only at h
      split at h
      · cases h
      · cases h
      next v hacc => cases h; exact ⟨q, v, ht, hacc, rfl⟩
  · rintro ⟨q, v, ht, hacc, rfl⟩
    rw [maTerms] at hacc
    simp only [Ma.step, ht, hacc]

theorem ma_step_present (scale : T → F → T) (add : T → T → Except Panic T) (fin : T → F → T)
    (zero : Option T) (window : Int) (hw : 0 < window) (s : MaS T) (o : Datum T) :
    Ma.step scale add fin zero window s (.ok (some o)) =
      match Ma.accumulate scale add zero (maTerms (o.time - window) (maWindow window s.queue o)) with
      | .error p => .error p
      | .ok none => .error .oob
      | .ok (some v) => .ok (⟨.ok (some ⟨o.time, fin v (secs window)⟩), maWindow window s.queue o⟩, .ok ()) := by
  simp only [Ma.step, trim_snoc window hw, maTerms]
  rfl

theorem ma_step_present_of_ok (scale : T → F → T) (add : T → T → Except Panic T) (fin : T → F → T)
    (zero : Option T) (window : Int) (hw : 0 < window) (s : MaS T) (o : Datum T) (r : MaS T × UpdRet)
    (h : Ma.step scale add fin zero window s (.ok (some o)) = .ok r) :
    ∃ v, Ma.accumulate scale add zero (maTerms (o.time - window) (maWindow window s.queue o)) = .ok (some v) ∧
      r = (⟨.ok (some ⟨o.time, fin v (secs window)⟩), maWindow window s.queue o⟩, .ok ()) := by
  obtain ⟨q, v, ht, hacc, rfl⟩ := (ma_step_present_iff scale add fin zero window s o r).1 h
  rw [trim_snoc window hw] at ht
  cases ht
  exact ⟨v, hacc, rfl⟩

/-- `Pacc`: a class containing the start value and all terms, on which `add` is total and closed; without a start
value there must be a first term to start from -/
theorem accumulate_some (scale : T → F → T) (add : T → T → Except Panic T) (Pacc : T → Prop)
    (ha : ∀ a b, Pacc a → Pacc b → ∃ c, add a b = .ok c ∧ Pacc c)
    (zero : Option T) (hz : ∀ z, zero = some z → Pacc z) (l : List (T × F)) (hne : zero = none → l ≠ [])
    (hl : ∀ p ∈ l, Pacc (scale p.1 p.2)) :
    ∃ v, Ma.accumulate scale add zero l = .ok (some v) ∧ Pacc v := by
  induction l generalizing zero with
  | nil =>
    cases zero with
    | none => exact absurd rfl (hne rfl)
    | some z => exact ⟨z, rfl, hz z rfl⟩
  | cons p rest ih =>
    obtain ⟨v, w⟩ := p
    have hvw : Pacc (scale v w) := hl (v, w) List.mem_cons_self
    have hrest : ∀ p ∈ rest, Pacc (scale p.1 p.2) := fun p hp => hl p (List.mem_cons_of_mem _ hp)
    -- either way the loop goes on from `some _`
    cases zero with
    | none => exact ih (some (scale v w)) (fun z h => by cases h; exact hvw) (fun h => by cases h) hrest
    | some z =>
      obtain ⟨c, hc, pc⟩ := ha z (scale v w) (hz z rfl) hvw
      simp only [Ma.accumulate, hc]
      exact ih (some c) (fun z h => by cases h; exact pc) (fun h => by cases h) hrest

theorem ma_weights_length (cut : Int) (q : List (Datum T)) : (Ma.weightsNs cut q).length = q.length := by
  induction q generalizing cut with
  | nil => rfl
  | cons d ds ih => simp [Ma.weightsNs, ih]

theorem maTerms_ne_nil (cut : Int) (q : List (Datum T)) (h : q ≠ []) : (maTerms (F := F) cut q) ≠ [] := by
  cases q with
  | nil => exact absurd rfl h
  | cons d ds => simp [maTerms, Ma.weightsNs]

theorem mem_maTerms (cut : Int) (q : List (Datum T)) (p : T × F) (h : p ∈ maTerms (F := F) cut q) :
    ∃ d ∈ q, p.1 = d.value := by
  have h1 := (List.of_mem_zip h).1
  obtain ⟨d, hd, e⟩ := List.mem_map.1 h1
  exact ⟨d, hd, e.symm⟩

theorem maTerms_eq (cut : Int) (q : List (Datum T)) :
    (maTerms (F := F) cut q).map Prod.fst = q.map (·.value) ∧
    (maTerms (F := F) cut q).map Prod.snd = (Ma.weightsNs cut q).map (fun n => (secs n : F)) := by
  have hl : (q.map (·.value)).length = ((Ma.weightsNs cut q).map (fun n => (secs n : F))).length := by
    rw [List.length_map, List.length_map, ma_weights_length]
  exact ⟨List.map_fst_zip hl.le, List.map_snd_zip hl.ge⟩

/-- A5, absent event: `update` returns `Ok(())`, the queue is untouched, the value is untouched except that a
cached error becomes `Ok(None)` -/
theorem ma_absent_event (scale : T → F → T) (add : T → T → Except Panic T) (fin : T → F → T)
    (zero : Option T) (window : Int) (s : MaS T) :
    Ma.step scale add fin zero window s (.ok none) =
      .ok (⟨match s.value with | .error _ => .ok none | .ok v => .ok v, s.queue⟩, .ok ()) := by
  obtain ⟨v, q⟩ := s
  cases v <;> rfl

/-- One update on a present sample never panics, whatever the previous queue (sorted or not).  `Pin`: a class
containing the sample values; `Pacc`: a class containing the scaled terms, on which `add` is total and closed (for
f32: everything). -/
theorem ma_step_present_ok (scale : T → F → T) (add : T → T → Except Panic T) (fin : T → F → T)
    (zero : Option T) (window : Int) (hw : 0 < window) (Pin Pacc : T → Prop)
    (hs : ∀ v w, Pin v → Pacc (scale v w))
    (ha : ∀ a b, Pacc a → Pacc b → ∃ c, add a b = .ok c ∧ Pacc c)
    (hz : ∀ z, zero = some z → Pacc z)
    (s : MaS T) (o : Datum T) (hq : ∀ d ∈ s.queue, Pin d.value) (ho : Pin o.value) :
    ∃ v, Ma.accumulate scale add zero (maTerms (o.time - window) (maWindow window s.queue o)) = .ok (some v) ∧
      Ma.step scale add fin zero window s (.ok (some o)) =
        .ok (⟨.ok (some ⟨o.time, fin v (secs window)⟩), maWindow window s.queue o⟩, .ok ()) := by
  obtain ⟨v, hv, _⟩ := accumulate_some scale add Pacc ha zero hz
    (maTerms (o.time - window) (maWindow window s.queue o))
    (fun _ => maTerms_ne_nil _ _ (by rw [maWindow_eq window hw]; simp))
    (fun p hp => by
      obtain ⟨d, hd, e⟩ := mem_maTerms _ _ p hp
      rw [e]
      exact hs _ _ (forall_mem_maWindow window hw _ o (fun d => Pin d.value) hq ho d hd))
  exact ⟨v, hv, by rw [ma_step_present scale add fin zero window hw, hv]⟩

theorem ma_step_ok (scale : T → F → T) (add : T → T → Except Panic T) (fin : T → F → T)
    (zero : Option T) (window : Int) (hw : 0 < window) (Pin Pacc : T → Prop)
    (hs : ∀ v w, Pin v → Pacc (scale v w))
    (ha : ∀ a b, Pacc a → Pacc b → ∃ c, add a b = .ok c ∧ Pacc c)
    (hz : ∀ z, zero = some z → Pacc z)
    (s : MaS T) (e : Output T) (hq : ∀ d ∈ s.queue, Pin d.value) (he : ∀ d, e = .ok (some d) → Pin d.value) :
    ∃ r, Ma.step scale add fin zero window s e = .ok r ∧ ∀ d ∈ r.1.queue, Pin d.value := by
  match e with
  | .error _ => exact ⟨_, rfl, fun d hd => by cases hd⟩
  | .ok none => exact ⟨_, ma_absent_event .., hq⟩
  | .ok (some o) =>
    obtain ⟨v, _, h⟩ := ma_step_present_ok scale add fin zero window hw Pin Pacc hs ha hz s o hq (he o rfl)
    exact ⟨_, h, forall_mem_maWindow window hw _ o (fun d => Pin d.value) hq (he o rfl)⟩

/-- **A1**: no moving-average update panics, for every history (timestamps need not even be monotone) and every
`window > 0`, whenever `add` cannot fail on the terms (`Pin`/`Pacc` as above). -/
theorem ma_no_panic_closed (scale : T → F → T) (add : T → T → Except Panic T) (fin : T → F → T)
    (zero : Option T) (window : Int) (hw : 0 < window) (Pin Pacc : T → Prop)
    (hs : ∀ v w, Pin v → Pacc (scale v w))
    (ha : ∀ a b, Pacc a → Pacc b → ∃ c, add a b = .ok c ∧ Pacc c)
    (hz : ∀ z, zero = some z → Pacc z)
    (evs : List (Output T)) (hin : ∀ d, Except.ok (some d) ∈ evs → Pin d.value)
    (s : MaS T) (hq : ∀ d ∈ s.queue, Pin d.value) :
    ∃ s', runE (Ma.step scale add fin zero window) s evs = .ok s' := by
  obtain ⟨s', h, _⟩ := runE_inv _ (fun s : MaS T => ∀ d ∈ s.queue, Pin d.value)
    (fun e => ∀ d, e = .ok (some d) → Pin d.value)
    (fun s e => ma_step_ok scale add fin zero window hw Pin Pacc hs ha hz s e) s hq evs
    (fun e he d hd => hin d (hd ▸ he))
  exact ⟨s', (runE_eq _ _ _).trans h⟩

/-- A1 for the Quantity instantiation: all samples carry the same unit `u` -/
theorem ma_no_panic_quantity [Add F] [Mul F] (chk : Bool) (window : Int) (hw : 0 < window) (u : DUnit)
    (evs : List (Output (Quantity F))) (hin : ∀ d, Except.ok (some d) ∈ evs → d.value.unit = u) :
    ∃ s', runE (Ma.step (scaleQs chk) (Quantity.add chk) (divQs chk) none window) Ma.init evs = .ok s' := by
  refine ma_no_panic_closed (scaleQs chk) (Quantity.add chk) (divQs chk) none window hw
    (fun q => q.unit = u) (fun q => q.unit = DUnit.mul chk u (SECOND chk)) ?_ ?_ (fun _ h => by cases h)
    evs hin Ma.init (fun _ h => by cases h)
  · intro v w hv
    simp only [scaleQs, Quantity.mul_unit, hv]
  · intro a b pa pb
    exact ⟨_, Quantity.add_of_units (fun _ => pa.trans pb.symm), pa⟩

theorem weightsNs_nonneg (cut : Int) (q : List (Datum T)) (hs : Sorted q) (hc : ∀ d ∈ q, cut ≤ d.time) :
    ∀ w ∈ Ma.weightsNs cut q, 0 ≤ w := by
  induction q generalizing cut with
  | nil => intro w hw; cases hw
  | cons d ds ih =>
    intro w hw
    simp only [Ma.weightsNs, List.mem_cons] at hw
    have hp := List.pairwise_cons.1 hs
    rcases hw with hw | hw
    · have := hc d (List.mem_cons_self ..); omega
    · exact ih d.time hp.2 hp.1 w hw

/-- the time-in-window each sample covers: `t_i − t_{i−1}` with `t_0 = cut`; the sum telescopes -/
theorem weights_sum_snoc (cut : Int) (q' : List (Datum T)) (o : Datum T) :
    (Ma.weightsNs cut (q' ++ [o])).sum = o.time - cut := by
  induction q' generalizing cut with
  | nil => simp [Ma.weightsNs]
  | cons d ds ih =>
    simp only [List.cons_append, Ma.weightsNs, List.sum_cons, ih]
    omega

/-- **A3**: all weights are non-negative, the first one is strictly positive -/
theorem ma_weights_nonneg (window : Int) (o : Datum T) (q : List (Datum T)) (h : WinQueue window o q) :
    (∀ w ∈ Ma.weightsNs (o.time - window) q, 0 ≤ w) ∧
    (∃ w ws, Ma.weightsNs (o.time - window) q = w :: ws ∧ 0 < w) := by
  obtain ⟨hne, hs, hr, _⟩ := h
  refine ⟨weightsNs_nonneg _ q hs (fun d hd => Int.le_of_lt (hr d hd).1), ?_⟩
  cases q with
  | nil => exact absurd rfl hne
  | cons d ds =>
    refine ⟨_, _, rfl, ?_⟩
    have := (hr d (List.mem_cons_self ..)).1
    omega

/-- **A4**: the weights sum to the window length EXACTLY -/
theorem ma_weights_sum_window (window : Int) (o : Datum T) (q : List (Datum T)) (h : WinQueue window o q) :
    (Ma.weightsNs (o.time - window) q).sum = window := by
  obtain ⟨_, _, _, q', rfl⟩ := h
  rw [weights_sum_snoc]
  omega

/-- consequently every weight lies in `[0, window]`: the `i64` subtractions `end_times[i] - start_times[i]`
cannot overflow; the only subtraction that can is `output.time - window` itself (see the scope note at the end of this file) -/
theorem ma_weights_le_window (window : Int) (o : Datum T) (q : List (Datum T)) (h : WinQueue window o q) :
    ∀ w ∈ Ma.weightsNs (o.time - window) q, 0 ≤ w ∧ w ≤ window := by
  intro w hw
  have h1 := (ma_weights_nonneg window o q h).1
  have h2 := List.single_le_sum h1 w hw
  rw [ma_weights_sum_window window o q h] at h2
  exact ⟨h1 w hw, h2⟩

/-- `Σ value_i * w_i` summed in queue order with a pure `plus`, from `zero` (generic impl) or from the first
term (Quantity impl) -/
def maSum (scale : T → F → T) (plus : T → T → T) : Option T → List (T × F) → Option T
  | some z, l => some (l.foldl (fun a p => plus a (scale p.1 p.2)) z)
  | none, [] => none
  | none, p :: rest => some (rest.foldl (fun a p => plus a (scale p.1 p.2)) (scale p.1 p.2))

theorem accumulate_eq_maSum (scale : T → F → T) (add : T → T → Except Panic T) (plus : T → T → T)
    (hadd : ∀ a b, add a b = .ok (plus a b)) (zero : Option T) (l : List (T × F)) :
    Ma.accumulate scale add zero l = .ok (maSum scale plus zero l) := by
  induction l generalizing zero with
  | nil => cases zero <;> rfl
  | cons p rest ih =>
    obtain ⟨v, w⟩ := p
    cases zero with
    | none => exact ih (some (scale v w))
    | some z =>
      simp only [Ma.accumulate, hadd]
      exact ih (some (plus z (scale v w)))

theorem sinceReset_append (acc : List (Datum T)) (l₁ l₂ : List (Output T)) :
    sinceReset acc (l₁ ++ l₂) = sinceReset (sinceReset acc l₁) l₂ := by
  induction l₁ generalizing acc with
  | nil => rfl
  | cons e es ih =>
    match e with
    | .ok (some d) => exact ih _
    | .ok none => exact ih _
    | .error _ => exact ih _

theorem sorted_sinceReset (acc : List (Datum T)) (evs : List (Output T))
    (hmono : (acc.map (·.time) ++ presentTimes evs).Pairwise (· ≤ ·)) : Sorted (sinceReset acc evs) := by
  induction evs generalizing acc with
  | nil => rw [presentTimes, List.append_nil] at hmono; exact List.pairwise_map.1 hmono
  | cons e es ih =>
    match e with
    | .ok (some d) => exact ih _ (by simpa [presentTimes] using hmono)
    | .ok none => exact ih _ hmono
    | .error _ => exact ih [] (List.pairwise_append.1 hmono).2.1

/-- The queue is as good as the whole history since the last error: both give the same window to every later
sample (what was trimmed for an earlier sample would be trimmed for a later one).  Needs no sortedness. -/
theorem ma_run_window (scale : T → F → T) (add : T → T → Except Panic T) (fin : T → F → T)
    (zero : Option T) (window : Int) (hw : 0 < window) (evs : List (Output T)) (s s' : MaS T)
    (hrun : runE (Ma.step scale add fin zero window) s evs = .ok s') (acc : List (Datum T))
    (hmono : (acc.map (·.time) ++ presentTimes evs).Pairwise (· ≤ ·))
    (hinv : ∀ o, (∀ d ∈ acc, d.time ≤ o.time) → maWindow window s.queue o = maWindow window acc o) :
    ∀ o, (∀ d ∈ sinceReset acc evs, d.time ≤ o.time) →
      maWindow window s'.queue o = maWindow window (sinceReset acc evs) o :=
  runE_sinceReset _
    (fun s acc => ∀ o, (∀ d ∈ acc, d.time ≤ o.time) → maWindow window s.queue o = maWindow window acc o)
    (fun s e r h => by cases h; exact fun o _ => rfl)
    (fun s acc r h0 h => by rw [ma_absent_event] at h; cases h; exact h0)
    (fun s acc o r h0 hle h o' ho' => by
      obtain ⟨v, _, rfl⟩ := ma_step_present_of_ok scale add fin zero window hw s o r h
      rw [h0 o hle]
      exact maWindow_maWindow window acc o o' (ho' o (List.mem_append_right _ List.mem_cons_self)))
    evs s s' acc hmono hinv hrun

/-- **The window is what the property says** (with it **A2, every history**): after a non-decreasing history `pre` followed
by a present sample `o`, if nothing panicked, the value is the accumulated sum over the queue, and the queue holds exactly the
samples received since the last error event (including `o`) that are newer than `o.time − window`, in arrival order: it is
non-empty, sorted, inside `(o.time − window, o.time]`, and ends with `o`.  No assumption on `add`. -/
theorem ma_last_step {scale : T → F → T} {add : T → T → Except Panic T} {fin : T → F → T}
    {zero : Option T} {window : Int} (hw : 0 < window) {pre : List (Output T)} {o : Datum T}
    (hmono : NonDecr (pre ++ [.ok (some o)])) {s : MaS T}
    (hrun : runE (Ma.step scale add fin zero window) Ma.init (pre ++ [.ok (some o)]) = .ok s) :
    ∃ v, s.value = .ok (some ⟨o.time, fin v (secs window)⟩) ∧
      Ma.accumulate scale add zero (maTerms (o.time - window) s.queue) = .ok (some v) ∧
      s.queue = (sinceReset [] pre ++ [o]).filter (fun d => decide (o.time - window < d.time)) ∧
      WinQueue window o s.queue := by
  have hS : Sorted (sinceReset [] pre ++ [o]) := by
    have := sorted_sinceReset [] _ hmono
    rwa [sinceReset_append] at this
  have hpre : (presentTimes pre ++ presentTimes [.ok (some o)]).Pairwise (· ≤ ·) := presentTimes_append pre _ ▸ hmono
  obtain ⟨s1, r, h1, hstep, rfl⟩ := runE_concat_ok ((runE_eq _ _ _).symm.trans hrun)
  obtain ⟨v, hacc, rfl⟩ := ma_step_present_of_ok scale add fin zero window hw s1 o r hstep
  -- the queue before the last update and the samples since the last error give `o` the same window
  have hwin : maWindow window s1.queue o = maWindow window (sinceReset [] pre) o :=
    ma_run_window scale add fin zero window hw pre Ma.init s1 ((runE_eq _ _ _).trans h1) (acc := [])
      (hmono := (List.pairwise_append.1 hpre).1) (hinv := fun _ _ => rfl) o
      fun d hd => (List.pairwise_append.1 hS).2.2 d hd o (List.mem_singleton_self o)
  have hq := hwin.trans (sorted_dropWhile_eq_filter _ _ hS)
  exact ⟨v, rfl, hacc, hq, hq ▸ winQueue_filter window hw _ o hS⟩
end Window

section AllClasses
variable [Add F] [Sub F] [Mul F] [Div F] [Neg F] [LT F] [LE F] [BEq F]
  [DecidableLT F] [DecidableLE F] [FloatLike F] {T : Type}
/-- A5, error event: the error is cached and returned by both `update` and `get`, the queue is emptied -/
theorem ma_error_event (scale : T → F → T) (add : T → T → Except Panic T) (fin : T → F → T)
    (zero : Option T) (window : Int) (s : MaS T) (e : Err) :
    Ma.step scale add fin zero window s (.error e) = .ok (⟨.error e, []⟩, .error e) ∧
    Ma.get (⟨.error e, []⟩ : MaS T) = .error e := ⟨rfl, rfl⟩

theorem ma_absent_event_ok (scale : T → F → T) (add : T → T → Except Panic T) (fin : T → F → T)
    (zero : Option T) (window : Int) (s : MaS T) (v : Option (Datum T)) (h : s.value = .ok v) :
    Ma.step scale add fin zero window s (.ok none) = .ok (s, .ok ()) := by
  obtain ⟨v', q⟩ := s
  cases h
  rfl

/-- A1, f32 shape: `add` never fails. -/
theorem ma_no_panic (scale : T → F → T) (add : T → T → Except Panic T) (fin : T → F → T)
    (zero : Option T) (window : Int) (hw : 0 < window) (hadd : ∀ a b, ∃ c, add a b = .ok c)
    (evs : List (Output T)) :
    ∃ s', runE (Ma.step scale add fin zero window) Ma.init evs = .ok s' :=
  ma_no_panic_closed scale add fin zero window hw (fun _ => True) (fun _ => True) (fun _ _ _ => trivial)
    (fun a b _ _ => (hadd a b).imp fun _ hc => ⟨hc, trivial⟩) (fun _ _ => trivial)
    evs (fun _ _ => trivial) Ma.init (fun _ _ => trivial)

/-- A1 for the f32 instantiation used by the driver -/
theorem ma_no_panic_f32 (window : Int) (hw : 0 < window) (evs : List (Output F)) :
    ∃ s', runE (Ma.step scaleF addF divF (some (c0 : F)) window) Ma.init evs = .ok s' :=
  ma_no_panic scaleF addF divF _ window hw (fun a b => ⟨a + b, rfl⟩) evs

/-- **A6**: on a present sample `o` (any previous state, `window > 0`) the new queue is the non-incremental
`maWindow` (push, drop the front while `time ≤ o.time − window`) and the new value is
`fin (Σ_in order scale v_i (secs w_i)) (secs window)` at time `o.time`; `update` returns `Ok(())`. -/
theorem ma_output_formula (scale : T → F → T) (add : T → T → Except Panic T) (plus : T → T → T)
    (fin : T → F → T) (zero : Option T) (window : Int) (hw : 0 < window)
    (hadd : ∀ a b, add a b = .ok (plus a b)) (s : MaS T) (o : Datum T) :
    ∃ v, maSum scale plus zero (maTerms (o.time - window) (maWindow window s.queue o)) = some v ∧
      Ma.step scale add fin zero window s (.ok (some o)) =
        .ok (⟨.ok (some ⟨o.time, fin v (secs window)⟩), maWindow window s.queue o⟩, .ok ()) := by
  obtain ⟨v, hacc, hstep⟩ := ma_step_present_ok scale add fin zero window hw (fun _ => True) (fun _ => True)
    (fun _ _ _ => trivial) (fun a b _ _ => ⟨plus a b, hadd a b, trivial⟩) (fun _ _ => trivial) s o
    (fun _ _ => trivial) trivial
  rw [accumulate_eq_maSum scale add plus hadd] at hacc
  exact ⟨v, Except.ok.inj hacc, hstep⟩

end AllClasses
end S

section R
variable {F : Type} [Field F] [LinearOrder F] [IsStrictOrderedRing F] [FloatLike F] [ExactScalar F]

theorem secs_zero : (secs 0 : F) = 0 := (secs_eq 0).trans sec_zero
theorem secs_add (a b : Int) : (secs (a + b) : F) = secs a + secs b := by
  rw [secs_eq, secs_eq, secs_eq, sec_add]
theorem secs_pos (n : Int) (h : 0 < n) : (0 : F) < secs n := by
  rw [secs_eq]
  exact sec_pos h
theorem secs_nonneg (n : Int) (h : 0 ≤ n) : (0 : F) ≤ secs n := by
  rcases h.eq_or_lt with rfl | h
  · exact secs_zero.ge
  · exact (secs_pos n h).le

theorem sum_map_secs (l : List Int) : (l.map (fun n => (secs n : F))).sum = secs l.sum := by
  induction l with
  | nil => simp [secs_zero]
  | cons x xs ih => simp only [List.map_cons, List.sum_cons, ih, secs_add]

def wsumR (l : List (F × F)) : F := (l.map (fun p => p.1 * p.2)).sum

theorem foldl_eq_sum (l : List (F × F)) (a : F) :
    l.foldl (fun a p => a + scaleF p.1 p.2) a = a + wsumR l := by
  induction l generalizing a with
  | nil => simp [wsumR]
  | cons p rest ih =>
    rw [List.foldl_cons, ih]
    simp only [wsumR, List.map_cons, List.sum_cons, scaleF]
    exact add_assoc _ _ _

/-- the generic impl's loop (`T::default()` then `+=`) computes `Σ v_i·w_i` (uses `0 + x = x`) -/
theorem accumulate_f32_eq (l : List (F × F)) :
    Ma.accumulate scaleF addF (some (c0 : F)) l = .ok (some (wsumR l)) := by
  rw [accumulate_eq_maSum scaleF addF (· + ·) (fun _ _ => rfl)]
  simp only [maSum, foldl_eq_sum, c0_eq, zero_add]

omit [FloatLike F] [ExactScalar F] in
/-- Weighted sums with weights `≥ 0` and values in `[lo, hi]`, for any way `v`, `w` of reading value and weight off
the entries (`Lemmas/C12Rounding.lean` reads them off pairs of binary32 numbers); the last bound is the one a
rounding analysis needs. -/
theorem wsum_bounds {α : Type} (l : List α) (v w : α → F) (lo hi : F) (hw : ∀ a ∈ l, 0 ≤ w a)
    (hv : ∀ a ∈ l, lo ≤ v a ∧ v a ≤ hi) :
    0 ≤ (l.map w).sum ∧ lo * (l.map w).sum ≤ (l.map fun a => v a * w a).sum ∧
      (l.map fun a => v a * w a).sum ≤ hi * (l.map w).sum ∧
      (l.map fun a => |v a * w a|).sum ≤ max |lo| |hi| * (l.map w).sum := by
  induction l with
  | nil => simp
  | cons a rest ih =>
    obtain ⟨h0, h1, h2, h3⟩ := ih (fun a ha => hw a (List.mem_cons_of_mem _ ha))
      (fun a ha => hv a (List.mem_cons_of_mem _ ha))
    have hp := hw a List.mem_cons_self
    obtain ⟨hl, hh⟩ := hv a List.mem_cons_self
    have habs : |v a * w a| ≤ max |lo| |hi| * w a := by
      rw [abs_mul, abs_of_nonneg hp]
      exact mul_le_mul_of_nonneg_right (abs_le_max_abs_abs hl hh) hp
    simp only [List.map_cons, List.sum_cons, mul_add]
    exact ⟨add_nonneg hp h0, add_le_add (mul_le_mul_of_nonneg_right hl hp) h1,
      add_le_add (mul_le_mul_of_nonneg_right hh hp) h2, add_le_add habs h3⟩

theorem maTerms_weights (window : Int) (o : Datum F) (q : List (Datum F)) (h : WinQueue window o q) :
    (∀ p ∈ maTerms (F := F) (o.time - window) q, 0 ≤ p.2) ∧
    ((maTerms (F := F) (o.time - window) q).map Prod.snd).sum = secs window := by
  constructor
  · intro p hp
    have h2 := (List.of_mem_zip hp).2
    obtain ⟨n, hn, e⟩ := List.mem_map.1 h2
    rw [← e]
    exact secs_nonneg n ((ma_weights_nonneg window o q h).1 n hn)
  · rw [(maTerms_eq _ q).2, sum_map_secs, ma_weights_sum_window window o q h]

/-- **C2 core**: for a window queue, `(Σ v_i·w_i)/W` has `w_i ≥ 0`, `Σ w_i = W > 0`, hence lies between any bounds
of the samples in the window -/
theorem ma_value_convex (window : Int) (hw : 0 < window) (o : Datum F) (q : List (Datum F))
    (h : WinQueue window o q) (lo hi : F) (hb : ∀ d ∈ q, lo ≤ d.value ∧ d.value ≤ hi) :
    lo ≤ wsumR (maTerms (F := F) (o.time - window) q) / secs window ∧
    wsumR (maTerms (F := F) (o.time - window) q) / secs window ≤ hi := by
  obtain ⟨hw0, hsum⟩ := maTerms_weights window o q h
  have hW : (0 : F) < secs window := secs_pos window hw
  obtain ⟨_, h1, h2, _⟩ := wsum_bounds (maTerms (F := F) (o.time - window) q) Prod.fst Prod.snd lo hi hw0 (by
    intro p hp
    obtain ⟨d, hd, e⟩ := mem_maTerms _ _ p hp
    rw [e]; exact hb d hd)
  rw [hsum] at h1 h2
  exact ⟨(le_div_iff₀ hW).2 h1, (div_le_iff₀ hW).2 h2⟩

theorem ma_step_f32 (window : Int) (hw : 0 < window) (s : MaS F) (o : Datum F) :
    Ma.step scaleF addF divF (some (c0 : F)) window s (.ok (some o)) =
      .ok (⟨.ok (some ⟨o.time, wsumR (maTerms (o.time - window) (maWindow window s.queue o)) / secs window⟩),
        maWindow window s.queue o⟩, .ok ()) := by
  rw [ma_step_present scaleF addF divF _ window hw, accumulate_f32_eq]; rfl

/-- **C2, one update**: on a present sample not older than a sorted queue, the f32 moving average outputs
`(Σ v_i·w_i)/W` over the window and that number lies between the least and greatest sample in the window -/
theorem ma_convex (window : Int) (hw : 0 < window) (s : MaS F) (o : Datum F)
    (hsort : Sorted s.queue) (hle : ∀ d ∈ s.queue, d.time ≤ o.time) :
    ∃ x, Ma.step scaleF addF divF (some (c0 : F)) window s (.ok (some o)) =
        .ok (⟨.ok (some ⟨o.time, x⟩), maWindow window s.queue o⟩, .ok ()) ∧
      x = wsumR (maTerms (o.time - window) (maWindow window s.queue o)) / secs window ∧
      ∀ lo hi, (∀ d ∈ maWindow window s.queue o, lo ≤ d.value ∧ d.value ≤ hi) → lo ≤ x ∧ x ≤ hi :=
  ⟨_, ma_step_f32 window hw s o, rfl, fun lo hi hb =>
    ma_value_convex window hw o _ (winQueue_maWindow window hw _ o hsort hle) lo hi hb⟩

/-- **C2, every history**: after any non-decreasing history followed by a present sample `o`, the f32 moving
average holds a value at time `o.time` that lies between the least and the greatest of the samples received
since the last error whose timestamp is newer than `o.time − window` -/
theorem ma_convex_history (window : Int) (hw : 0 < window) (pre : List (Output F)) (o : Datum F)
    (hmono : NonDecr (pre ++ [.ok (some o)])) :
    ∃ s x, runE (Ma.step scaleF addF divF (some (c0 : F)) window) Ma.init (pre ++ [.ok (some o)]) = .ok s ∧
      Ma.get s = .ok (some ⟨o.time, x⟩) ∧
      s.queue = (sinceReset [] pre ++ [o]).filter (fun d => decide (o.time - window < d.time)) ∧
      x = wsumR (maTerms (o.time - window) s.queue) / secs window ∧
      ∀ lo hi, (∀ d ∈ sinceReset [] pre ++ [o], o.time - window < d.time → lo ≤ d.value ∧ d.value ≤ hi) →
        lo ≤ x ∧ x ≤ hi := by
  obtain ⟨s, hrun⟩ := ma_no_panic_f32 window hw (pre ++ [.ok (some o)])
  obtain ⟨v, hval, hacc, hq, hwq⟩ := ma_last_step hw hmono hrun
  rw [accumulate_f32_eq] at hacc
  cases hacc
  refine ⟨s, _, hrun, hval, hq, rfl, fun lo hi hb => ?_⟩
  refine ma_value_convex window hw o _ hwq lo hi ?_
  rw [hq]
  exact List.forall_mem_filter.2 fun d hd ht => hb d hd (of_decide_eq_true ht)

/-- **constant input ⇒ that constant** (every history: all samples in the window equal `c`) -/
theorem ma_constant (window : Int) (hw : 0 < window) (pre : List (Output F)) (o : Datum F) (c : F)
    (hmono : NonDecr (pre ++ [.ok (some o)]))
    (hc : ∀ d ∈ sinceReset [] pre ++ [o], o.time - window < d.time → d.value = c) :
    ∃ s, runE (Ma.step scaleF addF divF (some (c0 : F)) window) Ma.init (pre ++ [.ok (some o)]) = .ok s ∧
      Ma.get s = .ok (some ⟨o.time, c⟩) := by
  obtain ⟨s, x, hrun, hget, _, _, hb⟩ := ma_convex_history window hw pre o hmono
  obtain ⟨h1, h2⟩ := hb c c (fun d hd ht => by rw [hc d hd ht]; exact ⟨le_refl _, le_refl _⟩)
  have : x = c := le_antisymm h2 h1
  subst this
  exact ⟨s, hrun, hget⟩

/-- **the first sample is returned unchanged**: one update from an empty queue (initial state, after an
error event, after error-then-absent) outputs exactly the sample -/
theorem ma_first_sample (window : Int) (hw : 0 < window) (s : MaS F) (o : Datum F) (hq : s.queue = []) :
    Ma.step scaleF addF divF (some (c0 : F)) window s (.ok (some o)) =
      .ok (⟨.ok (some o), [o]⟩, .ok ()) := by
  have hwin : maWindow window s.queue o = [o] := by rw [maWindow_eq window hw, hq]; rfl
  -- a convex combination of the one sample in the window: bounded below and above by `o.value`
  obtain ⟨x, hstep, _, hb⟩ := ma_convex window hw s o (hq ▸ List.Pairwise.nil) (by rw [hq]; intro d hd; cases hd)
  rw [hwin] at hstep hb
  obtain ⟨h1, h2⟩ := hb o.value o.value (fun d hd => by rw [List.mem_singleton.1 hd]; exact ⟨le_rfl, le_rfl⟩)
  rw [le_antisymm h2 h1] at hstep
  exact hstep

theorem ewmaLambda_eq (smoothing : F) (dt : Int) :
    ewmaLambda smoothing dt = 1 - FloatLike.powf (1 - smoothing) (sec dt) := by
  rw [ewmaLambda, c1_eq, secs_eq]

theorem ewmaNext_f32 (smoothing pv : F) (dt : Int) (o : Datum F) :
    ewmaNext scaleF addF smoothing pv dt o =
      .ok (⟨.ok (some ⟨o.time, pv * (1 - ewmaLambda smoothing dt) + o.value * ewmaLambda smoothing dt⟩),
        some o.time⟩, .ok ()) := by
  simp only [ewmaNext, addF, scaleF, c1_eq]

theorem convex_bounds (a b L lo hi : F) (h0 : 0 ≤ L) (h1 : L ≤ 1)
    (ha : lo ≤ a ∧ a ≤ hi) (hb : lo ≤ b ∧ b ≤ hi) :
    lo ≤ a * (1 - L) + b * L ∧ a * (1 - L) + b * L ≤ hi := by
  have h := wsum_bounds [(a, 1 - L), (b, L)] Prod.fst Prod.snd lo hi
    (List.forall_mem_cons.2 ⟨sub_nonneg.2 h1, List.forall_mem_singleton.2 h0⟩)
    (List.forall_mem_cons.2 ⟨ha, List.forall_mem_singleton.2 hb⟩)
  simp only [List.map_cons, List.map_nil, List.sum_cons, List.sum_nil, add_zero, sub_add_cancel, mul_one] at h
  exact ⟨h.2.1, h.2.2.1⟩

theorem ewmaLambda_mem (smoothing : F) (h0 : 0 ≤ smoothing) (h1 : smoothing ≤ 1)
    (hpr : ∀ b d : F, 0 ≤ b → b ≤ 1 → 0 ≤ d → 0 ≤ FloatLike.powf b d ∧ FloatLike.powf b d ≤ 1)
    (dt : Int) (hdt : 0 ≤ dt) : 0 ≤ ewmaLambda smoothing dt ∧ ewmaLambda smoothing dt ≤ 1 := by
  obtain ⟨hp0, hp1⟩ := hpr (1 - smoothing) (sec dt) (sub_nonneg.2 h1) (sub_le_self 1 h0)
    ((secs_nonneg dt hdt).trans_eq (secs_eq dt))
  rw [ewmaLambda_eq]
  exact ⟨sub_nonneg.2 hp1, sub_le_self 1 hp0⟩

/-- **C1, one update**: with `0 ≤ smoothing ≤ 1` and a sample not older than the previous one, the new value
is `prev·(1−L) + new·L` and lies between `min prev new` and `max prev new`.
`hpr` is the only fact about `powf` used: `b ∈ [0,1], d ≥ 0 ⇒ b^d ∈ [0,1]`. -/
theorem ewma_convex (smoothing : F) (h0 : 0 ≤ smoothing) (h1 : smoothing ≤ 1)
    (hpr : ∀ b d : F, 0 ≤ b → b ≤ 1 → 0 ≤ d → 0 ≤ FloatLike.powf b d ∧ FloatLike.powf b d ≤ 1)
    (s : EwmaS F) (o prev : Datum F) (tp : Int) (hv : s.value = .ok (some prev)) (ht : s.updateTime = some tp)
    (hmono : tp ≤ o.time) :
    ∃ x, Ewma.step scaleF addF smoothing s (.ok (some o)) = .ok (⟨.ok (some ⟨o.time, x⟩), some o.time⟩, .ok ()) ∧
      x = prev.value * (1 - ewmaLambda smoothing (o.time - tp)) + o.value * ewmaLambda smoothing (o.time - tp) ∧
      min prev.value o.value ≤ x ∧ x ≤ max prev.value o.value ∧
      ∀ lo hi, lo ≤ prev.value ∧ prev.value ≤ hi → lo ≤ o.value ∧ o.value ≤ hi → lo ≤ x ∧ x ≤ hi := by
  obtain ⟨hL0, hL1⟩ := ewmaLambda_mem smoothing h0 h1 hpr (o.time - tp) (by omega)
  have hgen := fun lo hi => convex_bounds prev.value o.value _ lo hi hL0 hL1
  have hmm := hgen _ _ ⟨min_le_left _ _, le_max_left _ _⟩ ⟨min_le_right _ _, le_max_right _ _⟩
  exact ⟨_, by rw [ewma_formula scaleF addF smoothing s o prev tp hv ht, ewmaNext_f32], rfl, hmm.1, hmm.2, hgen⟩

/-- **the first sample is returned unchanged** (state without value: initial, after an error, after
error-then-absent).  In exact arithmetic `o·(1−L) + o·L = o` for every `L`, so no fact about `powf` is needed;
with `hp0 : powf b 0 = 1` one even has `L = 0` (see `ewma_first_sample_lambda`). -/
theorem ewma_first_sample_unchanged (smoothing : F) (s : EwmaS F) (o : Datum F)
    (hv : ∀ v, s.value ≠ .ok (some v)) :
    Ewma.step scaleF addF smoothing s (.ok (some o)) = .ok (⟨.ok (some o), some o.time⟩, .ok ()) := by
  rw [ewma_first_sample scaleF addF smoothing s o hv, ewmaNext_f32, ← mul_add, sub_add_cancel, mul_one]

theorem ewma_first_sample_lambda (smoothing : F) (hp0 : ∀ b : F, FloatLike.powf b (0 : F) = 1) :
    ewmaLambda smoothing 0 = 0 := by
  simp only [ewmaLambda_eq, sec_zero, hp0, sub_self]

/-- **C1, every history**: for `0 ≤ smoothing ≤ 1` and non-decreasing timestamps, no update panics and the
value held at the end (if any) lies between the least and the greatest sample received since the last error -/
theorem ewma_convex_history (smoothing : F) (h0 : 0 ≤ smoothing) (h1 : smoothing ≤ 1)
    (hpr : ∀ b d : F, 0 ≤ b → b ≤ 1 → 0 ≤ d → 0 ≤ FloatLike.powf b d ∧ FloatLike.powf b d ≤ 1)
    (evs : List (Output F)) (hmono : NonDecr evs) :
    ∃ s', runE (Ewma.step scaleF addF smoothing) Ewma.init evs = .ok s' ∧
      ∀ v, Ewma.get s' = .ok (some v) →
        ∀ lo hi, (∀ d ∈ sinceReset [] evs, lo ≤ d.value ∧ d.value ≤ hi) → lo ≤ v.value ∧ v.value ≤ hi := by
  obtain ⟨s', hrun⟩ := ewma_no_panic_f32 smoothing evs
  -- a held value lies within every bound of the samples since the last error and carries the time of one of them
  have key := runE_sinceReset (Ewma.step scaleF addF smoothing)
    (fun s acc => EwmaInv s ∧ ∀ v, s.value = .ok (some v) →
      (∀ lo hi, (∀ d ∈ acc, lo ≤ d.value ∧ d.value ≤ hi) → lo ≤ v.value ∧ v.value ≤ hi) ∧
      ∃ d ∈ acc, d.time = v.time)
    (fun s e r h => by cases h; exact ⟨fun v h => (by cases h), fun v h => by cases h⟩)
    (fun s acc r hR h => by
      rw [ewma_absent_event] at h
      cases h
      obtain ⟨val, ut⟩ := s
      cases val with
      | error e => exact ⟨fun v h => (by cases h), fun v h => by cases h⟩
      | ok v => exact hR)
    (fun s acc o r ⟨hinv, hs⟩ hle h => by
      have ho : o ∈ acc ++ [o] := List.mem_append_right _ List.mem_cons_self
      -- either way the update holds some `x` bounded by whatever bounds `acc ++ [o]`
      obtain ⟨x, hx, hstep⟩ : ∃ x, (∀ lo hi, (∀ d ∈ acc ++ [o], lo ≤ d.value ∧ d.value ≤ hi) → lo ≤ x ∧ x ≤ hi) ∧
          Ewma.step scaleF addF smoothing s (.ok (some o)) =
            .ok (⟨.ok (some ⟨o.time, x⟩), some o.time⟩, .ok ()) := by
        by_cases hv : ∃ prev, s.value = .ok (some prev)
        · obtain ⟨prev, hv⟩ := hv
          obtain ⟨hs1, d, hd, hdt⟩ := hs prev hv
          obtain ⟨x, hstep, _, _, _, hgen⟩ := ewma_convex smoothing h0 h1 hpr s o prev prev.time hv (hinv prev hv)
            (hdt ▸ hle d hd)
          exact ⟨x, fun lo hi hb => hgen lo hi (hs1 lo hi fun d hd => hb d (List.mem_append_left _ hd)) (hb o ho),
            hstep⟩
        · exact ⟨o.value, fun lo hi hb => hb o ho,
            ewma_first_sample_unchanged smoothing s o fun v h => hv ⟨v, h⟩⟩
      cases h.symm.trans hstep
      exact ⟨fun v h => (by cases h; rfl), fun v h => by cases h; exact ⟨hx, o, ho, rfl⟩⟩)
    evs Ewma.init s' [] hmono ⟨ewma_init_inv, fun v h => by cases h⟩ hrun
  exact ⟨s', hrun, fun v hv => (key.2 v hv).1⟩

/-- **constant input ⇒ that constant** -/
theorem ewma_constant (smoothing : F) (h0 : 0 ≤ smoothing) (h1 : smoothing ≤ 1)
    (hpr : ∀ b d : F, 0 ≤ b → b ≤ 1 → 0 ≤ d → 0 ≤ FloatLike.powf b d ∧ FloatLike.powf b d ≤ 1)
    (evs : List (Output F)) (hmono : NonDecr evs) (c : F) (hc : ∀ d ∈ sinceReset [] evs, d.value = c) :
    ∃ s', runE (Ewma.step scaleF addF smoothing) Ewma.init evs = .ok s' ∧
      ∀ v, Ewma.get s' = .ok (some v) → v.value = c := by
  obtain ⟨s', hrun, hb⟩ := ewma_convex_history smoothing h0 h1 hpr evs hmono
  refine ⟨s', hrun, fun v hv => ?_⟩
  obtain ⟨a, b⟩ := hb v hv c c (fun d hd => by rw [hc d hd]; exact ⟨le_refl _, le_refl _⟩)
  exact le_antisymm b a

end R

section L
variable {F : Type} [Add F] [Sub F] [Mul F] [Div F] [Neg F] [LT F] [LE F] [BEq F]
  [DecidableLT F] [DecidableLE F] [FloatLike F]

def projD (d : Datum (Quantity F)) : Datum F := ⟨d.time, d.value.value⟩
def projOut : Output (Quantity F) → Output F
  | .error e => .error e
  | .ok none => .ok none
  | .ok (some d) => .ok (some (projD d))

def EwmaRel (sq : EwmaS (Quantity F)) (sf : EwmaS F) : Prop :=
  sf.value = projOut sq.value ∧ sf.updateTime = sq.updateTime

def MaRel (sq : MaS (Quantity F)) (sf : MaS F) : Prop :=
  sf.value = projOut sq.value ∧ sf.queue = sq.queue.map projD

theorem ewmaNext_agree (chk : Bool) (smoothing : F) (pv : Quantity F) (dt : Int) (o : Datum (Quantity F))
    (sq' : EwmaS (Quantity F)) (r : UpdRet)
    (h : ewmaNext (scaleQdl chk) (Quantity.add chk) smoothing pv dt o = .ok (sq', r)) :
    ∃ sf', ewmaNext scaleF addF smoothing pv.value dt (projD o) = .ok (sf', r) ∧ EwmaRel sq' sf' := by
  rw [ewmaNext] at h
  split at h
  · cases h
  next v ha =>
    cases h
    refine ⟨⟨.ok (some ⟨o.time, v.value⟩), some o.time⟩, ?_, rfl, rfl⟩
    rw [(Quantity.add_ok ha).1]
    rfl

/-- **D, EWMA, one update** (no law needed): from related states, if the Quantity update does not panic, the
f32 update on the raw numbers does not panic, returns the same `update` result and a related state -/
theorem ewma_variants_agree_step (chk : Bool) (smoothing : F) (sq : EwmaS (Quantity F)) (sf : EwmaS F)
    (inp : Output (Quantity F)) (hrel : EwmaRel sq sf) (sq' : EwmaS (Quantity F)) (r : UpdRet)
    (h : Ewma.step (scaleQdl chk) (Quantity.add chk) smoothing sq inp = .ok (sq', r)) :
    ∃ sf', Ewma.step scaleF addF smoothing sf (projOut inp) = .ok (sf', r) ∧ EwmaRel sq' sf' := by
  obtain ⟨vq, tq⟩ := sq
  obtain ⟨vf, tf⟩ := sf
  obtain ⟨rfl, rfl⟩ : vf = projOut vq ∧ tf = tq := hrel
  match inp, vq with
  | .error _, _ | .ok none, .error _ | .ok none, .ok none | .ok none, .ok (some _) =>
    cases h; exact ⟨_, rfl, rfl, rfl⟩
  | .ok (some o), .ok (some prev) =>
    cases tf with
    | none => cases h
    | some tp => exact ewmaNext_agree chk smoothing prev.value (o.time - tp) o sq' r h
  | .ok (some o), .ok none | .ok (some o), .error _ =>
    rw [ewma_first_sample _ _ smoothing _ o (fun v h => by cases h)] at h
    rw [show projOut (.ok (some o)) = .ok (some (projD o)) from rfl,
      ewma_first_sample scaleF addF smoothing _ (projD o) (fun v h => by cases h)]
    exact ewmaNext_agree chk smoothing o.value 0 o sq' r h

/-- **D, EWMA, every history**: as long as the Quantity stream does not panic, the f32 stream fed the raw
numbers does not panic either and holds the same numbers (value, timestamp, error) -/
theorem ewma_variants_agree (chk : Bool) (smoothing : F) (evs : List (Output (Quantity F)))
    (sq : EwmaS (Quantity F)) (sf : EwmaS F) (hrel : EwmaRel sq sf) (sq' : EwmaS (Quantity F))
    (h : runE (Ewma.step (scaleQdl chk) (Quantity.add chk) smoothing) sq evs = .ok sq') :
    ∃ sf', runE (Ewma.step scaleF addF smoothing) sf (evs.map projOut) = .ok sf' ∧ EwmaRel sq' sf' ∧
      Ewma.get sf' = projOut (Ewma.get sq') := by
  rw [runE_eq] at h
  obtain ⟨sf', h', hR⟩ := runE_sim _ _ projOut EwmaRel
    (fun s s' i t r hR hs => ewma_variants_agree_step chk smoothing s s' i hR t r hs) evs hrel h
  exact ⟨sf', (runE_eq _ _ _).trans h', hR, hR.1⟩

theorem ewma_init_rel : EwmaRel (Ewma.init : EwmaS (Quantity F)) (Ewma.init : EwmaS F) := ⟨rfl, rfl⟩

theorem trim_map (cut : Int) (l q : List (Datum (Quantity F))) (h : Ma.trim cut l = .ok q) :
    Ma.trim cut (l.map projD) = .ok (q.map projD) := by
  induction l with
  | nil => cases h
  | cons d ds ih =>
    rw [Ma.trim] at h
    rw [List.map_cons, Ma.trim]
    split at h
    next hd => rw [if_pos (show (projD d).time ≤ cut from hd)]; exact ih h
    next hd => cases h; rw [if_neg (show ¬ (projD d).time ≤ cut from hd)]; rfl

theorem weightsNs_map (cut : Int) (q : List (Datum (Quantity F))) :
    Ma.weightsNs cut (q.map projD) = Ma.weightsNs cut q := by
  induction q generalizing cut with
  | nil => rfl
  | cons d ds ih =>
    simp only [List.map_cons, Ma.weightsNs]
    rw [ih]
    rfl

theorem maTerms_map (cut : Int) (q : List (Datum (Quantity F))) :
    maTerms (F := F) cut (q.map projD) = (maTerms (F := F) cut q).map (fun p => (p.1.value, p.2)) := by
  simp only [maTerms, weightsNs_map]
  generalize (Ma.weightsNs cut q).map (fun n => (secs n : F)) = ws
  induction q generalizing ws with
  | nil => simp
  | cons d ds ih =>
    cases ws with
    | nil => simp
    | cons w ws =>
      simp only [List.map_cons, List.zip_cons_cons, ih ws]
      rfl

theorem accumulate_agree_some (chk : Bool) (l : List (Quantity F × F)) (a v : Quantity F)
    (h : Ma.accumulate (scaleQs chk) (Quantity.add chk) (some a) l = .ok (some v)) :
    Ma.accumulate scaleF addF (some a.value) (l.map (fun p => (p.1.value, p.2))) = .ok (some v.value) := by
  induction l generalizing a with
  | nil => cases h; rfl
  | cons p rest ih =>
    rw [Ma.accumulate] at h
    split at h
    · cases h
    next a' ha => have := ih a' h; rwa [(Quantity.add_ok ha).1] at this

/-- the Quantity impl starts from the first term, the generic impl from `0 +` the first term; `hzero` is proved for binary32
in `Thm/Ext/C12.lean` (`accumulate_agree_binary32`, `ma_variants_agree_binary32`) -/
theorem accumulate_agree (chk : Bool) (hzero : ∀ x : F, c0 + x = x) (l : List (Quantity F × F)) (v : Quantity F)
    (h : Ma.accumulate (scaleQs chk) (Quantity.add chk) none l = .ok (some v)) :
    Ma.accumulate scaleF addF (some (c0 : F)) (l.map (fun p => (p.1.value, p.2))) = .ok (some v.value) := by
  cases l with
  | nil => simp only [Ma.accumulate] at h; cases h
  | cons p rest =>
    obtain ⟨x, w⟩ := p
    simp only [Ma.accumulate] at h
    have := accumulate_agree_some chk rest _ v h
    simp only [List.map_cons, Ma.accumulate, addF, scaleF, hzero]
    exact this

/-- **D, moving average, one update** (law `hzero : 0 + x = x`): from related states, if the Quantity update
does not panic, the f32 update on the raw numbers returns the same `update` result and a related state -/
theorem ma_variants_agree_step (chk : Bool) (hzero : ∀ x : F, c0 + x = x) (window : Int)
    (sq : MaS (Quantity F)) (sf : MaS F) (inp : Output (Quantity F)) (hrel : MaRel sq sf)
    (sq' : MaS (Quantity F)) (r : UpdRet)
    (h : Ma.step (scaleQs chk) (Quantity.add chk) (divQs chk) none window sq inp = .ok (sq', r)) :
    ∃ sf', Ma.step scaleF addF divF (some (c0 : F)) window sf (projOut inp) = .ok (sf', r) ∧ MaRel sq' sf' := by
  obtain ⟨vq, qq⟩ := sq
  obtain ⟨vf, qf⟩ := sf
  obtain ⟨rfl, rfl⟩ : vf = projOut vq ∧ qf = qq.map projD := hrel
  match inp, vq with
  | .error _, _ | .ok none, .error _ | .ok none, .ok none | .ok none, .ok (some _) =>
    cases h; exact ⟨_, rfl, rfl, rfl⟩
  | .ok (some o), vq =>
    obtain ⟨q, v, ht, hacc, hr⟩ := (ma_step_present_iff _ _ _ _ window _ o _).1 h
    cases hr
    have ht' := trim_map (o.time - window) (qq ++ [o]) q ht
    rw [List.map_append] at ht'
    exact ⟨_, (ma_step_present_iff scaleF addF divF _ window _ (projD o) _).2 ⟨q.map projD, v.value, ht',
      by rw [maTerms_map]; exact accumulate_agree chk hzero _ v hacc, rfl⟩, rfl, rfl⟩

/-- **D, moving average, every history** -/
theorem ma_variants_agree (chk : Bool) (hzero : ∀ x : F, c0 + x = x) (window : Int)
    (evs : List (Output (Quantity F))) (sq : MaS (Quantity F)) (sf : MaS F) (hrel : MaRel sq sf)
    (sq' : MaS (Quantity F))
    (h : runE (Ma.step (scaleQs chk) (Quantity.add chk) (divQs chk) none window) sq evs = .ok sq') :
    ∃ sf', runE (Ma.step scaleF addF divF (some (c0 : F)) window) sf (evs.map projOut) = .ok sf' ∧
      MaRel sq' sf' ∧ Ma.get sf' = projOut (Ma.get sq') := by
  rw [runE_eq] at h
  obtain ⟨sf', h', hR⟩ := runE_sim _ _ projOut MaRel
    (fun s s' i t r hR hs => ma_variants_agree_step chk hzero window s s' i hR t r hs) evs hrel h
  exact ⟨sf', (runE_eq _ _ _).trans h', hR, hR.1⟩

theorem ma_init_rel : MaRel (Ma.init : MaS (Quantity F)) (Ma.init : MaS F) := ⟨rfl, rfl⟩

end L

/-! ## non-vacuity: concrete instances of the hypotheses (payloads in `ℚ` / `Int`) -/
section Examples

/-- a history with a repeated timestamp, an absent event, an error, an absent event after the error -/
def exEvs : List (Output ℚ) :=
  [.ok (some ⟨0, 1⟩), .ok none, .ok (some ⟨5, 3⟩), .error (.other 1), .ok none, .ok (some ⟨5, 2⟩), .ok (some ⟨7, 4⟩)]

example : NonDecr exEvs := by unfold NonDecr; decide
example : NonDecr ([.ok (some ⟨0, 1⟩), .ok none, .ok (some ⟨5, 3⟩), .error (.other 1), .ok none,
    .ok (some ⟨5, 2⟩)] ++ [(.ok (some ⟨7, 4⟩) : Output ℚ)]) := by unfold NonDecr; decide
/-- and fails for a decreasing one, so it is a real restriction -/
example : ¬ NonDecr [(.ok (some ⟨5, 1⟩) : Output ℚ), .ok (some ⟨4, 1⟩)] := by unfold NonDecr; decide
example : sinceReset [] exEvs = [⟨5, 2⟩, ⟨7, 4⟩] := rfl
example : presentTimes exEvs = [0, 5, 5, 7] := rfl

/-- the f32 moving average over `ℚ`, window 4 ns, on that history: the window after the last sample is
`[(5,2), (7,4)]`, weights 2 ns and 2 ns, output (2·2 + 4·2)/4 = 3 at time 7 -/
example : runE (Ma.step scaleF addF divF (some (c0 : ℚ)) 4) Ma.init exEvs =
    .ok ⟨.ok (some ⟨7, 3⟩), [⟨5, 2⟩, ⟨7, 4⟩]⟩ := by
  -- plain `rfl` stops at the irreducible `Rat` operations
  with_unfolding_all rfl

example : WinQueue 4 (⟨7, 4⟩ : Datum Int) [⟨5, 2⟩, ⟨7, 4⟩] :=
  ⟨List.cons_ne_nil _ _, by unfold Sorted; decide, by decide, [⟨5, 2⟩], rfl⟩
example : Ma.weightsNs (7 - 4) [(⟨5, 2⟩ : Datum Int), ⟨7, 4⟩] = [2, 2] := rfl
example : WinQueue 4 (⟨7, 4⟩ : Datum Int) [⟨4, 9⟩, ⟨5, 2⟩, ⟨7, 4⟩] :=
  ⟨List.cons_ne_nil _ _, by unfold Sorted; decide, by decide, [⟨4, 9⟩, ⟨5, 2⟩], rfl⟩
example : Ma.weightsNs (7 - 4) [(⟨4, 9⟩ : Datum Int), ⟨5, 2⟩, ⟨7, 4⟩] = [1, 1, 2] := rfl

/-- the hypotheses of `ma_convex`: a sorted queue not newer than the sample -/
example : Sorted [(⟨4, 9⟩ : Datum ℚ), ⟨5, 2⟩] ∧ ∀ d ∈ [(⟨4, 9⟩ : Datum ℚ), ⟨5, 2⟩], d.time ≤ (⟨7, 4⟩ : Datum ℚ).time := by
  unfold Sorted; decide
example : maWindow 4 [(⟨3, 8⟩ : Datum ℚ), ⟨4, 9⟩, ⟨5, 2⟩] ⟨7, 4⟩ = [⟨4, 9⟩, ⟨5, 2⟩, ⟨7, 4⟩] := by decide

/-- the closure hypotheses `hs ha hz` / `hadd` are met by the two driver instantiations -/
example : ∀ a b : ℚ, addF a b = .ok (a + b) := fun _ _ => rfl
example : ∀ a b : ℚ, ∃ c, addF a b = .ok c := fun a b => ⟨a + b, rfl⟩
example (chk : Bool) (a b : Quantity ℚ) (h : a.unit = b.unit) :
    Quantity.add chk a b = .ok ⟨a.value + b.value, a.unit⟩ := Quantity.add_of_units (fun _ => h)
/-- same-unit hypothesis of `ma_no_panic_quantity` / `ewma_no_panic_quantity` -/
example : ∀ d, Except.ok (some d) ∈
    [(.ok (some ⟨0, ⟨1, ⟨1, 0⟩⟩⟩) : Output (Quantity ℚ)), .ok none, .error .fromNone, .ok (some ⟨3, ⟨2, ⟨1, 0⟩⟩⟩)] →
    d.value.unit = ⟨1, 0⟩ := by
  intro d hd
  simp at hd
  rcases hd with rfl | rfl <;> rfl

/-- EWMA state hypotheses (`ewma_formula`, `ewma_convex`): a held value with its update time -/
example : ((⟨.ok (some ⟨3, 10⟩), some 3⟩ : EwmaS ℚ).value = .ok (some ⟨3, 10⟩)) ∧
    ((⟨.ok (some ⟨3, 10⟩), some 3⟩ : EwmaS ℚ).updateTime = some 3) ∧ (3 : Int) ≤ 5 := ⟨rfl, rfl, by decide⟩
/-- no-value hypothesis of `ewma_first_sample(_unchanged)` -/
example : ∀ v, (Ewma.init : EwmaS ℚ).value ≠ .ok (some v) := fun v h => by cases h
example : ∀ v, ((⟨.error .fromNone, none⟩ : EwmaS ℚ)).value ≠ .ok (some v) := fun v h => by cases h
example : EwmaInv (⟨.ok (some ⟨3, 10⟩), some 3⟩ : EwmaS ℚ) := by
  intro v h; cases h; rfl
/-- smoothing in `[0,1]` and the `powf` facts hold for the exact-scalar instance on `ℚ` -/
example : (0 : ℚ) ≤ 1 / 4 ∧ (1 / 4 : ℚ) ≤ 1 := by norm_num
example : ∀ b : ℚ, FloatLike.powf b (0 : ℚ) = 1 := fun _ => rfl
example : ∀ b d : ℚ, 0 ≤ b → b ≤ 1 → 0 ≤ d → 0 ≤ FloatLike.powf b d ∧ FloatLike.powf b d ≤ 1 :=
  fun _ _ _ _ _ => ⟨zero_le_one, le_rfl⟩
/-- the law of tier L holds in `ℚ` -/
example : ∀ x : ℚ, c0 + x = x := zero_add
/-- related states (`EwmaRel`, `MaRel`) -/
example : EwmaRel (⟨.ok (some ⟨3, ⟨10, ⟨1, 0⟩⟩⟩), some 3⟩ : EwmaS (Quantity ℚ)) ⟨.ok (some ⟨3, 10⟩), some 3⟩ :=
  ⟨rfl, rfl⟩
example : MaRel (⟨.ok (some ⟨3, ⟨10, ⟨1, 1⟩⟩⟩), [⟨3, ⟨10, ⟨1, 0⟩⟩⟩]⟩ : MaS (Quantity ℚ)) ⟨.ok (some ⟨3, 10⟩), [⟨3, 10⟩]⟩ :=
  ⟨rfl, rfl⟩
/-- the Quantity moving average does run without panic on a same-unit history (hypothesis of `ma_variants_agree`, by which
it holds the number the f32 one computes from these two samples — 3, as above — in mm·s/s = mm) -/
example : ∃ s, runE (Ma.step (scaleQs true) (Quantity.add true) (divQs true) none 4) Ma.init
    [(.ok (some ⟨5, ⟨2, ⟨1, 0⟩⟩⟩) : Output (Quantity ℚ)), .ok (some ⟨7, ⟨4, ⟨1, 0⟩⟩⟩)] = .ok s :=
  ma_no_panic_quantity true 4 (by decide) ⟨1, 0⟩ _ (by
    intro d hd
    simp at hd
    rcases hd with rfl | rfl <;> rfl)

/-! ### scope of "no update panics": the model computes timestamps in unbounded `Int`

`output.time - self.window` and `output.time - prev_time` are `i64` subtractions (`impl Sub for Time`, unchecked
`self.0 - rhs.0`).  The model (`Ma.step`, `Ewma.step`) performs them in `Int`, so the no-panic theorems above do
not cover their overflow.  On the real code (debug build) `ss ma f 1 S@-9223372036854775808@1.0` and
`ss ewma f 0.5 S@-9223372036854775808@1.0 S@9223372036854775807@2.0` (non-decreasing timestamps, window 1 > 0)
panic with "attempt to subtract with overflow", whereas the model returns `ok`.  All other integer subtractions
of the moving average are covered: by `ma_weights_le_window` every `end_times[i] - start_times[i]` lies in
`[0, window]`. -/
example : I64.sub (-9223372036854775808) 1 = .error .overflow := rfl
example : I64.sub 9223372036854775807 (-9223372036854775808) = .error .overflow := rfl
example : ∃ s, runE (Ma.step scaleF addF divF (some (c0 : ℚ)) 1) Ma.init
    [.ok (some ⟨-9223372036854775808, 1⟩)] = .ok s := ma_no_panic_f32 1 (by decide) _

end Examples

end Rrtk.Thm.C12
